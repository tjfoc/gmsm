/-
C17 (and C18 for the last one): the statements that were FALSE for the unrepaired library, each with the
repair of pkcs12/pkcs12.go resp. x509/pkcs7.go that makes it true.

 * `Decode` on a bundle that `Encode` wrote with CA certificates returned the leaf's key with the LAST CA
   certificate and no error                                  -> `decode_never_another_certificate`
 * `ToPEM` refused every SM2 bundle                           -> Props.C17Key.topem_writes_inner_key / sm2_bundle_topem
 * SM2 SignedData naming (SM3, 1.2.156.10197.1.301.1) never verified -> `gmt0010_pair_accepted`, `gmt0010_signer_verifies`
 * `PKCS7Encrypt*` panicked on a recipient of the other key type     -> `encryptRecipients_iff`
 * segmented content was cut to its first segment              -> `contentOf_segments`
 * `ParsePKCS7` reported success for a SignedData that does not decode -> `parseSignedData_fails_closed`
-/
import Gmsm.Model.P12Bags
import Gmsm.Model.P7Parse
import Gmsm.Model.PKCS7
import Gmsm.Props.C17
namespace Props.C17Fix
open Gmsm

section Bags
open Gmsm.Model.P12Bags

/-- the certificates / the key bags of a bundle, in order -/
def certsOf : List Bag → List Cert
  | [] => []
  | .cert c :: rest => c :: certsOf rest
  | _ :: rest => certsOf rest

def keysOf : List Bag → List (Option Nat)
  | [] => []
  | .key k :: rest => k :: keysOf rest
  | _ :: rest => keysOf rest

theorem decodeLoop_ok (bags : List Bag) (k0 k : Option Nat) (c0 c : Option Cert)
    (h : decodeLoop bags k0 c0 = .ok (k, c)) :
    c0.toList ++ certsOf bags = c.toList ∧ k0.toList.map some ++ keysOf bags = k.toList.map some ∧
      (∀ x ∈ certsOf bags, x.stdReadable = true) := by
  induction bags generalizing k0 c0 with
  | nil =>
    simp only [decodeLoop, Except.ok.injEq, Prod.mk.injEq] at h
    obtain ⟨rfl, rfl⟩ := h
    simp [certsOf, keysOf]
  | cons b rest ih =>
    cases b with
    | cert x =>
      cases c0 with
      | some y => simp [decodeLoop] at h
      | none =>
        simp only [decodeLoop] at h
        by_cases hx : x.stdReadable = true
        · rw [if_pos hx] at h
          obtain ⟨h1, h2, h3⟩ := ih _ _ h
          refine ⟨by simpa [certsOf] using h1, by simpa [keysOf] using h2, ?_⟩
          intro z hz
          simp only [certsOf, List.mem_cons] at hz
          rcases hz with rfl | hz
          · exact hx
          · exact h3 z hz
        · rw [if_neg hx] at h
          simp at h
    | key kv =>
      cases k0 with
      | some y => simp [decodeLoop] at h
      | none =>
        cases kv with
        | none => simp [decodeLoop] at h
        | some v =>
          simp only [decodeLoop] at h
          obtain ⟨h1, h2, h3⟩ := ih _ _ h
          exact ⟨by simpa [certsOf] using h1, by simpa [keysOf] using h2, by simpa [certsOf] using h3⟩
    | other =>
      simp only [decodeLoop] at h
      obtain ⟨h1, h2, h3⟩ := ih _ _ h
      exact ⟨by simpa [certsOf] using h1, by simpa [keysOf] using h2, by simpa [certsOf] using h3⟩

/-- The repaired `Decode`, for every list of bags: when it returns a key and a certificate without error, the
    bundle holds exactly one certificate bag - the certificate returned - and exactly one key bag - the key
    returned.  It never picks one certificate out of several. -/
theorem decode_sound (bags : List Bag) (k : Nat) (c : Cert) (h : decode bags = .ok (k, c)) :
    certsOf bags = [c] ∧ keysOf bags = [some k] ∧ c.stdReadable = true := by
  unfold decode at h
  split at h
  · simp at h
  · simp at h
  · simp at h
  · rename_i k' c' hl
    simp only [Except.ok.injEq, Prod.mk.injEq] at h
    obtain ⟨rfl, rfl⟩ := h
    obtain ⟨h1, h2, h3⟩ := decodeLoop_ok bags none _ none _ hl
    simp only [Option.toList_none, List.nil_append, Option.toList_some, List.map_nil, List.map_cons] at h1 h2
    exact ⟨h1, h2, h3 _ (by rw [h1]; simp)⟩

theorem decodeLoop_cas (cas : List Cert) (tail : List Bag) (k0 : Option Nat) (x : Cert) (hne : cas ≠ []) :
    ∃ e, decodeLoop (cas.map .cert ++ tail) k0 (some x) = .error e := by
  cases cas with
  | nil => exact absurd rfl hne
  | cons a as => exact ⟨.twoCertBags, rfl⟩

theorem decode_encodeBags (key : Nat) (leaf : Cert) (cas : List Cert) :
    decode (encodeBags key leaf cas) =
      if leaf.stdReadable then (if cas = [] then .ok (key, leaf) else .error .twoCertBags) else .error .certParse := by
  by_cases hl : leaf.stdReadable = true
  · cases cas with
    | nil => simp [decode, encodeBags, decodeLoop, hl]
    | cons a as => simp [decode, encodeBags, decodeLoop, hl]
  · simp [decode, encodeBags, decodeLoop, hl]

/-- False before the repair, see `decodeOld_returns_last_ca`: whatever
    `Decode` returns without error for a bundle written by `Encode` is the key and the END-ENTITY certificate that
    went in; with CA certificates in the bundle there is no such answer. -/
theorem decode_never_another_certificate (key : Nat) (leaf : Cert) (cas : List Cert) (k : Nat) (c : Cert)
    (h : decode (encodeBags key leaf cas) = .ok (k, c)) : k = key ∧ c = leaf ∧ cas = [] := by
  rw [decode_encodeBags] at h
  split at h
  · split at h
    · rename_i hc
      simp only [Except.ok.injEq, Prod.mk.injEq] at h
      exact ⟨h.1.symm, h.2.symm, hc⟩
    · simp at h
  · simp at h

theorem decodeAllLoop_certs (cs : List Cert) (tail : List Bag) (k0 : Option Nat) (acc : List Cert) :
    decodeAllLoop (cs.map .cert ++ tail) k0 acc = decodeAllLoop tail k0 (acc ++ cs) := by
  induction cs generalizing acc with
  | nil => simp
  | cons c cs ih => simp [decodeAllLoop, ih]

/-- `DecodeAll` gives back the key and ALL certificates, the end-entity certificate
    first, the CA certificates in the order they were handed to `Encode`. -/
theorem decodeAll_encodeBags (key : Nat) (leaf : Cert) (cas : List Cert) :
    decodeAll (encodeBags key leaf cas) = .ok (key, leaf :: cas) := by
  simp [decodeAll, encodeBags, decodeAllLoop, decodeAllLoop_certs]

theorem toPEM_certs (cs : List Cert) (tail : List Bag) (bs : List Block) (h : toPEM tail = .ok bs) :
    toPEM (cs.map .cert ++ tail) = .ok (cs.map .certificate ++ bs) := by
  induction cs with
  | nil => simpa using h
  | cons c cs ih => simp [toPEM, ih]

/-- `ToPEM` gives one CERTIFICATE block per certificate, in order, and the PRIVATE KEY
    block last (the key block is what Props.C17Key.topem_writes_inner_key describes). -/
theorem toPEM_encodeBags (key : Nat) (leaf : Cert) (cas : List Cert) :
    toPEM (encodeBags key leaf cas) = .ok (.certificate leaf :: (cas.map .certificate ++ [.privateKey key])) := by
  have h := toPEM_certs (leaf :: cas) [.key (some key)] [.privateKey key] (by simp [toPEM])
  simpa [encodeBags] using h

/-- the loop of `Decode` BEFORE the repair: the two "expected exactly one" errors are assigned to a variable that
    the key bag overwrites, the later certificate replaces the earlier one -/
def decodeOldLoop : List Bag → Option Nat → Option Cert → Except Err (Option Nat × Option Cert)
  | [], k, c => .ok (k, c)
  | .cert c :: rest, k, _ => if c.stdReadable then decodeOldLoop rest k (some c) else .error .certParse
  | .key none :: _, _, _ => .error .keyDecode
  | .key (some v) :: rest, _, c => decodeOldLoop rest (some v) c
  | .other :: rest, k, c => decodeOldLoop rest k c

/-- the defect, as a statement about the old loop: for a bundle with CA certificates it ended with the key and the
    LAST CA certificate, no error -/
theorem decodeOld_returns_last_ca :
    decodeOldLoop (encodeBags 7 ⟨1, true⟩ [⟨2, true⟩, ⟨3, true⟩]) none none = .ok (some 7, some ⟨3, true⟩) := by rfl

example : decode (encodeBags 7 ⟨1, true⟩ []) = .ok (7, ⟨1, true⟩) := by rfl
example : decode (encodeBags 7 ⟨1, true⟩ [⟨2, true⟩, ⟨3, true⟩]) = .error .twoCertBags := by rfl
example : decode (encodeBags 7 ⟨1, false⟩ []) = .error .certParse := by rfl
example : decodeAll (encodeBags 7 ⟨1, false⟩ [⟨2, true⟩, ⟨3, true⟩]) = .ok (7, [⟨1, false⟩, ⟨2, true⟩, ⟨3, true⟩]) := by rfl
example : toPEM (encodeBags 7 ⟨1, false⟩ [⟨2, true⟩]) = .ok [.certificate ⟨1, false⟩, .certificate ⟨2, true⟩, .privateKey 7] := by rfl
example : decode [.key (some 1), .cert ⟨1, true⟩, .key (some 2)] = .error .twoKeyBags := by rfl

end Bags

section Pairs
open Model.PKCS7

/-- the decision of `verifySignature` on the two algorithm identifiers of a signer: the digest OID must name a
    hash and the pair (hash, digest-encryption OID) a signature algorithm.  For a signer whose certificate
    holds an SM2 key nothing else depends on them: `checkSignature` runs SM2-with-SM3 (default user id) for
    every algorithm of the table, the hash it selected is not used. -/
def pairAccepted (d : DigestOID) (e : EncOID) : Bool :=
  match getHashForOID d with
  | none => false
  | some h => (getSignatureAlgorithmByHash h e).isSome

/-- The whole table. -/
theorem pairAccepted_iff (d : DigestOID) (e : EncOID) :
    pairAccepted d e = true ↔
      ((d = .sm3 ∨ d = .sm3Arc) ∧ (e = .sm3WithSM2 ∨ e = .dsaSM2)) ∨
      (d = .sha256 ∧ (e = .dsaSM2 ∨ e = .sha256WithRSA ∨ e = .rsaEncryption)) ∨
      (d = .sha1 ∧ (e = .sha1WithRSA ∨ e = .rsaEncryption)) := by
  cases d <;> cases e <;> decide

/-- False before the repair: the pair GM/T 0010 prescribes - SM3 digest (either of
    the two OIDs in use), signature algorithm 1.2.156.10197.1.301.1 - names SM2-with-SM3; so does the pair with
    the SM3-with-SM2 OID, and so does the pair the package's own `AddSigner` writes (SHA-1, sha1WithRSA). -/
theorem gmt0010_pair_accepted :
    getSignatureAlgorithmByHash .sm3 .dsaSM2 = some .sm2WithSM3 ∧
    pairAccepted .sm3 .dsaSM2 = true ∧ pairAccepted .sm3Arc .dsaSM2 = true ∧
    pairAccepted .sm3 .sm3WithSM2 = true ∧ pairAccepted .sm3Arc .sm3WithSM2 = true ∧
    pairAccepted .sha1 .sha1WithRSA = true := by decide

/-- A signer that names (SM3, 301.1), whose certificate is in the container and
    whose signature - checked as SM2-with-SM3 under the certified key - covers the content (no signed
    attributes) resp. the DER SET of signed attributes whose message-digest attribute is the SM3 digest of
    the content, is accepted. -/
theorem gmt0010_signer_verifies (P : Prims) (content : Bytes) (certs : List Cert) (s : Signer) (c : Cert)
    (hd : s.digestAlg = .sm3 ∨ s.digestAlg = .sm3Arc) (he : s.encAlg = .dsaSM2)
    (hc : findCert certs s.ias = some c)
    (hs : (s.attrs = [] ∧ P.check c.key .sm2WithSM3 content s.sig = true) ∨
          (s.attrs ≠ [] ∧ messageDigestOf s.attrs = some (P.hash .sm3 content) ∧
            P.check c.key .sm2WithSM3 (P.derAttrs s.attrs) s.sig = true)) :
    verifySigner P content certs s = .ok () := by
  rw [Props.C17.verify_signer_iff]
  refine ⟨.sm3, c, .sm2WithSM3, ?_, hc, ?_, hs⟩
  · rcases hd with h | h <;> rw [h] <;> rfl
  · rw [he]; rfl

-- non-vacuity: the ideal signature scheme of the driver's `p7v` op
def toyP : Prims where
  hash _ c := 3 :: c
  derAttrs as := as.flatMap fun a => a.value
  check k _ signed sig := sig = BitVec.ofNat 8 k :: signed

example : verifySigner toyP [1, 2] [⟨⟨[9], 950⟩, 0⟩] ⟨⟨[9], 950⟩, .sm3, [], .dsaSM2, [0, 1, 2]⟩ = .ok () := by rfl
example : verifySigner toyP [1, 2] [⟨⟨[9], 950⟩, 0⟩] ⟨⟨[9], 950⟩, .sm3Arc, [⟨true, [3, 1, 2]⟩], .dsaSM2, [0, 3, 1, 2]⟩ = .ok () := by rfl
example : verifySigner toyP [1, 2] [⟨⟨[9], 950⟩, 0⟩] ⟨⟨[9], 950⟩, .sm3, [], .dsaSM2, [1, 1, 2]⟩ = .error .badSignature := by rfl
example : pairAccepted .sm3 .sha1WithRSA = false := by decide

end Pairs

section Recipients
open Gmsm.Model.P7Parse

/-- `PKCS7Encrypt` / `PKCS7EncryptSM2` write an envelope exactly when every recipient
    certificate holds a key of the entry point's kind; otherwise the answer is ErrPKCS7UnsupportedAlgorithm -
    an error value, for every list of recipients (the function is total: there is no panic). -/
theorem encryptRecipients_iff (api : Api) (ks : List KeyKind) :
    encryptRecipients api ks = true ↔ ∀ k ∈ ks, k = api.wants := by
  induction ks with
  | nil => simp [encryptRecipients]
  | cons k ks ih =>
    by_cases hk : k = api.wants
    · simp [encryptRecipients, encryptKey, hk, ih]
    · simp [encryptRecipients, encryptKey, hk]

inductive Outcome | written | unsupported | panic
deriving DecidableEq, Repr

/-- the recipient loop BEFORE the repair: `recipient.PublicKey.(*rsa.PublicKey)` without the `, ok` form panics on
    any other dynamic type -/
def encryptRecipientsOld (api : Api) : List KeyKind → Outcome
  | [] => .written
  | k :: rest => if k = api.wants then encryptRecipientsOld api rest else .panic

/-- old and new agree wherever the old code did not panic -/
theorem encryptRecipientsOld_agrees (api : Api) (ks : List KeyKind) (h : encryptRecipientsOld api ks ≠ .panic) :
    encryptRecipientsOld api ks = .written ∧ encryptRecipients api ks = true := by
  induction ks with
  | nil => exact ⟨rfl, rfl⟩
  | cons k ks ih =>
    by_cases hk : k = api.wants
    · simp only [encryptRecipientsOld, hk, if_true] at h ⊢
      have := ih h
      exact ⟨this.1, by simp [encryptRecipients, encryptKey, this.2]⟩
    · simp [encryptRecipientsOld, hk] at h

example : encryptRecipientsOld .rsa [.rsa, .ec] = .panic := by decide
example : encryptRecipients .rsa [.rsa, .ec] = false := by decide
example : encryptRecipients .sm2 [.ec, .ec, .ec] = true := by decide
example : encryptRecipients .sm2 [.rsa] = false := by decide

end Recipients

section Parse
open Gmsm.Model.P7Parse

theorem concatSegments_prims (bs : List Bytes) : concatSegments (bs.map .prim) = .ok bs.flatten := by
  induction bs with
  | nil => rfl
  | cons b bs ih => simp [concatSegments, ih]

/-- False before the repair, which returned the first segment: however the signer's
    content is cut into OCTET STRING segments, the `Content` of the parsed object is the whole content. -/
theorem contentOf_segments (c : Bytes) (segs : List Bytes) (h : segs.flatten = c) :
    contentOf (.constructed (segs.map .prim)) = .ok c := by
  rw [← h]; exact concatSegments_prims segs

/-- a member that is not a primitive OCTET STRING is an error, never skipped -/
theorem concatSegments_error (segs : List Segment) (h : Segment.notOctets ∈ segs) :
    concatSegments segs = .error .contentSegment := by
  induction segs with
  | nil => simp at h
  | cons s rest ih =>
    cases s with
    | notOctets => rfl
    | prim b =>
      have : Segment.notOctets ∈ rest := by simpa using h
      simp [concatSegments, ih this]

/-- C18; false before the repair: a SignedData body that `encoding/asn1` does
    not decode is an error of `ParsePKCS7`, whatever the decoder had filled in before it failed. -/
theorem parseSignedData_fails_closed (d : Decoded) (h : d.unmarshalOk = false) :
    parseSignedData d = .error .unmarshal := by
  simp [parseSignedData, h]

/-- An object comes back exactly when the body decoded, its certificates parsed and
    the content is absent, primitive, or made of primitive segments. -/
theorem parseSignedData_ok_iff (d : Decoded) (c : Bytes) :
    parseSignedData d = .ok c ↔ d.unmarshalOk = true ∧ d.certsOk = true ∧ contentOf d.content = .ok c := by
  unfold parseSignedData
  by_cases h1 : d.unmarshalOk = true
  · by_cases h2 : d.certsOk = true
    · simp [h1, h2]
    · simp [h1, h2]
  · simp [h1]

example : contentOf (.constructed [.prim [1, 2], .prim [3], .prim [4, 5]]) = .ok [1, 2, 3, 4, 5] := by rfl
example : contentOf (.constructed [.prim [1, 2], .notOctets]) = .error .contentSegment := by rfl
example : contentOf (.constructed []) = .ok [] := by rfl
example : parseSignedData ⟨false, true, .primitive [1]⟩ = .error .unmarshal := by rfl
example : parseSignedData ⟨true, true, .constructed [.prim [1], .prim [2]]⟩ = .ok [1, 2] := by rfl

end Parse
end Props.C17Fix
