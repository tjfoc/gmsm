/-
C06 — GMSSL/TLS handshakes agree on parameters (and then carry data intact).
Theorems about `Model.Negotiate` (mode dispatch, version, suite choice, client-certificate policy) over the
suite tables regenerated from gmtls (`Gen.TLS`).  The key schedule and record layer used for decoding real
connections are in `Spec.TLSPRF` / `Model.Record` (see Props.C07 for the record theorems).
-/
import Gmsm.Model.Negotiate
namespace Props.C06
open Model.Negotiate Model.Suites

/-- The regenerated tables are the ones the model was written against (a changed table breaks this
    obligation and must be looked at). -/
theorem tables_ok :
    Gen.TLS.gmCipherSuites.map (·.1) = [0xe013, 0xe053, 0xe011, 0xe051] ∧
    Gen.TLS.gmDefaultSuites = [0xe013, 0xe053, 0xe011, 0xe051] ∧
    (Gen.TLS.gmCipherSuites.filter (fun r => !r.2.1)).map (·.1) = [0xe013, 0xe053] ∧
    Gen.TLS.versionGMSSL = 0x0101 ∧ Gen.TLS.minVersion = 0x0101 ∧ Gen.TLS.maxVersion = 0x0303 ∧
    Gen.TLS.versionSSL30 = 0x0300 ∧ Gen.TLS.versionTLS12 = 0x0303 ∧
    tlsDefaultList.take 6 = [0xcca8, 0xcca9, 0xc02f, 0xc030, 0xc02b, 0xc02c] ∧
    (∀ s ∈ gmDefaultList, isTLS s = false) ∧ (∀ s ∈ tlsDefaultList, isGM s = false) := by decide

/-- The cipher-suite ids gmtls exports under "implemented by this package" (cipher_suites.go, the const block of
    TLS_… names; TLS_FALLBACK_SCSV is a signalling value, not a suite). -/
def exportedTLSSuites : List Suite :=
  [0x0005, 0x000a, 0x002f, 0x0035, 0x003c, 0x009c, 0x009d, 0xc007, 0xc009, 0xc00a, 0xc011, 0xc012, 0xc013, 0xc014,
   0xc023, 0xc027, 0xc02f, 0xc02b, 0xc030, 0xc02c, 0xcca8, 0xcca9]

/-- Every exported TLS suite has a row in the regenerated table, and a TLS 1.2 client and a TLS-capable server that
    are both configured with exactly that suite, the server holding a certificate of the kind the suite signs with,
    agree on it.  (As found, rows 0xc013 TLS_ECDHE_RSA_WITH_AES_128_CBC_SHA and 0xc027
    TLS_ECDHE_RSA_WITH_AES_128_CBC_SHA256 were missing from `cipherSuites`: a client configured with one of them
    sent an empty list and a server never selected them.) -/
theorem exported_suites_negotiable :
    ∀ s ∈ exportedTLSSuites, isTLS s = true ∧
      ∀ m ∈ [SMode.tls, SMode.auto], ∃ k ∈ [CertKind.rsa, CertKind.ec], negotiate ⟨m, .tls 0x0303, some [s], some [s], false, 0, 0, k⟩ = .ok 0x0303 s 0 := by
  decide

/-- The two repaired rows in the versions they belong to: the SHA-1 suite from TLS 1.0 on, the SHA-256 suite in
    TLS 1.2 only; both off/on by default as in crypto/tls (0xc013 is in the default list, 0xc027 is not). -/
theorem ecdhe_rsa_aes128_cbc_rows :
    negotiate ⟨.tls, .tls 0x0301, some [0xc013], some [0xc013], false, 0, 0, .rsa⟩ = .ok 0x0301 0xc013 0 ∧
    negotiate ⟨.auto, .tls 0x0302, some [0xc013], none, true, 4, 1, .rsa⟩ = .ok 0x0302 0xc013 1 ∧
    negotiate ⟨.tls, .tls 0x0303, some [0xc027], some [0xc027], false, 0, 0, .rsa⟩ = .ok 0x0303 0xc027 0 ∧
    negotiate ⟨.tls, .tls 0x0302, some [0xc027], some [0xc027], false, 0, 0, .rsa⟩ = .fail ∧
    negotiate ⟨.tls, .tls 0x0303, some [0xc027], some [0xc027], false, 0, 0, .ec⟩ = .fail ∧
    0xc013 ∈ tlsDefaultList ∧ 0xc027 ∉ tlsDefaultList := by decide

theorem pick_sound (pref other : List Suite) (ok : Suite → Bool) (s : Suite) (h : pick pref other ok = some s) :
    s ∈ pref ∧ s ∈ other ∧ ok s = true := by
  unfold pick at h
  have hm := List.mem_of_find?_eq_some h
  have hp := List.find?_some h
  simp only [Bool.and_eq_true, List.contains_eq_mem, decide_eq_true_eq] at hp
  exact ⟨hm, hp.1, hp.2⟩

theorem pick_complete (pref other : List Suite) (ok : Suite → Bool) (s : Suite)
    (h1 : s ∈ pref) (h2 : s ∈ other) (h3 : ok s = true) : ∃ t, pick pref other ok = some t := by
  unfold pick
  cases hf : pref.find? (fun s => other.contains s && ok s) with
  | some t => exact ⟨t, rfl⟩
  | none =>
    have := List.find?_eq_none.mp hf s h1
    simp [h2, h3] at this

/-- The server's pick under either setting of `PreferServerCipherSuites`. -/
theorem pick_either_sound (b : Bool) (sl cs : List Suite) (ok : Suite → Bool) (s : Suite)
    (h : (if b = true then pick sl cs ok else pick cs sl ok) = some s) : s ∈ cs ∧ s ∈ sl ∧ ok s = true := by
  cases b <;> simp only [Bool.false_eq_true, if_true, if_false] at h <;> have := pick_sound _ _ _ _ h
  · exact this
  · exact ⟨this.2.1, this.1, this.2.2⟩

theorem pick_either_complete (b : Bool) (sl cs : List Suite) (ok : Suite → Bool) (s : Suite)
    (h1 : s ∈ cs) (h2 : s ∈ sl) (h3 : ok s = true) :
    ∃ t, (if b = true then pick sl cs ok else pick cs sl ok) = some t := by
  cases b
  · exact pick_complete _ _ _ s h1 h2 h3
  · exact pick_complete _ _ _ s h2 h1 h3

/-- The client-certificate exchange for every policy and every kind of client certificate: it fails exactly when a
    certificate is required and none is sent, or one is sent that does not chain to the client CAs under a
    verifying policy; otherwise the server ends up with one client certificate exactly when it asked and the client
    sent one. -/
theorem policy_table (auth ccert : Nat) :
    (clientAuth auth ccert = none ↔ ((auth = 2 ∨ auth = 4) ∧ (auth < 1 ∨ ccert = 0)) ∨ (auth ≥ 3 ∧ ccert ≠ 0 ∧ ccert ≠ 1)) ∧
    (∀ n, clientAuth auth ccert = some n → n = if auth ≥ 1 ∧ ccert ≠ 0 then 1 else 0) := by
  unfold clientAuth
  -- once it is known whether a certificate is sent, both sides are linear conditions on `auth` and `ccert`
  by_cases hs : auth ≥ 1 ∧ ccert ≠ 0 <;> simp [hs] <;> omega

/-- Whenever the model (and, by the correspondence run, the code) completes a
    handshake, the suite is one the client offered and the server's list contains and can serve with its
    certificate; the version is GMSSL 1.1 exactly for a GMSSL client on a GMSSL-capable server and the client's
    version for a TLS client on a TLS-capable server; the client-certificate count follows the policy table. -/
theorem agreed_is_mutual (p : Params) (v s n : Nat) (h : negotiate p = .ok v s n) :
    s ∈ (hello p).2 ∧
    ((p.client = .gm ∧ p.mode ≠ .tls ∧ v = Gen.TLS.versionGMSSL ∧ s ∈ p.ssuites.getD gmDefaultList ∧ gmServable s = true) ∨
     (p.client ≠ .gm ∧ p.mode ≠ .gm ∧ s ∈ p.ssuites.getD tlsDefaultList ∧ tlsServable p.scert v s = true ∧
        mutualVersion (hello p).1 = some v)) ∧
    clientAuth p.auth p.ccert = some n := by
  revert h
  fun_cases negotiate p <;> intro h <;> cases h
  · -- the GMSSL handshake
    rename_i cv cs hh hd sl pickd hmv hcond hpick hca
    have hps := pick_either_sound _ _ _ _ _ hpick
    have hc : v = Gen.TLS.versionGMSSL ∧ p.client = .gm := by simpa using hcond
    have hmode : p.mode ≠ .tls := fun hmm => by rw [hmm] at hd; cases hd
    rw [hh]
    exact ⟨hps.1, .inl ⟨hc.2, hmode, hc.1, hps.2.1, hps.2.2⟩, hca⟩
  · -- the TLS handshake
    rename_i cv cs hh hd sl hcl hmv okS pickd hpick hca
    have hps := pick_either_sound _ _ _ _ _ hpick
    have hmode : p.mode ≠ .gm := fun hmm => by rw [hmm] at hd; simp only [dispatch] at hd; split at hd <;> cases hd
    rw [hh]
    exact ⟨hps.1, .inr ⟨hcl, hmode, hps.2.1, hps.2.2, hmv⟩, hca⟩

/-- A GMSSL client and a GMSSL-only or auto-switch server that share a servable suite, with a
    client-certificate situation the policy permits, complete (completeness direction of the property). -/
theorem gm_completes (p : Params) (hc : p.client = .gm) (hm : p.mode ≠ .tls) (s : Suite)
    (h1 : s ∈ (hello p).2) (h2 : s ∈ p.ssuites.getD gmDefaultList) (h3 : gmServable s = true)
    (n : Nat) (hp : clientAuth p.auth p.ccert = some n) : ∃ t, negotiate p = .ok Gen.TLS.versionGMSSL t n := by
  unfold negotiate
  have hv : (hello p).1 = Gen.TLS.versionGMSSL := by simp [hello, hc]
  generalize hh : hello p = hpq at h1 hv
  obtain ⟨cv, cs⟩ := hpq
  simp only at h1 hv ⊢
  subst hv
  have hd : dispatch p.mode Gen.TLS.versionGMSSL = .gm := by
    cases hmm : p.mode with
    | gm => rfl
    | auto => simp [dispatch]
    | tls => exact absurd hmm hm
  have hmv : mutualVersion Gen.TLS.versionGMSSL = some Gen.TLS.versionGMSSL := by decide
  simp only [hd, hmv]
  obtain ⟨t, ht⟩ := pick_either_complete p.prefer (p.ssuites.getD gmDefaultList) cs gmServable s h1 h2 h3
  refine ⟨t, ?_⟩
  simp only [ht]
  have : ¬ (Gen.TLS.versionGMSSL ≠ Gen.TLS.versionGMSSL ∨ p.client ≠ CKind.gm) := by simp [hc]
  simp only [this, if_false, hp]

/-- A combination the policy forbids never completes: a required certificate that is missing, or an unverifiable
    certificate under a verifying policy. -/
theorem forbidden_fails (p : Params) (h : clientAuth p.auth p.ccert = none) : negotiate p = .fail := by
  cases hn : negotiate p with
  | fail => rfl
  | ok v s n => have := (agreed_is_mutual p v s n hn).2.2; rw [h] at this; cases this

/-- A GMSSL client never completes with a TLS-only server, nor a TLS client with a GMSSL-only server (both ends
    fail; the correspondence run checks that neither crashes). -/
theorem no_cross_protocol (p : Params) :
    (p.client = .gm → p.mode = .tls → negotiate p = .fail) ∧
    (p.client ≠ .gm → p.mode = .gm → negotiate p = .fail) := by
  constructor
  · intro hc hm
    cases hn : negotiate p with
    | fail => rfl
    | ok v s n =>
      rcases (agreed_is_mutual p v s n hn).2.1 with ⟨_, h, _⟩ | ⟨h, _⟩
      · exact absurd hm h
      · exact absurd hc h
  · intro hc hm
    cases hn : negotiate p with
    | fail => rfl
    | ok v s n =>
      rcases (agreed_is_mutual p v s n hn).2.1 with ⟨h, _⟩ | ⟨_, h, _⟩
      · exact absurd h hc
      · exact absurd hm h

/-- The GMSSL-only server (repaired, `readClientHello`): the GMSSL handshake runs exactly for ClientHello version
    0x0101; every other version is rejected, and it never runs the TLS handshake — the same routing as the
    auto-switch server's for the GMSSL code (`auto_dispatch`). -/
theorem gm_only_dispatch (v : Nat) :
    (dispatch .gm v = .gm ↔ v = 0x0101) ∧ (dispatch .gm v = .reject ↔ v ≠ 0x0101) ∧ dispatch .gm v ≠ .tls := by
  simp only [dispatch, Gen.TLS.versionGMSSL]
  by_cases h1 : v = 0x0101
  · subst h1; simp
  · simp [h1]

/-- The auto-switch server runs the GMSSL handshake exactly for ClientHello version 0x0101, the TLS handshake
    exactly for 0x0300..0x0303, and rejects every other version. -/
theorem auto_dispatch (v : Nat) :
    (dispatch .auto v = .gm ↔ v = 0x0101) ∧ (dispatch .auto v = .tls ↔ 0x0300 ≤ v ∧ v ≤ 0x0303) ∧
    (dispatch .auto v = .reject ↔ v ≠ 0x0101 ∧ ¬ (0x0300 ≤ v ∧ v ≤ 0x0303)) := by
  have hd : dispatch .auto v = if v = 0x0101 then .gm else if 0x0300 ≤ v ∧ v ≤ 0x0303 then .tls else .reject := by
    have hr : (v = 0x0300 ∨ v = 0x0301 ∨ v = 0x0302 ∨ v = 0x0303) ↔ (0x0300 ≤ v ∧ v ≤ 0x0303) := by omega
    simp only [dispatch, Gen.TLS.versionGMSSL, Gen.TLS.versionSSL30, Gen.TLS.versionTLS10, Gen.TLS.versionTLS11,
      Gen.TLS.versionTLS12, hr]
  rw [hd]
  by_cases h1 : v = 0x0101
  · subst h1; simp
  · by_cases h2 : 0x0300 ≤ v ∧ v ≤ 0x0303 <;> simp [h1, h2]

/-- Default GMSSL pair; ECDHE-first client falls through to ECC; TLS 1.2 with RSA. -/
example : negotiate ⟨.gm, .gm, none, none, false, 0, 0, .rsa⟩ = .ok 0x0101 0xe013 0 := by decide
example : negotiate ⟨.auto, .gm, some [0xe011, 0xe053], none, false, 4, 1, .rsa⟩ = .ok 0x0101 0xe053 1 := by decide
example : negotiate ⟨.auto, .tls 0x0303, none, none, false, 0, 0, .rsa⟩ = .ok 0x0303 0xcca8 0 := by decide
example : negotiate ⟨.tls, .tls 0x0301, none, none, true, 3, 2, .rsa⟩ = .fail := by decide

end Props.C06
