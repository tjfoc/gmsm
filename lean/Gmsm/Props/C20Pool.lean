/-
C20 (x509 CertPool shared by concurrent Verify calls): how `findVerifiedParents` of x509/cert_pool.go
assembles its candidate list, seen at the level of slices and backing arrays (Model.SliceMem; the
elements are certificate indexes, modelled as bytes).

    candidates = s.bySubjectKeyId[aki]                    -- the pool's own slice
    byName := s.byName[issuer]                            -- the pool's own slice
    if len(candidates) == 0 { candidates = byName } else {
        byKeyId := candidates
        candidates = append(make([]int, 0, len(byKeyId)+len(byName)), byKeyId...)
        for n in byName, n not in byKeyId { candidates = append(candidates, n) }
    }

`candMem` is this code; `candAlias` is the same without the `make` line (append to the pool's slice).
`candMem_frame`: the pool's index arrays, spare capacity included, are read-only for Verify, which is what makes
one pool usable from many goroutines (Props.C20Shared.certpool_writers: only AddCert writes a pool). The
`candAlias` theorems show that this is not a triviality of the memory model: without the copy the call writes the
spare slot behind a 3-element group, and of two calls interleaved on that slot one reads the other's candidate.
The harness scenario `conc poolkeyid` (harness/c20poolkid.go) runs the real code on such pools under the race
detector.
-/
import Gmsm.Model.SliceMem
import Gmsm.Props.C17Mem
namespace Props.C20Pool
open Gmsm Gmsm.Model.SliceMem

/-- the candidates found by name only: elements of `byName` that are not among `byKeyId` -/
def nameOnly (kid name : Bytes) : Bytes := name.filter (fun n => !kid.contains n)

/-- `for _, x := range xs { s = append(s, x) }` -/
def appendEach (h : Heap) (s : Slice) : Bytes → Heap × Slice
  | [] => (h, s)
  | x :: xs => appendEach (goAppend h s [x]).1 (goAppend h s [x]).2 xs

/-- the candidate list of `findVerifiedParents` as the code builds it -/
def candMem (h : Heap) (byKeyId byName : Slice) : Heap × Slice :=
  if byKeyId.len = 0 then (h, byName)
  else
    let m := goMake h 0 (byKeyId.len + byName.len)
    let a := goAppend m.1 m.2 (elems m.1 byKeyId)
    appendEach a.1 a.2 (nameOnly (elems h byKeyId) (elems h byName))

/-- the same without the copy: the name-only candidates are appended to the pool's own slice -/
def candAlias (h : Heap) (byKeyId byName : Slice) : Heap × Slice :=
  if byKeyId.len = 0 then (h, byName)
  else appendEach h byKeyId (nameOnly (elems h byKeyId) (elems h byName))

theorem appendEach_frame (xs : Bytes) : ∀ (h : Heap) (s : Slice) (n : Nat), n ≤ s.id → n ≤ h.length →
    (appendEach h s xs).1.take n = h.take n ∧ n ≤ (appendEach h s xs).2.id := by
  induction xs with
  | nil => intro h s n hn _; exact ⟨rfl, hn⟩
  | cons x xs ih =>
    intro h s n hn hl
    have f := Props.C17Mem.goAppend_frame h s [x] n hn hl
    have i := Props.C17Mem.goAppend_id_ge h s [x] n hn hl
    have l := Props.C17Mem.goAppend_length_ge h s [x]
    have r := ih (goAppend h s [x]).1 (goAppend h s [x]).2 n i (by omega)
    simp only [appendEach]
    exact ⟨by rw [r.1, f], r.2⟩

/-- assembling the candidates changes no allocation that existed before the call, whatever the pool's slice
    headers are (any length, any spare capacity); the list is either the pool's by-name slice itself (only read
    afterwards) or lives in an allocation made by this call. -/
theorem candMem_frame (h : Heap) (byKeyId byName : Slice) :
    (candMem h byKeyId byName).1.take h.length = h ∧
    ((candMem h byKeyId byName).2 = byName ∨ h.length ≤ (candMem h byKeyId byName).2.id) := by
  unfold candMem
  split
  · exact ⟨by simp, Or.inl rfl⟩
  · simp only [goMake]
    generalize List.replicate (byKeyId.len + byName.len) (0 : Byte) = z
    generalize hs0 : (⟨h.length, 0, 0, byKeyId.len + byName.len⟩ : Slice) = s0
    have hs0id : s0.id = h.length := by rw [← hs0]
    generalize elems (h ++ [z]) byKeyId = ks
    generalize nameOnly (elems h byKeyId) (elems h byName) = ns
    have hl1 : h.length ≤ (h ++ [z]).length := by simp
    have f1 := Props.C17Mem.goAppend_frame (h ++ [z]) s0 ks h.length (by omega) hl1
    have i1 := Props.C17Mem.goAppend_id_ge (h ++ [z]) s0 ks h.length (by omega) hl1
    have l1 := Props.C17Mem.goAppend_length_ge (h ++ [z]) s0 ks
    have r := appendEach_frame ns (goAppend (h ++ [z]) s0 ks).1 (goAppend (h ++ [z]) s0 ks).2 h.length i1 (by omega)
    refine ⟨?_, Or.inr r.2⟩
    rw [r.1, f1, List.take_append_of_le_length (Nat.le_refl _), List.take_length]

/-- a pool index with three certificates 1, 2, 3 under one key identifier (len 3, cap 4: what three `append`s
    leave) and certificate 9 found by name only -/
def poolHeap : Heap := [[1, 2, 3, 0], [9], [7]]
def kidGroup : Slice := ⟨0, 0, 3, 4⟩

/-- without the copy the call writes the pool's spare slot (`candMem_frame` is false for `candAlias`) -/
theorem candAlias_writes_pool_memory :
    (candAlias poolHeap kidGroup ⟨1, 0, 1, 1⟩).1.take poolHeap.length ≠ poolHeap := by decide

/-- with the copy the same call leaves the pool as it was and returns the same candidates -/
theorem candMem_same_candidates :
    (candMem poolHeap kidGroup ⟨1, 0, 1, 1⟩).1.take poolHeap.length = poolHeap ∧
    elems (candMem poolHeap kidGroup ⟨1, 0, 1, 1⟩).1 (candMem poolHeap kidGroup ⟨1, 0, 1, 1⟩).2 = [1, 2, 3, 9] ∧
    elems (candAlias poolHeap kidGroup ⟨1, 0, 1, 1⟩).1 (candAlias poolHeap kidGroup ⟨1, 0, 1, 1⟩).2 = [1, 2, 3, 9] := by
  decide

/-- two calls without the copy, same key identifier, different issuer names (by-name lists [9] and [7]): call A
    builds its list, call B builds its list, then A walks its candidates - and finds B's certificate 7 in place of
    its own 9. With the copy A's list is what it was. -/
theorem candAlias_interleaving_witness :
    let a := candAlias poolHeap kidGroup ⟨1, 0, 1, 1⟩
    let b := candAlias a.1 kidGroup ⟨2, 0, 1, 1⟩
    elems a.1 a.2 = [1, 2, 3, 9] ∧ elems b.1 a.2 = [1, 2, 3, 7] := by decide

theorem candMem_interleaving :
    let a := candMem poolHeap kidGroup ⟨1, 0, 1, 1⟩
    let b := candMem a.1 kidGroup ⟨2, 0, 1, 1⟩
    elems a.1 a.2 = [1, 2, 3, 9] ∧ elems b.1 a.2 = [1, 2, 3, 9] ∧ elems b.1 b.2 = [1, 2, 3, 7] := by decide

end Props.C20Pool
