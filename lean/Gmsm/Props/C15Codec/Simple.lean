/-
C15 (codec part), the messages with a fixed layout: serverKeyExchangeMsg, finishedMsg, clientKeyExchangeMsg,
serverHelloDoneMsg, helloRequestMsg, certificateVerifyMsg, newSessionTicketMsg, certificateStatusMsg, nextProtoMsg.

Every `unmarshalX_iff` is proved the same way.  Accepted → shape: the chain of `if … then none else` that makes up
the parser holds exactly when every check passes (`Option.ite_none_left_eq_some`); the length checks say how many
cons cells the input has, and on cons cells the checks are linear arithmetic on the length fields, which
`put16_get16`, `put24_get24`, `put32_get32` (`Proofs.TLSBytes`) turn back into the bytes.  Shape → accepted: the
parser is evaluated on the shape, `get16_put16`, `get24_put24`, `get32_put32` read the length fields; where the
theorem about trailing bytes needs the same evaluation with other bytes at the end, it is done once
(`unmarshalCertificateStatus_ocsp_fields`, `unmarshalNextProto_fields`).
-/
import Gmsm.Proofs.TLSBytes
namespace Props.C15Codec
open Gmsm Model.TLSMessages Proofs.TLSBytes

macro "bsimp" " at " h:ident : tactic => `(tactic| simp only [List.getD_eq_getElem?_getD, List.getElem?_cons_zero,
  List.getElem?_cons_succ, Option.getD_some, List.drop_succ_cons, List.drop_zero, List.length_cons,
  List.cons_append, List.nil_append, List.take_succ_cons, List.take_zero, List.length_nil] at $h:ident)

theorem byte_lt (a : Byte) : a.toNat < 256 := a.isLt

/-- the four header bytes (type, 24-bit length) are not looked at -/
theorem unmarshalServerKeyExchange_iff (b : Bytes) (v : ServerKeyExchangeMsg) :
    unmarshalServerKeyExchange b = some v ↔ ∃ h : Bytes, h.length = 4 ∧ b = h ++ v.key := by
  obtain ⟨key⟩ := v
  simp only [unmarshalServerKeyExchange, Option.ite_none_left_eq_some, Option.some.injEq,
    ServerKeyExchangeMsg.mk.injEq]
  exact header_iff 4 b key

/-- for every key: the header `marshal` writes is not read back, so not even its 24-bit range matters -/
theorem unmarshalServerKeyExchange_marshalServerKeyExchange (v : ServerKeyExchangeMsg) :
    unmarshalServerKeyExchange (marshalServerKeyExchange v) = some v := by
  rw [unmarshalServerKeyExchange_iff]
  exact ⟨[12] ++ put24 v.key.length, rfl, by simp [marshalServerKeyExchange]⟩

theorem unmarshalServerKeyExchange_total_bounds (b : Bytes) (v : ServerKeyExchangeMsg)
    (h : unmarshalServerKeyExchange b = some v) : v.key.length + 4 = b.length := by
  obtain ⟨hd, h4, rfl⟩ := (unmarshalServerKeyExchange_iff b v).mp h
  simp only [List.length_append]; omega

theorem marshalServerKeyExchange_unmarshalServerKeyExchange (b : Bytes) (v : ServerKeyExchangeMsg)
    (h : unmarshalServerKeyExchange b = some v) :
    marshalServerKeyExchange v = [12] ++ (put24 (b.length - 4) ++ b.drop 4) := by
  obtain ⟨hd, h4, rfl⟩ := (unmarshalServerKeyExchange_iff b v).mp h
  rw [List.drop_left' h4]
  simp only [marshalServerKeyExchange, List.length_append, h4, Nat.add_sub_cancel_left]

theorem unmarshalFinished_iff (b : Bytes) (v : FinishedMsg) :
    unmarshalFinished b = some v ↔ ∃ h : Bytes, h.length = 4 ∧ b = h ++ v.verifyData := by
  obtain ⟨vd⟩ := v
  simp only [unmarshalFinished, Option.ite_none_left_eq_some, Option.some.injEq, FinishedMsg.mk.injEq]
  exact header_iff 4 b vd

theorem unmarshalFinished_marshalFinished (v : FinishedMsg) : unmarshalFinished (marshalFinished v) = some v := by
  rw [unmarshalFinished_iff]
  exact ⟨[20, 0, 0] ++ put8 v.verifyData.length, rfl, by simp [marshalFinished]⟩

theorem unmarshalFinished_total_bounds (b : Bytes) (v : FinishedMsg) (h : unmarshalFinished b = some v) :
    v.verifyData.length + 4 = b.length := by
  obtain ⟨hd, h4, rfl⟩ := (unmarshalFinished_iff b v).mp h
  simp only [List.length_append]; omega

/-- `finishedMsg.unmarshal` has no length check: bytes after the 12 (or 36) expected ones are part of `verifyData`
    (the caller compares it with the expected value, length included) -/
theorem unmarshalFinished_any_tail (b : Bytes) (h : 4 ≤ b.length) : unmarshalFinished b = some ⟨b.drop 4⟩ := by
  unfold unmarshalFinished; rw [if_neg (by omega)]

theorem marshalFinished_unmarshalFinished (b : Bytes) (v : FinishedMsg) (h : unmarshalFinished b = some v) :
    marshalFinished v = [20, 0, 0] ++ (put8 (b.length - 4) ++ b.drop 4) := by
  obtain ⟨hd, h4, rfl⟩ := (unmarshalFinished_iff b v).mp h
  rw [List.drop_left' h4]
  simp only [marshalFinished, List.length_append, h4, Nat.add_sub_cancel_left]

theorem unmarshalClientKeyExchange_iff (b : Bytes) (v : ClientKeyExchangeMsg) :
    unmarshalClientKeyExchange b = some v ↔
      v.ciphertext.length < 16777216 ∧ ∃ t : Byte, b = t :: (put24 v.ciphertext.length ++ v.ciphertext) := by
  constructor
  · intro h
    simp only [unmarshalClientKeyExchange, Option.ite_none_left_eq_some, Option.some.injEq] at h
    obtain ⟨t, b1, b2, b3, r, rfl⟩ := split4 b (by omega)
    bsimp at h
    obtain ⟨_, hl, rfl⟩ := h
    have e : get24 b1 b2 b3 = r.length := by omega
    exact ⟨e ▸ get24_lt b1 b2 b3, t, by rw [← e, put24_get24]; rfl⟩
  · rintro ⟨hl, t, rfl⟩
    simp only [unmarshalClientKeyExchange, put24]
    bsimp
    rw [get24_put24 _ hl, if_neg (by omega), if_neg (by omega)]

theorem unmarshalClientKeyExchange_marshalClientKeyExchange (v : ClientKeyExchangeMsg) (h : v.ciphertext.length < 16777216) :
    unmarshalClientKeyExchange (marshalClientKeyExchange v) = some v := by
  rw [unmarshalClientKeyExchange_iff]
  exact ⟨h, 16, rfl⟩

theorem marshalClientKeyExchange_unmarshalClientKeyExchange (b : Bytes) (v : ClientKeyExchangeMsg)
    (h : unmarshalClientKeyExchange b = some v) : ∃ t : Byte, b = t :: (marshalClientKeyExchange v).tail := by
  obtain ⟨_, t, rfl⟩ := (unmarshalClientKeyExchange_iff b v).mp h
  exact ⟨t, rfl⟩

theorem unmarshalClientKeyExchange_total_bounds (b : Bytes) (v : ClientKeyExchangeMsg)
    (h : unmarshalClientKeyExchange b = some v) : v.ciphertext.length + 4 = b.length := by
  obtain ⟨_, t, rfl⟩ := (unmarshalClientKeyExchange_iff b v).mp h
  simp only [put24, List.length_append, List.length_cons, List.length_nil]; omega

theorem unmarshalClientKeyExchange_no_trailing (b t : Bytes) (v : ClientKeyExchangeMsg)
    (h : unmarshalClientKeyExchange b = some v) (ht : t ≠ []) : unmarshalClientKeyExchange (b ++ t) = none := by
  simp only [unmarshalClientKeyExchange, Option.ite_none_left_eq_some] at h
  simp only [unmarshalClientKeyExchange]
  rw [if_neg (by rw [List.length_append]; omega), if_pos (hdr24_trailing b t (by omega) (by omega) ht).symm]

/-- `return len(data) == 4`: the four bytes themselves are not looked at -/
theorem unmarshalServerHelloDone_iff (b : Bytes) (v : ServerHelloDoneMsg) :
    unmarshalServerHelloDone b = some v ↔ b.length = 4 := by
  simp [unmarshalServerHelloDone]

theorem unmarshalServerHelloDone_marshalServerHelloDone (v : ServerHelloDoneMsg) :
    unmarshalServerHelloDone (marshalServerHelloDone v) = some v := by
  rw [unmarshalServerHelloDone_iff]; rfl

theorem unmarshalHelloRequest_iff (b : Bytes) (v : HelloRequestMsg) :
    unmarshalHelloRequest b = some v ↔ b.length = 4 := by
  simp [unmarshalHelloRequest]

theorem unmarshalHelloRequest_marshalHelloRequest (v : HelloRequestMsg) :
    unmarshalHelloRequest (marshalHelloRequest v) = some v := by
  rw [unmarshalHelloRequest_iff]; rfl

def WFCertificateVerify (v : CertificateVerifyMsg) : Prop :=
  v.signatureAlgorithm < 65536 ∧ (v.hasSignatureAndHash = false → v.signatureAlgorithm = 0) ∧ v.signature.length < 65536

theorem unmarshalCertificateVerify_iff (sh : Bool) (b : Bytes) (v : CertificateVerifyMsg) :
    unmarshalCertificateVerify sh b = some v ↔
      v.hasSignatureAndHash = sh ∧ WFCertificateVerify v ∧ ∃ t : Byte, b = t :: (marshalCertificateVerify v).tail := by
  unfold WFCertificateVerify
  constructor
  · intro h
    cases sh
    · simp only [unmarshalCertificateVerify, Bool.false_eq_true, if_false, Option.ite_none_left_eq_some,
        Option.some.injEq] at h
      obtain ⟨t, l1, l2, l3, r, rfl⟩ := split4 b (by omega)
      obtain ⟨a1, a2, r, rfl⟩ := split2 r (by simp only [List.length_cons] at h; omega)
      bsimp at h
      obtain ⟨_, hl, _, hs, rfl⟩ := h
      have e : get24 l1 l2 l3 = 2 + r.length := by omega
      have e2 : get16 a1 a2 = r.length := by omega
      refine ⟨rfl, ⟨by show (0 : Nat) < 65536; omega, fun _ => rfl, e2 ▸ get16_lt a1 a2⟩, t, ?_⟩
      simp only [marshalCertificateVerify, Bool.false_eq_true, if_false, List.nil_append, List.cons_append, List.tail_cons]
      rw [← e, put24_get24, ← e2, put16_get16]; rfl
    · simp only [unmarshalCertificateVerify, if_true, Option.ite_none_left_eq_some, Option.some.injEq] at h
      obtain ⟨t, l1, l2, l3, r, rfl⟩ := split4 b (by omega)
      obtain ⟨a1, a2, r, rfl⟩ := split2 r (by simp only [List.length_cons] at h; omega)
      bsimp at h
      obtain ⟨s1, s2, r, rfl⟩ := split2 r (by omega)
      bsimp at h
      obtain ⟨_, hl, _, hs, rfl⟩ := h
      have e : get24 l1 l2 l3 = 2 + r.length + 2 := by omega
      have e2 : get16 s1 s2 = r.length := by omega
      refine ⟨rfl, ⟨get16_lt a1 a2, by simp, e2 ▸ get16_lt s1 s2⟩, t, ?_⟩
      simp only [marshalCertificateVerify, if_true, List.nil_append, List.cons_append, List.tail_cons]
      rw [← e, put24_get24, ← e2, put16_get16, put16_get16]; rfl
  · rintro ⟨rfl, ⟨ha, h0, hs⟩, t, rfl⟩
    obtain ⟨sh, alg, sig⟩ := v
    simp only at ha h0 hs
    cases sh
    · cases h0 rfl
      simp only [unmarshalCertificateVerify, marshalCertificateVerify, put24, put16, Bool.false_eq_true, if_false,
        List.nil_append, List.cons_append, List.tail_cons]
      bsimp
      rw [get24_put24 _ (by omega), get16_put16 _ hs, if_neg (by omega), if_neg (by omega), if_neg (by omega),
        if_neg (by omega)]
    · simp only [unmarshalCertificateVerify, marshalCertificateVerify, put24, put16, if_true, List.nil_append,
        List.cons_append, List.tail_cons]
      bsimp
      rw [get24_put24 _ (by omega), get16_put16 _ hs, get16_put16 _ ha, if_neg (by omega), if_neg (by omega),
        if_neg (by omega), if_neg (by omega)]

theorem unmarshalCertificateVerify_marshalCertificateVerify (v : CertificateVerifyMsg) (h : WFCertificateVerify v) :
    unmarshalCertificateVerify v.hasSignatureAndHash (marshalCertificateVerify v) = some v := by
  rw [unmarshalCertificateVerify_iff]
  exact ⟨rfl, h, 15, rfl⟩

theorem marshalCertificateVerify_unmarshalCertificateVerify (sh : Bool) (b : Bytes) (v : CertificateVerifyMsg)
    (h : unmarshalCertificateVerify sh b = some v) : ∃ t : Byte, b = t :: (marshalCertificateVerify v).tail :=
  ((unmarshalCertificateVerify_iff sh b v).mp h).2.2

theorem marshalCertificateVerify_length (v : CertificateVerifyMsg) :
    (marshalCertificateVerify v).length = v.signature.length + (if v.hasSignatureAndHash then 8 else 6) := by
  unfold marshalCertificateVerify
  cases v.hasSignatureAndHash <;>
    simp only [put24, put16, List.length_append, List.length_cons, List.length_nil, Bool.false_eq_true, if_false, if_true] <;> omega

theorem unmarshalCertificateVerify_total_bounds (sh : Bool) (b : Bytes) (v : CertificateVerifyMsg)
    (h : unmarshalCertificateVerify sh b = some v) : v.signature.length + (if sh then 8 else 6) = b.length := by
  obtain ⟨rfl, _, t, rfl⟩ := (unmarshalCertificateVerify_iff sh b v).mp h
  have := marshalCertificateVerify_length v
  have h2 : (marshalCertificateVerify v).length = (marshalCertificateVerify v).tail.length + 1 := by
    unfold marshalCertificateVerify; simp
  simp only [List.length_cons]; omega

theorem unmarshalCertificateVerify_no_trailing (sh : Bool) (b t : Bytes) (v : CertificateVerifyMsg)
    (h : unmarshalCertificateVerify sh b = some v) (ht : t ≠ []) : unmarshalCertificateVerify sh (b ++ t) = none := by
  simp only [unmarshalCertificateVerify, Option.ite_none_left_eq_some] at h
  simp only [unmarshalCertificateVerify]
  rw [if_neg (by rw [List.length_append]; omega), if_pos (hdr24_trailing b t (by omega) (by omega) ht)]

theorem unmarshalNewSessionTicket_iff (b : Bytes) (v : NewSessionTicketMsg) :
    unmarshalNewSessionTicket b = some v ↔
      v.ticket.length < 65536 ∧ ∃ (t : Byte) (hint : Bytes), hint.length = 4 ∧
        b = t :: (put24 (2 + 4 + v.ticket.length) ++ (hint ++ (put16 v.ticket.length ++ v.ticket))) := by
  constructor
  · intro h
    simp only [unmarshalNewSessionTicket, Option.ite_none_left_eq_some, Option.some.injEq] at h
    obtain ⟨t, l1, l2, l3, r, rfl⟩ := split4 b (by omega)
    obtain ⟨h1, h2, h3, h4, r, rfl⟩ := split4 r (by simp only [List.length_cons] at h; omega)
    obtain ⟨s1, s2, r, rfl⟩ := split2 r (by simp only [List.length_cons] at h; omega)
    bsimp at h
    obtain ⟨_, hl, hs, rfl⟩ := h
    have e : get24 l1 l2 l3 = 2 + 4 + r.length := by omega
    have e2 : get16 s1 s2 = r.length := by omega
    refine ⟨e2 ▸ get16_lt s1 s2, t, [h1, h2, h3, h4], rfl, ?_⟩
    rw [← e, put24_get24, ← e2, put16_get16]; rfl
  · rintro ⟨hs, t, hint, h4, rfl⟩
    obtain ⟨h1, h2, h3, h4, rfl⟩ := len4 hint h4
    simp only [unmarshalNewSessionTicket, put24, put16]
    bsimp
    rw [get24_put24 _ (by omega), get16_put16 _ hs, if_neg (by omega), if_neg (by omega), if_neg (by omega)]

theorem unmarshalNewSessionTicket_marshalNewSessionTicket (v : NewSessionTicketMsg) (h : v.ticket.length < 65536) :
    unmarshalNewSessionTicket (marshalNewSessionTicket v) = some v := by
  rw [unmarshalNewSessionTicket_iff]
  exact ⟨h, 4, [0, 0, 0, 0], rfl, rfl⟩

theorem unmarshalNewSessionTicket_total_bounds (b : Bytes) (v : NewSessionTicketMsg)
    (h : unmarshalNewSessionTicket b = some v) : v.ticket.length + 10 = b.length := by
  obtain ⟨_, t, hint, h4, rfl⟩ := (unmarshalNewSessionTicket_iff b v).mp h
  simp only [put24, put16, List.length_append, List.length_cons, List.length_nil]; omega

theorem unmarshalNewSessionTicket_no_trailing (b t : Bytes) (v : NewSessionTicketMsg)
    (h : unmarshalNewSessionTicket b = some v) (ht : t ≠ []) : unmarshalNewSessionTicket (b ++ t) = none := by
  simp only [unmarshalNewSessionTicket, Option.ite_none_left_eq_some] at h
  simp only [unmarshalNewSessionTicket]
  rw [if_neg (by rw [List.length_append]; omega), if_pos (hdr24_trailing b t (by omega) (by omega) ht)]

theorem unmarshalCertificateStatus_ocsp_fields (h r : Bytes) (k : Nat) (h4 : h.length = 4) (hk : k < 16777216) :
    unmarshalCertificateStatus (h ++ ([1] ++ (put24 k ++ r))) = if r.length ≠ k then none else some ⟨1, r⟩ := by
  obtain ⟨h0, h1, h2, h3, rfl⟩ := len4 h h4
  simp only [unmarshalCertificateStatus, put24]
  bsimp
  rw [show (1 : Byte).toNat = 1 from rfl, get24_put24 _ hk, if_neg (by omega), if_pos rfl, if_neg (by omega)]
  by_cases e : r.length ≠ k
  · rw [if_pos (by omega), if_pos e]
  · rw [if_neg (by omega), if_neg e]

/-- for a status type other than OCSP whatever follows the type byte is accepted and dropped -/
theorem unmarshalCertificateStatus_iff (b : Bytes) (v : CertificateStatusMsg) :
    unmarshalCertificateStatus b = some v ↔
      (v.statusType = 1 ∧ v.response.length < 16777216 ∧ ∃ h : Bytes, h.length = 4 ∧
        b = h ++ ([1] ++ (put24 v.response.length ++ v.response))) ∨
      (v.statusType ≠ 1 ∧ v.statusType < 256 ∧ v.response = [] ∧ ∃ h rest : Bytes, h.length = 4 ∧
        b = h ++ (put8 v.statusType ++ rest)) := by
  constructor
  · intro h
    simp only [unmarshalCertificateStatus, Option.ite_none_left_eq_some] at h
    obtain ⟨h5, h⟩ := h
    obtain ⟨h0, h1, h2, h3, r, rfl⟩ := split4 b (by omega)
    obtain ⟨st, r, rfl⟩ := split1 r (by simp only [List.length_cons] at h5; omega)
    bsimp at h
    split at h
    · rename_i hst
      simp only [Option.ite_none_left_eq_some, Option.some.injEq] at h
      obtain ⟨l1, l2, l3, r, rfl⟩ := split3 r (by omega)
      bsimp at h
      obtain ⟨_, hl, rfl⟩ := h
      have e : get24 l1 l2 l3 = r.length := by omega
      have e1 : st = 1 := BitVec.eq_of_toNat_eq hst
      refine Or.inl ⟨hst, e ▸ get24_lt l1 l2 l3, [h0, h1, h2, h3], rfl, ?_⟩
      show _ = [h0, h1, h2, h3] ++ ([1] ++ (put24 r.length ++ r))
      rw [← e, put24_get24, e1]; rfl
    · rename_i hst
      cases h
      refine Or.inr ⟨hst, st.isLt, rfl, [h0, h1, h2, h3], r, rfl, ?_⟩
      show _ = [h0, h1, h2, h3] ++ (put8 st.toNat ++ r)
      rw [put8_toNat]; rfl
  · rintro (⟨hst, hl, h, h4, rfl⟩ | ⟨hst, h256, hr, h, rest, h4, rfl⟩)
    · rw [unmarshalCertificateStatus_ocsp_fields h _ _ h4 hl, if_neg (by omega), ← hst]
    · obtain ⟨h0, h1, h2, h3, rfl⟩ := len4 h h4
      simp only [unmarshalCertificateStatus, put8]
      bsimp
      rw [toNat_ofNat8 _ h256, if_neg (by omega), if_neg hst, ← hr]

def WFCertificateStatus (v : CertificateStatusMsg) : Prop :=
  v.statusType < 256 ∧ (v.statusType = 1 → v.response.length < 16777216) ∧ (v.statusType ≠ 1 → v.response = [])

theorem unmarshalCertificateStatus_marshalCertificateStatus (v : CertificateStatusMsg) (h : WFCertificateStatus v) :
    unmarshalCertificateStatus (marshalCertificateStatus v) = some v := by
  rw [unmarshalCertificateStatus_iff]
  obtain ⟨h1, h2, h3⟩ := h
  unfold marshalCertificateStatus
  by_cases hst : v.statusType = 1
  · rw [if_pos hst]
    refine Or.inl ⟨hst, h2 hst, [22] ++ put24 (v.response.length + 4), rfl, ?_⟩
    simp only [Nat.add_sub_cancel, List.append_assoc]
  · rw [if_neg hst]
    exact Or.inr ⟨hst, h1, h3 hst, [22, 0, 0, 1], [], rfl, by simp⟩

theorem unmarshalCertificateStatus_wf (b : Bytes) (v : CertificateStatusMsg)
    (h : unmarshalCertificateStatus b = some v) : WFCertificateStatus v := by
  rcases (unmarshalCertificateStatus_iff b v).mp h with ⟨h1, h2, _⟩ | ⟨h1, h2, h3, _⟩
  · exact ⟨by omega, fun _ => h2, fun hn => absurd h1 hn⟩
  · exact ⟨h2, fun hn => absurd hn h1, fun _ => h3⟩

theorem unmarshalCertificateStatus_total_bounds (b : Bytes) (v : CertificateStatusMsg)
    (h : unmarshalCertificateStatus b = some v) : v.response.length + 5 ≤ b.length := by
  rcases (unmarshalCertificateStatus_iff b v).mp h with ⟨_, _, hd, h4, rfl⟩ | ⟨_, _, h3, hd, rest, h4, rfl⟩
  · simp only [put24, List.length_append, List.length_cons, List.length_nil]; omega
  · rw [h3]; simp only [put8, List.length_append, List.length_cons, List.length_nil]; omega

theorem unmarshalCertificateStatus_ocsp_no_trailing (b t : Bytes) (v : CertificateStatusMsg)
    (h : unmarshalCertificateStatus b = some v) (h1 : v.statusType = 1) (ht : t ≠ []) :
    unmarshalCertificateStatus (b ++ t) = none := by
  have : t.length ≠ 0 := by simpa using ht
  rcases (unmarshalCertificateStatus_iff b v).mp h with ⟨_, hl, hd, h4, rfl⟩ | ⟨hn, _⟩
  · rw [List.append_assoc, List.append_assoc, List.append_assoc, unmarshalCertificateStatus_ocsp_fields hd _ _ h4 hl,
      if_pos (by simp only [List.length_append]; omega)]
  · exact absurd h1 hn

theorem unmarshalCertificateStatus_other_trailing (b t : Bytes) (v : CertificateStatusMsg)
    (h : unmarshalCertificateStatus b = some v) (h1 : v.statusType ≠ 1) :
    unmarshalCertificateStatus (b ++ t) = some v := by
  rcases (unmarshalCertificateStatus_iff b v).mp h with ⟨hn, _⟩ | ⟨hn, h256, hr, hd, rest, h4, rfl⟩
  · exact absurd hn h1
  · rw [unmarshalCertificateStatus_iff]
    exact Or.inr ⟨hn, h256, hr, hd, rest ++ t, h4, by simp only [List.append_assoc]⟩

theorem unmarshalNextProto_fields (h proto pad : Bytes) (k : Nat) (h4 : h.length = 4) (hl : proto.length < 256)
    (hk : k < 256) :
    unmarshalNextProto (h ++ (put8 proto.length ++ (proto ++ (put8 k ++ pad)))) =
      if pad.length ≠ k then none else some ⟨proto⟩ := by
  obtain ⟨h0, h1, h2, h3, rfl⟩ := len4 h h4
  simp only [unmarshalNextProto, put8]
  bsimp
  rw [toNat_ofNat8 _ hl, if_neg (by omega), if_neg (by simp only [List.length_append, List.length_cons]; omega),
    List.drop_left, List.take_left]
  bsimp
  rw [toNat_ofNat8 _ hk, if_neg (by omega)]

theorem unmarshalNextProto_iff (b : Bytes) (v : NextProtoMsg) :
    unmarshalNextProto b = some v ↔
      v.proto.length < 256 ∧ ∃ h pad : Bytes, h.length = 4 ∧ pad.length < 256 ∧
        b = h ++ (put8 v.proto.length ++ (v.proto ++ (put8 pad.length ++ pad))) := by
  constructor
  · intro h
    simp only [unmarshalNextProto, Option.ite_none_left_eq_some, Option.some.injEq] at h
    obtain ⟨h0, h1, h2, h3, r, rfl⟩ := split4 b (by omega)
    obtain ⟨pl, r, rfl⟩ := split1 r (by simp only [List.length_cons] at h; omega)
    bsimp at h
    obtain ⟨_, hp, hge1, hpad, rfl⟩ := h
    obtain ⟨pd, pad, hr⟩ := split1 (List.drop pl.toNat r) (by omega)
    rw [hr] at hpad
    bsimp at hpad
    have e1 : (List.take pl.toNat r).length = pl.toNat := List.length_take_of_le (by omega)
    refine ⟨by rw [e1]; exact pl.isLt, [h0, h1, h2, h3], pad, rfl, by rw [show pad.length = pd.toNat by omega]; exact pd.isLt, ?_⟩
    rw [e1, show pad.length = pd.toNat by omega, put8_toNat, put8_toNat]
    show _ = h0 :: h1 :: h2 :: h3 :: pl :: (List.take pl.toNat r ++ pd :: pad)
    rw [← hr, List.take_append_drop]
  · rintro ⟨hl, h, pad, h4, hp, rfl⟩
    rw [unmarshalNextProto_fields h _ _ _ h4 hl hp, if_neg (by omega)]

/-- `marshal` cuts a name longer than 255 bytes -/
theorem unmarshalNextProto_marshalNextProto (v : NextProtoMsg) (h : v.proto.length < 256) :
    unmarshalNextProto (marshalNextProto v) = some v := by
  rw [unmarshalNextProto_iff]
  have hl : (if v.proto.length > 255 then 255 else v.proto.length) = v.proto.length := by
    rw [if_neg (by omega)]
  refine ⟨h, [67] ++ put24 (v.proto.length + (32 - (v.proto.length + 2) % 32) + 2),
    List.replicate (32 - (v.proto.length + 2) % 32) 0, rfl, by rw [List.length_replicate]; omega, ?_⟩
  simp only [marshalNextProto, hl, List.take_length, List.length_replicate, List.append_assoc]

theorem unmarshalNextProto_total_bounds (b : Bytes) (v : NextProtoMsg) (h : unmarshalNextProto b = some v) :
    v.proto.length + 6 ≤ b.length := by
  obtain ⟨_, hd, pad, h4, _, rfl⟩ := (unmarshalNextProto_iff b v).mp h
  simp only [put8, List.length_append, List.length_cons, List.length_nil]; omega

theorem unmarshalNextProto_no_trailing (b t : Bytes) (v : NextProtoMsg) (h : unmarshalNextProto b = some v)
    (ht : t ≠ []) : unmarshalNextProto (b ++ t) = none := by
  obtain ⟨hl, hd, pad, h4, hp, rfl⟩ := (unmarshalNextProto_iff b v).mp h
  have : t.length ≠ 0 := by simpa using ht
  simp only [List.append_assoc]
  rw [unmarshalNextProto_fields hd _ _ _ h4 hl hp, if_pos (by simp only [List.length_append]; omega)]

end Props.C15Codec
