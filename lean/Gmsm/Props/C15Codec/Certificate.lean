/-
C15 (codec part), the messages that carry a list: certificateMsg (24-bit length, entries with a 24-bit length each)
and certificateRequestMsg / certificateRequestMsgGM (certificate types, in the TLS 1.2 layout the signature
algorithms, the distinguished names with a 16-bit length each).  For each loop of the parsers there is a
soundness lemma by induction on the fuel (what it accepts is what the marshal loop writes for the returned list)
and a completeness lemma by induction on the list.
-/
import Gmsm.Props.C15Codec.Simple
namespace Props.C15Codec
open Gmsm Model.TLSMessages Proofs.TLSBytes

/-- the last certificate of the list, if there is one, is not empty -/
def lastNonempty : List Bytes → Prop
  | [] => True
  | [c] => c ≠ []
  | _ :: c2 :: cs => lastNonempty (c2 :: cs)

theorem lastNonempty_cons_cons (c c2 : Bytes) (cs : List Bytes) :
    lastNonempty (c :: c2 :: cs) ↔ lastNonempty (c2 :: cs) := Iff.rfl

theorem lastNonempty_tail (c : Bytes) (cs : List Bytes) (h : lastNonempty (c :: cs)) : lastNonempty cs := by
  cases cs with
  | nil => trivial
  | cons c2 cs2 => exact (lastNonempty_cons_cons c c2 cs2).mp h

theorem certEntries_cons_length (c : Bytes) (cs : List Bytes) :
    (certEntries (c :: cs)).length = 3 + c.length + (certEntries cs).length := by
  simp only [certEntries, put24, List.length_append, List.length_cons, List.length_nil]; omega

theorem certEntries_length (cs : List Bytes) : (certEntries cs).length = 3 * cs.length + totalLen cs := by
  induction cs with
  | nil => rfl
  | cons c cs ih => rw [certEntries_cons_length, ih, totalLen, List.length_cons]; omega

theorem mem_certEntries_length (cs : List Bytes) (c : Bytes) (h : c ∈ cs) : c.length + 3 ≤ (certEntries cs).length := by
  induction cs with
  | nil => simp at h
  | cons x xs ih =>
    rw [certEntries_cons_length]
    rcases List.mem_cons.mp h with e | e
    · subst e; omega
    · have := ih e; omega

theorem certEntries_length_ge (c : Bytes) (cs : List Bytes) (h : lastNonempty (c :: cs)) :
    4 ≤ (certEntries (c :: cs)).length := by
  rw [certEntries_cons_length]
  cases cs with
  | nil =>
    have : c.length ≠ 0 := fun h0 => h (List.eq_nil_of_length_eq_zero h0)
    omega
  | cons c2 cs2 => rw [certEntries_cons_length]; omega

/-- `certsLen -= 3 + certLen` on a uint32 does not wrap when the entry lies inside the area -/
theorem sub_uint32 (n k : Nat) (hk : k ≤ n) (hn : n < 4294967296) : (n + 4294967296 - k) % 4294967296 = n - k := by
  rw [show n + 4294967296 - k = n - k + 4294967296 by omega, Nat.add_mod_right, Nat.mod_eq_of_lt (by omega)]

theorem drop3 (a b c : Byte) (r : Bytes) (n : Nat) : List.drop (3 + n) (a :: b :: c :: r) = List.drop n r := by
  rw [Nat.add_comm]; simp only [List.drop_succ_cons]

/-- the first loop of `certificateMsg.unmarshal` on a list area `d`, started with `certsLen = len(d)`: when it
    succeeds `d` is exactly the entries of the certificates the second loop then slices out, the last one not
    empty — and `certsLen -= 3 + certLen` never wrapped -/
theorem certCount_sound (fuel : Nat) (d : Bytes) (n : Nat) (hd : d.length < 4294967296)
    (h : certCount fuel d.length d = some n) :
    ∃ cs, cs.length = n ∧ certEntries cs = d ∧ (∀ c ∈ cs, c.length < 16777216) ∧ lastNonempty cs ∧
      certSlices n d = cs := by
  induction fuel generalizing d n with
  | zero => simp [certCount] at h
  | succ fuel ih =>
    unfold certCount at h
    split at h
    · simp only [Option.ite_none_left_eq_some] at h
      obtain ⟨a, b, c, r, rfl⟩ := split3 d (by omega)
      bsimp at h
      obtain ⟨h4, hl, h⟩ := h
      simp only [List.length_cons] at hd
      rw [sub_uint32 _ _ (by omega) (by omega), drop3,
        show r.length + 1 + 1 + 1 - (3 + get24 a b c) = (List.drop (get24 a b c) r).length by
          rw [List.length_drop]; omega] at h
      split at h
      · rename_i n0 hrec
        cases h
        obtain ⟨cs, c1, c2, c3, c4, c5⟩ := ih _ _ (by rw [List.length_drop]; omega) hrec
        have htl : (List.take (get24 a b c) r).length = get24 a b c := List.length_take_of_le (by omega)
        refine ⟨List.take (get24 a b c) r :: cs, by rw [List.length_cons, c1], ?_, ?_, ?_, ?_⟩
        · simp only [certEntries, htl, put24_get24, c2, List.take_append_drop, List.cons_append, List.nil_append]
        · intro x hx
          rcases List.mem_cons.mp hx with e | e
          · rw [e, htl]; exact get24_lt a b c
          · exact c3 x e
        · cases cs with
          | nil =>
            -- the last entry was only read because four bytes were left
            have : (List.drop (get24 a b c) r).length = 0 := by rw [← c2]; rfl
            rw [List.length_drop] at this
            intro he
            rw [he] at htl
            simp only [List.length_nil] at htl
            omega
          | cons x xs => exact (lastNonempty_cons_cons _ x xs).mpr c4
        · simp only [certSlices]
          bsimp
          rw [drop3, c5]
      · simp at h
    · cases h
      have : d = [] := List.eq_nil_of_length_eq_zero (by omega)
      subst this
      exact ⟨[], rfl, rfl, by simp, trivial, rfl⟩

theorem certCount_entries (cs : List Bytes) (s : Bytes) (fuel : Nat) (hc : ∀ c ∈ cs, c.length < 16777216)
    (hl : s = [] → lastNonempty cs) (h3 : s.length ≤ 3) (hd : (certEntries cs ++ s).length < 4294967296)
    (hf : (certEntries cs ++ s).length < fuel) :
    certCount fuel (certEntries cs ++ s).length (certEntries cs ++ s) = if s = [] then some cs.length else none := by
  induction cs generalizing fuel with
  | nil =>
    obtain ⟨fuel, rfl⟩ := Nat.exists_eq_add_one_of_ne_zero (by omega : fuel ≠ 0)
    simp only [certEntries, List.nil_append]
    unfold certCount
    by_cases hs : s = []
    · subst hs; rfl
    · have : s.length ≠ 0 := fun h0 => hs (List.eq_nil_of_length_eq_zero h0)
      rw [if_pos (by omega), if_pos (by omega), if_neg hs]
  | cons c cs ih =>
    obtain ⟨fuel, rfl⟩ := Nat.exists_eq_add_one_of_ne_zero (by omega : fuel ≠ 0)
    have hc0 : c.length < 16777216 := hc c (by simp)
    have hlen := certEntries_cons_length c cs
    have h4 : 4 ≤ (certEntries (c :: cs) ++ s).length := by
      rw [List.length_append]
      by_cases hs : s = []
      · have := certEntries_length_ge c cs (hl hs); omega
      · have : s.length ≠ 0 := fun h0 => hs (List.eq_nil_of_length_eq_zero h0)
        omega
    rw [List.length_append] at hd hf h4
    have ih := ih fuel (fun x hx => hc x (by simp [hx])) (fun hs => lastNonempty_tail c cs (hl hs))
      (by rw [List.length_append]; omega) (by rw [List.length_append]; omega)
    unfold certCount
    rw [List.length_append, if_pos (by omega), if_neg (by omega)]
    have e : certEntries (c :: cs) ++ s = BitVec.ofNat 8 (c.length / 65536) :: BitVec.ofNat 8 (c.length / 256) ::
        BitVec.ofNat 8 c.length :: (c ++ (certEntries cs ++ s)) := by
      simp only [certEntries, put24, List.cons_append, List.nil_append, List.append_assoc]
    rw [hlen, e]
    bsimp
    rw [get24_put24 _ hc0, if_neg (by omega), drop3, List.drop_left, sub_uint32 _ _ (by omega) (by omega),
      show 3 + c.length + (certEntries cs).length + s.length - (3 + c.length) = (certEntries cs ++ s).length by
        rw [List.length_append]; omega, ih]
    by_cases hs : s = []
    · rw [if_pos hs, if_pos hs]
    · rw [if_neg hs, if_neg hs]

theorem certSlices_entries (cs : List Bytes) (rest : Bytes) (hc : ∀ c ∈ cs, c.length < 16777216) :
    certSlices cs.length (certEntries cs ++ rest) = cs := by
  induction cs with
  | nil => rfl
  | cons c cs ih =>
    have hc0 : c.length < 16777216 := hc c (by simp)
    have ih := ih (fun x hx => hc x (by simp [hx]))
    simp only [List.length_cons, certSlices, certEntries, put24]
    bsimp
    rw [get24_put24 _ hc0, drop3, List.append_assoc, List.drop_left, List.take_left, ih]

/-- what `certificateMsg.unmarshal` accepts: every certificate shorter than 2^24 bytes, the whole list
    (3 length bytes per certificate included) shorter than 2^24 bytes, and the last certificate not empty -/
def WFCertificate (v : CertificateMsg) : Prop :=
  (∀ c ∈ v.certificates, c.length < 16777216) ∧ (certEntries v.certificates).length < 16777216 ∧
    lastNonempty v.certificates

theorem unmarshalCertificate_fields (h d : Bytes) (n : Nat) (h4 : h.length = 4) (hn : n < 16777216) :
    unmarshalCertificate (h ++ (put24 n ++ d)) =
      if d.length ≠ n then none else
      match certCount (d.length + 1) n d with
      | none => none
      | some k => some ⟨certSlices k d⟩ := by
  obtain ⟨h0, h1, h2, h3, rfl⟩ := len4 h h4
  simp only [unmarshalCertificate, put24]
  bsimp
  rw [get24_put24 _ hn, if_neg (by omega)]
  by_cases e : d.length ≠ n
  · rw [if_pos (by omega), if_pos e]
  · rw [if_neg (by omega), if_neg e]; rfl

/-- the four header bytes (type, 24-bit message length) are not looked at; the last certificate is not empty
    because an entry is only read when at least 4 bytes are left -/
theorem unmarshalCertificate_iff (b : Bytes) (v : CertificateMsg) :
    unmarshalCertificate b = some v ↔
      WFCertificate v ∧ ∃ h : Bytes, h.length = 4 ∧
        b = h ++ (put24 (certEntries v.certificates).length ++ certEntries v.certificates) := by
  unfold WFCertificate
  constructor
  · intro h
    simp only [unmarshalCertificate, Option.ite_none_left_eq_some] at h
    obtain ⟨h0, h1, h2, h3, r, rfl⟩ := split4 b (by omega)
    obtain ⟨l1, l2, l3, r, rfl⟩ := split3 r (by simp only [List.length_cons] at h; omega)
    bsimp at h
    obtain ⟨_, hl, h⟩ := h
    have e : get24 l1 l2 l3 = r.length := by omega
    rw [e] at h
    split at h
    · simp at h
    · rename_i n hcnt
      cases h
      obtain ⟨cs, c1, c2, c3, c4, c5⟩ := certCount_sound _ r n (by have := get24_lt l1 l2 l3; omega) hcnt
      rw [c5]
      refine ⟨⟨c3, by rw [c2, ← e]; exact get24_lt l1 l2 l3, c4⟩, [h0, h1, h2, h3], rfl, ?_⟩
      show _ = [h0, h1, h2, h3] ++ (put24 (certEntries cs).length ++ certEntries cs)
      rw [c2, ← e, put24_get24]; rfl
  · rintro ⟨⟨hc, hl, hn⟩, h, h4, rfl⟩
    have hcnt := certCount_entries v.certificates [] _ hc (fun _ => hn) (Nat.zero_le _)
      (by rw [List.append_nil]; omega) (Nat.lt_succ_self _)
    have hsl := certSlices_entries v.certificates [] hc
    rw [List.append_nil] at hcnt hsl
    rw [unmarshalCertificate_fields h _ _ h4 hl, if_neg (by omega), hcnt]
    simp only [if_true, hsl]

theorem marshalCertificate_eq (v : CertificateMsg) :
    marshalCertificate v = [11] ++ (put24 (3 + (certEntries v.certificates).length) ++
      (put24 (certEntries v.certificates).length ++ certEntries v.certificates)) := by
  have := certEntries_length v.certificates
  unfold marshalCertificate
  simp only
  rw [show 3 + 3 * v.certificates.length + totalLen v.certificates = 3 + (certEntries v.certificates).length by omega,
    show 3 + (certEntries v.certificates).length - 3 = (certEntries v.certificates).length by omega]

/-- a list ending in an empty certificate is written by `marshal` and rejected by `unmarshal` (examples in
    Props.C15Codec) -/
theorem unmarshalCertificate_marshalCertificate (v : CertificateMsg) (h : WFCertificate v) :
    unmarshalCertificate (marshalCertificate v) = some v := by
  rw [unmarshalCertificate_iff, marshalCertificate_eq]
  exact ⟨h, [11] ++ put24 (3 + (certEntries v.certificates).length), rfl, by simp only [List.append_assoc]⟩

theorem marshalCertificate_unmarshalCertificate (b : Bytes) (v : CertificateMsg) (h : unmarshalCertificate b = some v) :
    b.drop 4 = (marshalCertificate v).drop 4 := by
  obtain ⟨_, hd, h4, rfl⟩ := (unmarshalCertificate_iff b v).mp h
  rw [List.drop_left' h4, marshalCertificate_eq]
  rfl

theorem unmarshalCertificate_total_bounds (b : Bytes) (v : CertificateMsg) (h : unmarshalCertificate b = some v) :
    ∀ c ∈ v.certificates, c.length + 10 ≤ b.length := by
  obtain ⟨_, hd, h4, rfl⟩ := (unmarshalCertificate_iff b v).mp h
  intro c hc
  have := mem_certEntries_length _ c hc
  simp only [put24, List.length_append, List.length_cons, List.length_nil]; omega

theorem unmarshalCertificate_header_ignored (h1 h2 r : Bytes) (e1 : h1.length = 4) (e2 : h2.length = 4) :
    unmarshalCertificate (h1 ++ r) = unmarshalCertificate (h2 ++ r) := by
  obtain ⟨a1, b1, c1, d1, rfl⟩ := len4 h1 e1
  obtain ⟨a2, b2, c2, d2, rfl⟩ := len4 h2 e2
  simp only [unmarshalCertificate]
  bsimp

theorem unmarshalCertificate_no_trailing (b t : Bytes) (v : CertificateMsg) (h : unmarshalCertificate b = some v)
    (ht : t ≠ []) : unmarshalCertificate (b ++ t) = none := by
  obtain ⟨⟨_, hl, _⟩, hd, h4, rfl⟩ := (unmarshalCertificate_iff b v).mp h
  have : t.length ≠ 0 := by simpa using ht
  rw [List.append_assoc, List.append_assoc, unmarshalCertificate_fields hd _ _ h4 hl,
    if_pos (by simp only [List.length_append]; omega)]

/-- a certificate list whose entries are followed by one, two or three bytes that belong to no entry is rejected,
    also when the list length field and everything before it count those bytes in -/
theorem no_stray_bytes (h : Bytes) (cs : List Bytes) (s : Bytes) (h4 : h.length = 4)
    (hc : ∀ c ∈ cs, c.length < 16777216) (h1 : 1 ≤ s.length) (h3 : s.length ≤ 3)
    (hl : (certEntries cs ++ s).length < 16777216) :
    unmarshalCertificate (h ++ (put24 (certEntries cs ++ s).length ++ (certEntries cs ++ s))) = none := by
  have hs : s ≠ [] := fun e => by rw [e] at h1; exact absurd h1 (by decide)
  rw [unmarshalCertificate_fields h _ _ h4 hl, if_neg (by omega),
    certCount_entries cs s _ hc (fun e => absurd e hs) h3 (by omega) (Nat.lt_succ_self _), if_neg hs]

theorem lastNonempty_iff (cs : List Bytes) : lastNonempty cs ↔ ∀ c, cs.getLast? = some c → c ≠ [] := by
  induction cs with
  | nil => simp [lastNonempty]
  | cons c cs ih =>
    cases cs with
    | nil => simp [lastNonempty]
    | cons c2 cs2 =>
      simp only [lastNonempty]
      rw [ih, List.getLast?_cons_cons]

theorem readU16s_sound (n : Nat) (d : Bytes) (h : 2 * n ≤ d.length) :
    (∀ x ∈ readU16s n d, x < 65536) ∧ writeU16s (readU16s n d) = d.take (2 * n) := by
  induction n generalizing d with
  | zero => simp [readU16s, writeU16s]
  | succ n ih =>
    obtain ⟨a, b, r, rfl⟩ := split2 d (by omega)
    simp only [readU16s]
    bsimp
    obtain ⟨i2, i3⟩ := ih r (by simp only [List.length_cons] at h; omega)
    refine ⟨?_, ?_⟩
    · intro x hx
      rcases List.mem_cons.mp hx with e | e
      · rw [e]; exact get16_lt a b
      · exact i2 x e
    · simp only [writeU16s, put16_get16, i3]
      rw [show 2 * (n + 1) = 2 * n + 1 + 1 by omega]
      rfl

theorem caEntries_length (l : List Bytes) : (caEntries l).length = casLength l := by
  induction l with
  | nil => rfl
  | cons c cs ih => simp only [caEntries, casLength, put16, List.length_append, List.length_cons, List.length_nil, ih]; omega

theorem mem_casLength (l : List Bytes) (c : Bytes) (h : c ∈ l) : c.length + 2 ≤ casLength l := by
  induction l with
  | nil => simp at h
  | cons x xs ih =>
    simp only [casLength]
    rcases List.mem_cons.mp h with e | e
    · subst e; omega
    · have := ih e; omega

theorem caLoop_sound (fuel : Nat) (cas : Bytes) (l : List Bytes) (h : caLoop fuel cas = some l) :
    caEntries l = cas := by
  induction fuel generalizing cas l with
  | zero => simp [caLoop] at h
  | succ fuel ih =>
    unfold caLoop at h
    split at h
    · simp only [Option.ite_none_left_eq_some] at h
      obtain ⟨a, b, r, rfl⟩ := split2 cas (by omega)
      bsimp at h
      obtain ⟨_, hl, h⟩ := h
      split at h
      · rename_i l0 hrec
        cases h
        have htl : (List.take (get16 a b) r).length = get16 a b := List.length_take_of_le (by omega)
        simp only [caEntries, htl, put16_get16, ih _ _ hrec, List.take_append_drop, List.cons_append, List.nil_append]
      · simp at h
    · cases h
      have : cas = [] := List.eq_nil_of_length_eq_zero (by omega)
      subst this
      rfl

theorem caLoop_complete (l : List Bytes) (fuel : Nat) (hc : ∀ c ∈ l, c.length < 65536)
    (hf : (caEntries l).length < fuel) : caLoop fuel (caEntries l) = some l := by
  induction l generalizing fuel with
  | nil =>
    obtain ⟨fuel, rfl⟩ := Nat.exists_eq_add_one_of_ne_zero (by omega : fuel ≠ 0)
    simp [caLoop, caEntries]
  | cons c cs ih =>
    obtain ⟨fuel, rfl⟩ := Nat.exists_eq_add_one_of_ne_zero (by omega : fuel ≠ 0)
    have hc0 : c.length < 65536 := hc c (by simp)
    have hlen : (caEntries (c :: cs)).length = 2 + c.length + (caEntries cs).length := by
      simp only [caEntries, put16, List.length_append, List.length_cons, List.length_nil]; omega
    have ih := ih fuel (fun x hx => hc x (by simp [hx])) (by omega)
    unfold caLoop
    rw [if_pos (by omega), if_neg (by omega)]
    have e : caEntries (c :: cs) = BitVec.ofNat 8 (c.length / 256) :: BitVec.ofNat 8 c.length :: (c ++ caEntries cs) := rfl
    rw [e]
    bsimp
    rw [get16_put16 _ hc0, if_neg (by simp only [List.length_append]; omega), List.drop_left, List.take_left, ih]

theorem unmarshalCAs_iff (d : Bytes) (l : List Bytes) :
    unmarshalCAs d = some l ↔ casLength l < 65536 ∧ d = put16 (casLength l) ++ caEntries l := by
  constructor
  · intro h
    simp only [unmarshalCAs, Option.ite_none_left_eq_some] at h
    obtain ⟨a, b, r, rfl⟩ := split2 d (by omega)
    bsimp at h
    obtain ⟨_, hl, h⟩ := h
    split at h
    · simp at h
    · rename_i l0 hloop
      simp only [Option.ite_none_right_eq_some, Option.some.injEq] at h
      obtain ⟨hz, rfl⟩ := h
      -- nothing is left behind the names, so the 16-bit length covers all of `r`
      have e3 : List.take (get16 a b) r = r := List.take_of_length_le (by rw [List.length_drop] at hz; omega)
      rw [e3] at hloop
      have e := caLoop_sound _ _ _ hloop
      have e4 : casLength l0 = get16 a b := by rw [← caEntries_length, e]; rw [List.length_drop] at hz; omega
      rw [e4, put16_get16, e]
      exact ⟨get16_lt a b, rfl⟩
  · rintro ⟨hl, rfl⟩
    have hc : ∀ c ∈ l, c.length < 65536 := fun c hc => by have := mem_casLength l c hc; omega
    have hlen := caEntries_length l
    simp only [unmarshalCAs, put16]
    bsimp
    rw [get16_put16 _ hl, if_neg (by omega), if_neg (by omega), ← hlen, List.take_length, List.drop_length,
      caLoop_complete l _ hc (by omega)]
    rfl

theorem unmarshalCertTypes_iff (b types rest : Bytes) :
    unmarshalCertTypes b = some (types, rest) ↔
      1 ≤ types.length ∧ types.length < 256 ∧ 1 ≤ rest.length ∧ 1 + types.length + rest.length < 16777216 ∧
      ∃ t : Byte, b = t :: (put24 (1 + types.length + rest.length) ++ (put8 types.length ++ (types ++ rest))) := by
  constructor
  · intro h
    simp only [unmarshalCertTypes, Option.ite_none_left_eq_some, Option.some.injEq, Prod.mk.injEq] at h
    obtain ⟨t, l1, l2, l3, r, rfl⟩ := split4 b (by omega)
    obtain ⟨n, r, rfl⟩ := split1 r (by simp only [List.length_cons] at h; omega)
    bsimp at h
    obtain ⟨_, hl, hn, rfl, rfl⟩ := h
    have e1 : (List.take n.toNat r).length = n.toNat := List.length_take_of_le (by omega)
    have e2 : (List.drop n.toNat r).length = r.length - n.toNat := List.length_drop
    have e : get24 l1 l2 l3 = 1 + n.toNat + (r.length - n.toNat) := by omega
    have hn := n.isLt
    refine ⟨by omega, by omega, by omega, ?_, t, ?_⟩
    · rw [e1, e2, ← e]; exact get24_lt l1 l2 l3
    · rw [e1, e2, ← e, put24_get24, put8_toNat, List.take_append_drop]; rfl
  · rintro ⟨h1, h256, hr, hl, t, rfl⟩
    simp only [unmarshalCertTypes, put24, put8]
    bsimp
    rw [get24_put24 _ hl, toNat_ofNat8 _ h256, if_neg (by simp only [List.length_append]; omega),
      if_neg (by simp only [List.length_append]; omega), if_neg (by simp only [List.length_append]; omega),
      List.take_left, List.drop_left]

/-- what both certificate request parsers accept (and what `marshal` writes without truncating a length) -/
def WFCertificateRequest (v : CertificateRequestMsg) : Prop :=
  1 ≤ v.certificateTypes.length ∧ v.certificateTypes.length < 256 ∧
  (v.hasSignatureAndHash = false → v.supportedSignatureAlgorithms = []) ∧
  (∀ x ∈ v.supportedSignatureAlgorithms, x < 65536) ∧ 2 * v.supportedSignatureAlgorithms.length < 65536 ∧
  casLength v.certificateAuthorities < 65536

/-- what `marshal` writes behind the certificate types: in the TLS 1.2 layout the signature algorithms behind their
    16-bit byte length, then the distinguished names behind theirs -/
def crBody (v : CertificateRequestMsg) : Bytes :=
  (if v.hasSignatureAndHash then
    put16 (v.supportedSignatureAlgorithms.length * 2) ++ writeU16s v.supportedSignatureAlgorithms else []) ++
  (put16 (casLength v.certificateAuthorities) ++ caEntries v.certificateAuthorities)

theorem crBody_length (v : CertificateRequestMsg) :
    (crBody v).length = (if v.hasSignatureAndHash then 2 + 2 * v.supportedSignatureAlgorithms.length else 0) + 2 +
      casLength v.certificateAuthorities := by
  unfold crBody
  cases v.hasSignatureAndHash <;>
    simp only [put16, List.length_append, List.length_cons, List.length_nil, Bool.false_eq_true, if_false, if_true,
      caEntries_length, writeU16s_length] <;> omega

/-- the 24-bit length `marshal` computes is the number of bytes it then writes -/
theorem marshalCertificateRequest_eq (v : CertificateRequestMsg) :
    marshalCertificateRequest v = [13] ++ (put24 (1 + v.certificateTypes.length + (crBody v).length) ++
      (put8 v.certificateTypes.length ++ (v.certificateTypes ++ crBody v))) := by
  obtain ⟨sh, types, algs, cas⟩ := v
  have hl := crBody_length ⟨sh, types, algs, cas⟩
  cases sh
  · simp only [marshalCertificateRequest, hl, Bool.false_eq_true, if_false]
    rw [show 1 + types.length + 2 + casLength cas = 1 + types.length + (0 + 2 + casLength cas) by omega]; rfl
  · simp only [marshalCertificateRequest, hl, if_true]
    rw [show 1 + types.length + 2 + casLength cas + (2 + 2 * algs.length) =
      1 + types.length + (2 + 2 * algs.length + 2 + casLength cas) by omega]; rfl

theorem unmarshalCertificateRequest_iff (sh : Bool) (b : Bytes) (v : CertificateRequestMsg) :
    unmarshalCertificateRequest sh b = some v ↔
      v.hasSignatureAndHash = sh ∧ WFCertificateRequest v ∧ ∃ t : Byte, b = t :: (marshalCertificateRequest v).tail := by
  unfold WFCertificateRequest
  constructor
  · intro h
    unfold unmarshalCertificateRequest at h
    split at h
    · simp at h
    · rename_i types rest hct
      obtain ⟨t1, t256, tr, tl, t, rfl⟩ := (unmarshalCertTypes_iff _ _ _).mp hct
      cases sh
      · simp only [Bool.false_eq_true, if_false] at h
        split at h
        · simp at h
        · rename_i cas hcas
          cases h
          obtain ⟨cl, rfl⟩ := (unmarshalCAs_iff _ _).mp hcas
          refine ⟨rfl, ⟨t1, t256, fun _ => rfl, by simp, by simp, cl⟩, t, ?_⟩
          rw [marshalCertificateRequest_eq]; rfl
      · simp only [if_true, Option.ite_none_left_eq_some] at h
        obtain ⟨a1, a2, r, rfl⟩ := split2 rest (by omega)
        bsimp at h
        obtain ⟨_, heven, hlen, h⟩ := h
        split at h
        · simp at h
        · rename_i cas hcas
          cases h
          obtain ⟨cl, hrest⟩ := (unmarshalCAs_iff _ _).mp hcas
          have hk : 2 * (get16 a1 a2 / 2) = get16 a1 a2 := by omega
          have i1 := readU16s_length (get16 a1 a2 / 2) r
          obtain ⟨i2, i3⟩ := readU16s_sound (get16 a1 a2 / 2) r (by omega)
          rw [hk] at hrest i3
          refine ⟨rfl, ⟨t1, t256, by simp, i2, by rw [i1, hk]; exact get16_lt a1 a2, cl⟩, t, ?_⟩
          have hbody : a1 :: a2 :: r = crBody ⟨true, types, readU16s (get16 a1 a2 / 2) r, cas⟩ := by
            simp only [crBody, if_true, i1, i3, ← hrest]
            rw [Nat.mul_comm, hk, put16_get16, List.append_assoc, List.take_append_drop]; rfl
          rw [hbody, marshalCertificateRequest_eq]; rfl
  · rintro ⟨rfl, ⟨t1, t256, hsa, hx, h2n, hcl⟩, t, rfl⟩
    obtain ⟨sh, types, algs, cas⟩ := v
    simp only at t1 t256 hsa hx h2n hcl
    have hbl := crBody_length ⟨sh, types, algs, cas⟩
    simp only at hbl
    have hct : unmarshalCertTypes (t :: (marshalCertificateRequest ⟨sh, types, algs, cas⟩).tail) =
        some (types, crBody ⟨sh, types, algs, cas⟩) := by
      rw [unmarshalCertTypes_iff, marshalCertificateRequest_eq]
      exact ⟨t1, t256, by omega, by split at hbl <;> omega, t, rfl⟩
    have hcas := (unmarshalCAs_iff (put16 (casLength cas) ++ caEntries cas) cas).mpr ⟨hcl, rfl⟩
    rw [unmarshalCertificateRequest, hct]
    cases sh
    · cases hsa rfl
      simp only [crBody, Bool.false_eq_true, if_false, List.nil_append, hcas]
    · have hwl := writeU16s_length algs
      simp only [crBody, put16, if_true]
      bsimp
      rw [get16_put16 _ (by omega), if_neg (by omega), if_neg (by omega),
        if_neg (by simp only [List.length_append]; omega),
        show algs.length * 2 / 2 = algs.length by omega, readU16s_writeU16s algs _ hx,
        show 2 * algs.length = (writeU16s algs).length by omega, List.drop_left]
      simp only [put16, List.cons_append, List.nil_append] at hcas
      simp only [hcas]

theorem unmarshalCertificateRequest_marshalCertificateRequest (v : CertificateRequestMsg) (h : WFCertificateRequest v) :
    unmarshalCertificateRequest v.hasSignatureAndHash (marshalCertificateRequest v) = some v := by
  rw [unmarshalCertificateRequest_iff]
  exact ⟨rfl, h, 13, rfl⟩

theorem marshalCertificateRequest_unmarshalCertificateRequest (sh : Bool) (b : Bytes) (v : CertificateRequestMsg)
    (h : unmarshalCertificateRequest sh b = some v) : ∃ t : Byte, b = t :: (marshalCertificateRequest v).tail :=
  ((unmarshalCertificateRequest_iff sh b v).mp h).2.2

theorem marshalCertificateRequest_length (v : CertificateRequestMsg) :
    (marshalCertificateRequest v).length = 4 + 1 + v.certificateTypes.length +
      (if v.hasSignatureAndHash then 2 + 2 * v.supportedSignatureAlgorithms.length else 0) + 2 +
      casLength v.certificateAuthorities := by
  rw [marshalCertificateRequest_eq]
  simp only [put24, put8, List.length_append, List.length_cons, List.length_nil, crBody_length]
  omega

theorem unmarshalCertificateRequest_total_bounds (sh : Bool) (b : Bytes) (v : CertificateRequestMsg)
    (h : unmarshalCertificateRequest sh b = some v) :
    v.certificateTypes.length + 7 ≤ b.length ∧ ∀ c ∈ v.certificateAuthorities, c.length + 9 ≤ b.length := by
  obtain ⟨rfl, _, t, rfl⟩ := (unmarshalCertificateRequest_iff sh b v).mp h
  have hl := marshalCertificateRequest_length v
  rw [marshalCertificateRequest_eq] at hl ⊢
  simp only [List.cons_append, List.nil_append, List.tail_cons, List.length_cons] at hl ⊢
  refine ⟨by omega, fun c hc => ?_⟩
  have := mem_casLength _ c hc
  omega

theorem unmarshalCertTypes_no_trailing (b t : Bytes) (p : Bytes × Bytes) (h : unmarshalCertTypes b = some p)
    (ht : t ≠ []) : unmarshalCertTypes (b ++ t) = none := by
  simp only [unmarshalCertTypes, Option.ite_none_left_eq_some] at h
  simp only [unmarshalCertTypes]
  rw [if_neg (by rw [List.length_append]; omega), if_pos (hdr24_trailing b t (by omega) (by omega) ht)]

theorem unmarshalCertificateRequest_no_trailing (sh : Bool) (b t : Bytes) (v : CertificateRequestMsg)
    (h : unmarshalCertificateRequest sh b = some v) (ht : t ≠ []) : unmarshalCertificateRequest sh (b ++ t) = none := by
  unfold unmarshalCertificateRequest at h ⊢
  split at h
  · simp at h
  · rename_i types rest hct
    rw [unmarshalCertTypes_no_trailing b t _ hct ht]

def WFCertificateRequestGM (v : CertificateRequestMsgGM) : Prop :=
  1 ≤ v.certificateTypes.length ∧ v.certificateTypes.length < 256 ∧ casLength v.certificateAuthorities < 65536

/-- the GMSSL request is the pre-TLS-1.2 layout: the same parser, the same bytes -/
theorem unmarshalCertificateRequestGM_eq (b : Bytes) :
    unmarshalCertificateRequestGM b =
      (unmarshalCertificateRequest false b).map fun m => ⟨m.certificateTypes, m.certificateAuthorities⟩ := by
  unfold unmarshalCertificateRequestGM unmarshalCertificateRequest
  cases unmarshalCertTypes b with
  | none => rfl
  | some p =>
    obtain ⟨types, rest⟩ := p
    simp only [Bool.false_eq_true, if_false]
    cases unmarshalCAs rest <;> rfl

theorem marshalCertificateRequestGM_eq (v : CertificateRequestMsgGM) :
    marshalCertificateRequestGM v = marshalCertificateRequest ⟨false, v.certificateTypes, [], v.certificateAuthorities⟩ := by
  simp only [marshalCertificateRequestGM, marshalCertificateRequest, Bool.false_eq_true, if_false, List.nil_append]

theorem unmarshalCertificateRequestGM_iff (b : Bytes) (v : CertificateRequestMsgGM) :
    unmarshalCertificateRequestGM b = some v ↔
      WFCertificateRequestGM v ∧ ∃ t : Byte, b = t :: (marshalCertificateRequestGM v).tail := by
  rw [unmarshalCertificateRequestGM_eq, marshalCertificateRequestGM_eq, Option.map_eq_some_iff]
  constructor
  · rintro ⟨m, hu, rfl⟩
    obtain ⟨hsh, ⟨w1, w2, w3, _, _, w6⟩, t, rfl⟩ := (unmarshalCertificateRequest_iff false _ m).mp hu
    obtain ⟨sh, types, algs, cas⟩ := m
    cases hsh
    cases w3 rfl
    exact ⟨⟨w1, w2, w6⟩, t, rfl⟩
  · rintro ⟨⟨w1, w2, w3⟩, t, rfl⟩
    exact ⟨⟨false, v.certificateTypes, [], v.certificateAuthorities⟩,
      (unmarshalCertificateRequest_iff false _ _).mpr ⟨rfl, ⟨w1, w2, fun _ => rfl, by simp, by simp, w3⟩, t, rfl⟩, rfl⟩

theorem unmarshalCertificateRequestGM_marshalCertificateRequestGM (v : CertificateRequestMsgGM) (h : WFCertificateRequestGM v) :
    unmarshalCertificateRequestGM (marshalCertificateRequestGM v) = some v := by
  rw [unmarshalCertificateRequestGM_iff]
  exact ⟨h, 13, rfl⟩

theorem unmarshalCertificateRequestGM_total_bounds (b : Bytes) (v : CertificateRequestMsgGM)
    (h : unmarshalCertificateRequestGM b = some v) :
    v.certificateTypes.length + 7 ≤ b.length ∧ ∀ c ∈ v.certificateAuthorities, c.length + 9 ≤ b.length := by
  rw [unmarshalCertificateRequestGM_eq, Option.map_eq_some_iff] at h
  obtain ⟨m, hu, rfl⟩ := h
  exact unmarshalCertificateRequest_total_bounds false b m hu

theorem unmarshalCertificateRequestGM_no_trailing (b t : Bytes) (v : CertificateRequestMsgGM)
    (h : unmarshalCertificateRequestGM b = some v) (ht : t ≠ []) : unmarshalCertificateRequestGM (b ++ t) = none := by
  rw [unmarshalCertificateRequestGM_eq, Option.map_eq_some_iff] at h
  obtain ⟨m, hu, _⟩ := h
  rw [unmarshalCertificateRequestGM_eq, unmarshalCertificateRequest_no_trailing false b t m hu ht]; rfl

end Props.C15Codec
