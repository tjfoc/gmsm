/-
C15 (codec part), the hello messages.  Both parsers read the same fixed fields (`helloHead`), then the fields of
their own (`chTail`, `shTail`), then the extension block (`extBlock` over `chExtension` / `shExtension`).

Bounds: every extension keeps the message inside `n` bytes when its body lies inside `n` bytes
(`chExtension_bound`, `shExtension_bound`), so the block does (`extBlock_inv`).
Round trip: `marshal` writes each extension under a condition; read back one after the other (`extLoop_opt_lt`, which
also hands on that the block is shorter than 2^16 bytes, so that every length field fits) they take the message from
what the parser holds after the fixed fields (`chBase`, `shBase`) through `chM1 … chM9` (`shM1 … shM5`) to the value
that was marshalled.
-/
import Gmsm.Props.C15Codec.Simple
namespace Props.C15Codec
open Gmsm Model.TLSMessages Proofs.TLSBytes

theorem sniLoop_bound (fuel : Nat) (d : Bytes) (acc : Option Bytes) (x : Bytes)
    (h : sniLoop fuel d acc = some (some x)) : x.length ≤ d.length ∨ acc = some x := by
  induction fuel generalizing d acc with
  | zero => simp [sniLoop] at h
  | succ fuel ih =>
    unfold sniLoop at h
    split at h
    · simp only [Option.ite_none_left_eq_some] at h
      obtain ⟨_, _, h⟩ := h
      have := List.length_take_le' (get16 (d.getD 1 0) (d.getD 2 0)) (List.drop 3 d)
      have := drop_le (List.drop 3 d) (get16 (d.getD 1 0) (d.getD 2 0))
      have := drop_le d 3
      split at h
      · simp only [Option.ite_none_left_eq_some] at h
        rcases ih _ _ h.2 with e | e
        · left; omega
        · left; cases e; omega
      · rcases ih _ _ h with e | e
        · left; omega
        · right; exact e
    · right; cases h; rfl

theorem protoLoop_bound (fuel : Nat) (d : Bytes) (l : List Bytes) (h : protoLoop fuel d = some l) :
    ∀ p ∈ l, p.length ≤ d.length := by
  induction fuel generalizing d l with
  | zero => simp [protoLoop] at h
  | succ fuel ih =>
    unfold protoLoop at h
    split at h
    · simp only [Option.ite_none_left_eq_some] at h
      obtain ⟨_, h⟩ := h
      split at h
      · rename_i l0 hrec
        cases h
        intro p hp
        have := drop_le d 1
        rcases List.mem_cons.mp hp with e | e
        · have := List.length_take_le' (d.getD 0 0).toNat (List.drop 1 d)
          rw [e]; omega
        · have := ih _ _ hrec p e
          have := drop_le (List.drop 1 d) (d.getD 0 0).toNat
          omega
      · simp at h
    · cases h
      simp

theorem sctLoop_bound (fuel : Nat) (d : Bytes) (l : List Bytes) (h : sctLoop fuel d = some l) :
    ∀ p ∈ l, p.length ≤ d.length := by
  induction fuel generalizing d l with
  | zero => simp [sctLoop] at h
  | succ fuel ih =>
    unfold sctLoop at h
    split at h
    · simp only [Option.ite_none_left_eq_some] at h
      obtain ⟨_, _, h⟩ := h
      split at h
      · rename_i l0 hrec
        cases h
        intro p hp
        have := drop_le d 2
        rcases List.mem_cons.mp hp with e | e
        · have := List.length_take_le' (get16 (d.getD 0 0) (d.getD 1 0)) (List.drop 2 d)
          rw [e]; omega
        · have := ih _ _ hrec p e
          have := drop_le (List.drop 2 d) (get16 (d.getD 0 0) (d.getD 1 0))
          omega
      · simp at h
    · cases h
      simp

theorem renegInfo_bound (length : Nat) (data d : Bytes) (h : renegInfo length data = some d) : d.length ≤ data.length := by
  simp only [renegInfo, Option.ite_none_left_eq_some, Option.some.injEq] at h
  obtain ⟨_, _, rfl⟩ := h
  have := drop_le (List.take length data) 1
  have := List.length_take_le' length data
  omega

/-- every byte string of the message is at most `n` bytes long, every list of 16-bit numbers at most `n / 2` -/
def BoundedClientHello (n : Nat) (m : ClientHelloMsg) : Prop :=
  m.random.length ≤ n ∧ m.sessionId.length ≤ n ∧ m.compressionMethods.length ≤ n ∧ m.serverName.length ≤ n ∧
  m.supportedPoints.length ≤ n ∧ m.sessionTicket.length ≤ n ∧ m.secureRenegotiation.length ≤ n ∧
  (∀ p ∈ m.alpnProtocols, p.length ≤ n) ∧ 2 * m.cipherSuites.length ≤ n ∧ 2 * m.supportedCurves.length ≤ n ∧
  2 * m.supportedSignatureAlgorithms.length ≤ n

theorem chExtension_bound (n : Nat) (m : ClientHelloMsg) (ext length : Nat) (data : Bytes) (m2 : ClientHelloMsg)
    (hd : data.length ≤ n) (hl : length ≤ data.length) (hb : BoundedClientHello n m)
    (h : chExtension m ext length data = some m2) : BoundedClientHello n m2 := by
  have ⟨b1, b2, b3, b4, b5, b6, b7, b8, b9, b10, b11⟩ := hb
  have tl := List.length_take_le' length data
  unfold chExtension at h
  by_cases e0 : ext = 0
  · -- server_name
    rw [if_pos e0] at h
    simp only [Option.ite_none_left_eq_some] at h
    obtain ⟨_, _, h⟩ := h
    split at h
    · simp at h
    · cases h; exact hb
    · rename_i x hs
      cases h
      have := (sniLoop_bound _ _ _ _ hs).resolve_right (by simp)
      have := drop_le (List.take length data) 2
      exact ⟨b1, b2, b3, by show x.length ≤ n; omega, b5, b6, b7, b8, b9, b10, b11⟩
  rw [if_neg e0] at h
  by_cases e1 : ext = 13172
  · -- next_protocol_negotiation
    rw [if_pos e1] at h
    simp only [Option.ite_none_left_eq_some, Option.some.injEq] at h
    obtain ⟨_, rfl⟩ := h
    exact hb
  rw [if_neg e1] at h
  by_cases e2 : ext = 5
  · -- status_request
    rw [if_pos e2] at h
    simp only [Option.ite_none_left_eq_some, Option.some.injEq] at h
    obtain ⟨_, rfl⟩ := h
    exact hb
  rw [if_neg e2] at h
  by_cases e3 : ext = 10
  · -- supported_curves
    rw [if_pos e3] at h
    simp only [Option.ite_none_left_eq_some, Option.some.injEq] at h
    obtain ⟨_, _, rfl⟩ := h
    refine ⟨b1, b2, b3, b4, b5, b6, b7, b8, b9, ?_, b11⟩
    show 2 * (readU16s _ _).length ≤ n
    rw [readU16s_length]; omega
  rw [if_neg e3] at h
  by_cases e4 : ext = 11
  · -- ec_point_formats
    rw [if_pos e4] at h
    simp only [Option.ite_none_left_eq_some, Option.some.injEq] at h
    obtain ⟨_, _, rfl⟩ := h
    refine ⟨b1, b2, b3, b4, ?_, b6, b7, b8, b9, b10, b11⟩
    have := List.length_take_le' (data.getD 0 0).toNat (List.drop 1 data)
    have := drop_le data 1
    show (List.take _ _).length ≤ n
    omega
  rw [if_neg e4] at h
  by_cases e5 : ext = 35
  · -- session_ticket
    rw [if_pos e5] at h
    cases h
    exact ⟨b1, b2, b3, b4, b5, by show (List.take _ _).length ≤ n; omega, b7, b8, b9, b10, b11⟩
  rw [if_neg e5] at h
  by_cases e6 : ext = 13
  · -- signature_algorithms
    rw [if_pos e6] at h
    simp only [Option.ite_none_left_eq_some, Option.some.injEq] at h
    obtain ⟨_, _, rfl⟩ := h
    refine ⟨b1, b2, b3, b4, b5, b6, b7, b8, b9, b10, ?_⟩
    show 2 * (readU16s _ _).length ≤ n
    rw [readU16s_length]; omega
  rw [if_neg e6] at h
  by_cases e7 : ext = 65281
  · -- renegotiation_info
    rw [if_pos e7] at h
    split at h
    · simp at h
    · rename_i d hr
      cases h
      have := renegInfo_bound _ _ _ hr
      exact ⟨b1, b2, b3, b4, b5, b6, by show d.length ≤ n; omega, b8, b9, b10, b11⟩
  rw [if_neg e7] at h
  by_cases e8 : ext = 16
  · -- application_layer_protocol_negotiation
    rw [if_pos e8] at h
    simp only [Option.ite_none_left_eq_some] at h
    obtain ⟨_, _, h⟩ := h
    split at h
    · simp at h
    · rename_i ps hp
      cases h
      refine ⟨b1, b2, b3, b4, b5, b6, b7, ?_, b9, b10, b11⟩
      intro p hp2
      rcases List.mem_append.mp hp2 with e | e
      · exact b8 p e
      · have := protoLoop_bound _ _ _ hp p e
        have := List.length_take_le' (length - 2) (List.drop 2 data)
        have := drop_le data 2
        omega
  rw [if_neg e8] at h
  by_cases e9 : ext = 18
  · -- signed_certificate_timestamp
    rw [if_pos e9] at h
    simp only [Option.ite_none_left_eq_some, Option.some.injEq] at h
    obtain ⟨_, rfl⟩ := h
    exact hb
  rw [if_neg e9] at h
  cases h
  exact hb

/-- `clientHelloMsg.unmarshal` behind the fixed fields: cipher suites, compression methods, extension block -/
def chTail (vers : Nat) (random sessionId data : Bytes) : Option ClientHelloMsg :=
  if data.length < 2 then none else
  let cipherSuiteLen := get16 (data.getD 0 0) (data.getD 1 0)
  if cipherSuiteLen % 2 = 1 ∨ data.length < 2 + cipherSuiteLen then none else
  let cipherSuites := readU16s (cipherSuiteLen / 2) (data.drop 2)
  let data := data.drop (2 + cipherSuiteLen)
  if data.length < 1 then none else
  let compressionMethodsLen := (data.getD 0 0).toNat
  if data.length < 1 + compressionMethodsLen then none else
  extBlock chExtension (data.drop (1 + compressionMethodsLen)) {
    vers := vers, random := random, sessionId := sessionId, cipherSuites := cipherSuites,
    compressionMethods := (data.drop 1).take compressionMethodsLen, nextProtoNeg := false, serverName := [],
    ocspStapling := false, scts := false, supportedCurves := [], supportedPoints := [], ticketSupported := false,
    sessionTicket := [], supportedSignatureAlgorithms := [], secureRenegotiation := [],
    secureRenegotiationSupported := cipherSuites.any (· = 255), alpnProtocols := [] }

theorem unmarshalClientHello_eq (data : Bytes) : unmarshalClientHello data = helloHead chTail data := by
  unfold unmarshalClientHello helloHead chTail extBlock
  simp only [chExtLoop_eq]

theorem chTail_bound (n vers : Nat) (random sid data : Bytes) (m : ClientHelloMsg) (hr : random.length ≤ n)
    (hs : sid.length ≤ n) (hd : data.length ≤ n) (h : chTail vers random sid data = some m) :
    BoundedClientHello n m := by
  simp only [chTail, Option.ite_none_left_eq_some] at h
  obtain ⟨_, hcs, _, _, h⟩ := h
  generalize hd2 : List.drop (2 + get16 (data.getD 0 0) (data.getD 1 0)) data = d2 at h
  have e6 : d2.length ≤ data.length := by rw [← hd2]; exact drop_le _ _
  have := drop_le d2 (1 + (d2.getD 0 0).toNat)
  have := List.length_take_le' (d2.getD 0 0).toNat (List.drop 1 d2)
  have := drop_le d2 1
  refine extBlock_inv chExtension (BoundedClientHello n) n (chExtension_bound n) _ _ _ (by omega) ?_ h
  refine ⟨hr, hs, by show (List.take _ _).length ≤ _; omega, Nat.zero_le _, Nat.zero_le _, Nat.zero_le _,
    Nat.zero_le _, by simp, ?_, Nat.zero_le _, Nat.zero_le _⟩
  show 2 * (readU16s _ _).length ≤ _
  rw [readU16s_length]; omega

/-- whatever `clientHelloMsg.unmarshal` returns lies inside its input -/
theorem unmarshalClientHello_total_bounds (b : Bytes) (m : ClientHelloMsg) (h : unmarshalClientHello b = some m) :
    BoundedClientHello b.length m := by
  rw [unmarshalClientHello_eq] at h
  obtain ⟨vers, random, sid, rest, hr, hs, hd, h⟩ := helloHead_some chTail b m h
  exact chTail_bound _ vers random sid rest m hr hs hd h

/-- every byte string of the message is at most `n` bytes long -/
def BoundedServerHello (n : Nat) (m : ServerHelloMsg) : Prop :=
  m.random.length ≤ n ∧ m.sessionId.length ≤ n ∧ m.secureRenegotiation.length ≤ n ∧ m.alpnProtocol.length ≤ n ∧
  (∀ p ∈ m.nextProtos, p.length ≤ n) ∧ (∀ p ∈ m.scts, p.length ≤ n)

theorem shExtension_bound (n : Nat) (m : ServerHelloMsg) (ext length : Nat) (data : Bytes) (m2 : ServerHelloMsg)
    (hd : data.length ≤ n) (_ : length ≤ data.length) (hb : BoundedServerHello n m)
    (h : shExtension m ext length data = some m2) : BoundedServerHello n m2 := by
  have ⟨b1, b2, b3, b4, b5, b6⟩ := hb
  have tl := List.length_take_le' length data
  unfold shExtension at h
  by_cases e0 : ext = 13172
  · -- next_protocol_negotiation
    rw [if_pos e0] at h
    dsimp only at h
    split at h
    · simp at h
    · rename_i ps hp
      cases h
      refine ⟨b1, b2, b3, b4, ?_, b6⟩
      intro p hp2
      rcases List.mem_append.mp hp2 with e | e
      · exact b5 p e
      · have := protoLoop_bound _ _ _ hp p e
        omega
  rw [if_neg e0] at h
  by_cases e1 : ext = 5
  · -- status_request
    rw [if_pos e1] at h
    simp only [Option.ite_none_left_eq_some, Option.some.injEq] at h
    obtain ⟨_, rfl⟩ := h
    exact hb
  rw [if_neg e1] at h
  by_cases e2 : ext = 35
  · -- session_ticket
    rw [if_pos e2] at h
    simp only [Option.ite_none_left_eq_some, Option.some.injEq] at h
    obtain ⟨_, rfl⟩ := h
    exact hb
  rw [if_neg e2] at h
  by_cases e3 : ext = 65281
  · -- renegotiation_info
    rw [if_pos e3] at h
    split at h
    · simp at h
    · rename_i d hr
      cases h
      have := renegInfo_bound _ _ _ hr
      exact ⟨b1, b2, by show d.length ≤ n; omega, b4, b5, b6⟩
  rw [if_neg e3] at h
  by_cases e4 : ext = 16
  · -- application_layer_protocol_negotiation
    rw [if_pos e4] at h
    simp only [Option.ite_none_left_eq_some, Option.some.injEq] at h
    obtain ⟨_, _, _, _, rfl⟩ := h
    refine ⟨b1, b2, b3, ?_, b5, b6⟩
    have := drop_le (List.drop 2 (List.take length data)) 1
    have := drop_le (List.take length data) 2
    show (List.drop _ _).length ≤ n
    omega
  rw [if_neg e4] at h
  by_cases e5 : ext = 18
  · -- signed_certificate_timestamp
    rw [if_pos e5] at h
    simp only [Option.ite_none_left_eq_some] at h
    obtain ⟨_, _, h⟩ := h
    split at h
    · simp at h
    · rename_i ss hs
      cases h
      refine ⟨b1, b2, b3, b4, b5, ?_⟩
      intro p hp
      have := sctLoop_bound _ _ _ hs p hp
      have := drop_le (List.take length data) 2
      omega
  rw [if_neg e5] at h
  cases h
  exact hb

/-- `serverHelloMsg.unmarshal` behind the fixed fields: cipher suite, compression method, extension block -/
def shTail (vers : Nat) (random sessionId data : Bytes) : Option ServerHelloMsg :=
  if data.length < 3 then none else
  extBlock shExtension (data.drop 3) {
    vers := vers, random := random, sessionId := sessionId, cipherSuite := get16 (data.getD 0 0) (data.getD 1 0),
    compressionMethod := (data.getD 2 0).toNat, nextProtoNeg := false, nextProtos := [], ocspStapling := false,
    scts := [], ticketSupported := false, secureRenegotiation := [], secureRenegotiationSupported := false,
    alpnProtocol := [] }

theorem unmarshalServerHello_eq (data : Bytes) : unmarshalServerHello data = helloHead shTail data := by
  unfold unmarshalServerHello helloHead shTail extBlock
  simp only [shExtLoop_eq, ne_comm]

/-- whatever `serverHelloMsg.unmarshal` returns lies inside its input -/
theorem unmarshalServerHello_total_bounds (b : Bytes) (m : ServerHelloMsg) (h : unmarshalServerHello b = some m) :
    BoundedServerHello b.length m := by
  rw [unmarshalServerHello_eq] at h
  obtain ⟨vers, random, sid, rest, hr, hs, hd, h⟩ := helloHead_some shTail b m h
  simp only [shTail, Option.ite_none_left_eq_some] at h
  have := drop_le rest 3
  exact extBlock_inv shExtension (BoundedServerHello b.length) b.length (shExtension_bound b.length) _ _ _ (by omega)
    ⟨hr, hs, Nat.zero_le _, Nat.zero_le _, by simp, by simp⟩ h.2

theorem npnEntries_eq (l : List Bytes) (hl : ∀ p ∈ l, p.length < 256) : npnEntries l = protoEntries l := by
  induction l with
  | nil => rfl
  | cons c cs ih =>
    have hc : c.length < 256 := hl c (by simp)
    simp only [npnEntries, protoEntries]
    rw [if_neg (by omega), List.take_length, ih (fun x hx => hl x (by simp [hx]))]

theorem protoLoop_complete (l : List Bytes) (fuel : Nat) (hl : ∀ p ∈ l, 1 ≤ p.length ∧ p.length < 256)
    (hf : (protoEntries l).length < fuel) : protoLoop fuel (protoEntries l) = some l := by
  induction l generalizing fuel with
  | nil =>
    obtain ⟨fuel, rfl⟩ := Nat.exists_eq_add_one_of_ne_zero (by omega : fuel ≠ 0)
    rfl
  | cons c cs ih =>
    obtain ⟨fuel, rfl⟩ := Nat.exists_eq_add_one_of_ne_zero (by omega : fuel ≠ 0)
    obtain ⟨c1, c2⟩ := hl c (by simp)
    simp only [protoEntries, put8, List.length_append, List.length_cons, List.length_nil] at hf
    have ih := ih fuel (fun x hx => hl x (by simp [hx])) (by omega)
    simp only [protoLoop, protoEntries, put8]
    bsimp
    rw [toNat_ofNat8 _ c2, if_pos (by omega), if_neg (by simp only [List.length_append]; omega), List.drop_left,
      List.take_left, ih]

theorem sctEntries_length (l : List Bytes) : (sctEntries l).length = sctTotal l := by
  induction l with
  | nil => rfl
  | cons c cs ih => simp only [sctEntries, sctTotal, put16, List.length_append, List.length_cons, List.length_nil, ih]; omega

theorem sctLoop_complete (l : List Bytes) (fuel : Nat) (hl : ∀ s ∈ l, 1 ≤ s.length ∧ s.length < 65536)
    (hf : (sctEntries l).length < fuel) : sctLoop fuel (sctEntries l) = some l := by
  induction l generalizing fuel with
  | nil =>
    obtain ⟨fuel, rfl⟩ := Nat.exists_eq_add_one_of_ne_zero (by omega : fuel ≠ 0)
    rfl
  | cons c cs ih =>
    obtain ⟨fuel, rfl⟩ := Nat.exists_eq_add_one_of_ne_zero (by omega : fuel ≠ 0)
    obtain ⟨c1, c2⟩ := hl c (by simp)
    simp only [sctEntries, put16, List.length_append, List.length_cons, List.length_nil] at hf
    have ih := ih fuel (fun x hx => hl x (by simp [hx])) (by omega)
    simp only [sctLoop, sctEntries, put16]
    bsimp
    rw [get16_put16 _ c2, if_pos (by omega), if_neg (by omega), if_neg (by simp only [List.length_append]; omega),
      List.drop_left, List.take_left, ih]

theorem renegInfo_complete (reneg rest : Bytes) (h : reneg.length < 255) :
    renegInfo (1 + reneg.length) (put8 reneg.length ++ reneg ++ rest) = some reneg := by
  simp only [renegInfo, put8]
  rw [if_neg (by omega), Nat.add_comm 1]
  bsimp
  rw [List.take_left, toNat_ofNat8 _ (by omega), if_neg (by omega)]

theorem shExt_npn (m : ServerHelloMsg) (protos : List Bytes) (rest : Bytes)
    (hl : ∀ p ∈ protos, 1 ≤ p.length ∧ p.length < 256) :
    shExtension m 13172 (protoEntries protos).length (protoEntries protos ++ rest) =
      some { m with nextProtoNeg := true, nextProtos := m.nextProtos ++ protos } := by
  simp only [shExtension, ↓reduceIte]
  rw [List.take_left, protoLoop_complete protos _ hl (by omega)]

theorem shExt_ocsp (m : ServerHelloMsg) (rest : Bytes) :
    shExtension m 5 0 rest = some { m with ocspStapling := true } := by
  simp [shExtension]

theorem shExt_ticket (m : ServerHelloMsg) (rest : Bytes) :
    shExtension m 35 0 rest = some { m with ticketSupported := true } := by
  simp [shExtension]

theorem shExt_reneg (m : ServerHelloMsg) (reneg rest : Bytes) (h : reneg.length < 255) :
    shExtension m 65281 (1 + reneg.length) (put8 reneg.length ++ reneg ++ rest) =
      some { m with secureRenegotiation := reneg, secureRenegotiationSupported := true } := by
  simp only [shExtension, Nat.reduceEqDiff, ↓reduceIte, renegInfo_complete reneg rest h]

theorem shExt_alpn (m : ServerHelloMsg) (alpn rest : Bytes) (h1 : 1 ≤ alpn.length) (h2 : alpn.length < 256) :
    shExtension m 16 (2 + 1 + alpn.length) (put16 (1 + alpn.length) ++ (put8 alpn.length ++ alpn) ++ rest) =
      some { m with alpnProtocol := alpn } := by
  simp only [shExtension, Nat.reduceEqDiff, ↓reduceIte, put16, put8]
  rw [show 2 + 1 + alpn.length = alpn.length + 1 + 1 + 1 by omega]
  bsimp
  rw [List.take_left, get16_put16 _ (by omega), toNat_ofNat8 _ h2, if_neg (by omega), if_neg (by omega),
    if_neg (by omega), if_neg (by omega)]

theorem shExt_sct (m : ServerHelloMsg) (scts : List Bytes) (rest : Bytes)
    (hl : ∀ s ∈ scts, 1 ≤ s.length ∧ s.length < 65536) (ht : sctTotal scts + 2 < 65536) (hne : 0 < sctTotal scts) :
    shExtension m 18 (sctTotal scts + 2) (put16 (sctTotal scts) ++ sctEntries scts ++ rest) =
      some { m with scts := scts } := by
  have hlen := sctEntries_length scts
  simp only [shExtension, Nat.reduceEqDiff, ↓reduceIte, put16]
  bsimp
  rw [← hlen, List.take_left, get16_put16 _ (by omega), if_neg (by omega), if_neg (by omega),
    sctLoop_complete scts _ hl (by omega)]

/-- the values `serverHelloMsg.marshal` writes without truncating a field and `unmarshal` can return -/
def WFServerHello (v : ServerHelloMsg) : Prop :=
  v.vers < 65536 ∧ v.random.length = 32 ∧ v.sessionId.length ≤ 32 ∧ v.cipherSuite < 65536 ∧ v.compressionMethod < 256 ∧
  (v.nextProtoNeg = false → v.nextProtos = []) ∧ (∀ p ∈ v.nextProtos, 1 ≤ p.length ∧ p.length < 256) ∧
  (∀ s ∈ v.scts, 1 ≤ s.length ∧ s.length < 65536) ∧
  (v.secureRenegotiationSupported = false → v.secureRenegotiation = []) ∧ v.secureRenegotiation.length < 255 ∧
  v.alpnProtocol.length < 256 ∧ shExtensionsLength v + 4 * shNumExtensions v < 65536

theorem sctTotal_pos (l : List Bytes) : 0 < sctTotal l ↔ l.length > 0 := by
  cases l with
  | nil => simp [sctTotal]
  | cons c cs => simp [sctTotal]; omega

theorem random32_eq (r : Bytes) (h : r.length = 32) : random32 r = r := by
  unfold random32; rw [List.take_left' h]

theorem cond_len (c : Prop) [Decidable c] (e : Bytes) (n : Nat) (h : c → e.length = n + 4) :
    ((if c then [e] else []).flatten).length = (if c then n else 0) + 4 * (if c then 1 else 0) := by
  by_cases hc : c
  · simp only [if_pos hc, List.flatten_cons, List.flatten_nil, List.append_nil, h hc]
  · simp only [if_neg hc, List.flatten_nil, List.length_nil]

/-- the length `marshal` computes beforehand is the length of what it writes, when no NPN name is cut -/
theorem shExtensions_length (v : ServerHelloMsg) (hnp : ∀ p ∈ v.nextProtos, p.length < 256) :
    (shExtensions v).flatten.length = shExtensionsLength v + 4 * shNumExtensions v := by
  simp only [shExtensions, shExtensionsLength, shNumExtensions, List.flatten_append, List.length_append, sctTotal_pos]
  rw [cond_len _ _ (totalLen v.nextProtos + v.nextProtos.length) (fun _ => by
      simp only [put16, List.length_append, List.length_cons, List.length_nil, npnEntries_eq _ hnp, protoEntries_length]; omega),
    cond_len _ _ 0 (fun _ => rfl), cond_len _ _ 0 (fun _ => rfl),
    cond_len _ _ (1 + v.secureRenegotiation.length) (fun _ => by
      simp only [put16, put8, List.length_append, List.length_cons, List.length_nil]; omega),
    cond_len _ _ (2 + 1 + v.alpnProtocol.length) (fun _ => by
      simp only [put16, put8, List.length_append, List.length_cons, List.length_nil]; omega),
    cond_len _ _ (2 + sctTotal v.scts) (fun _ => by
      simp only [put16, List.length_append, List.length_cons, List.length_nil, sctEntries_length]; omega)]
  simp only [ite_self]
  omega

theorem shExtensions_count (v : ServerHelloMsg) : (shExtensions v).length = shNumExtensions v := by
  simp only [shExtensions, shNumExtensions, List.length_append, apply_ite List.length, List.length_singleton,
    List.length_nil, sctTotal_pos]

/-- the message as `serverHelloMsg.unmarshal` holds it before the first extension, and after each of the first five -/
def shBase (v : ServerHelloMsg) : ServerHelloMsg :=
  { v with nextProtoNeg := false, nextProtos := [], ocspStapling := false, scts := [], ticketSupported := false,
           secureRenegotiation := [], secureRenegotiationSupported := false, alpnProtocol := [] }
def shM1 (v : ServerHelloMsg) : ServerHelloMsg := { shBase v with nextProtoNeg := v.nextProtoNeg, nextProtos := v.nextProtos }
def shM2 (v : ServerHelloMsg) : ServerHelloMsg := { shM1 v with ocspStapling := v.ocspStapling }
def shM3 (v : ServerHelloMsg) : ServerHelloMsg := { shM2 v with ticketSupported := v.ticketSupported }
def shM4 (v : ServerHelloMsg) : ServerHelloMsg :=
  { shM3 v with secureRenegotiation := v.secureRenegotiation, secureRenegotiationSupported := v.secureRenegotiationSupported }
def shM5 (v : ServerHelloMsg) : ServerHelloMsg := { shM4 v with alpnProtocol := v.alpnProtocol }

/-- the renegotiation_info extension, written the same way in both hellos, with its 16-bit length as such -/
theorem renegExt_eq (reneg : Bytes) (h : reneg.length < 255) :
    put16 65281 ++ ([0] ++ (put8 (reneg.length + 1) ++ (put8 reneg.length ++ reneg))) =
      put16 65281 ++ (put16 (1 + reneg.length) ++ (put8 reneg.length ++ reneg)) := by
  rw [Nat.add_comm 1, put16_small (reneg.length + 1) (by omega), List.append_assoc]

theorem extLoop_shExtensions (v : ServerHelloMsg) (h : WFServerHello v) :
    extLoop shExtension ((shExtensions v).flatten.length + 1) (shExtensions v).flatten (shBase v) = some v := by
  obtain ⟨hv, hr, hsid, hcs, hcm, hnp0, hnp, hsct, hrn0, hrn, halpn, hext⟩ := h
  have hnp256 : ∀ p ∈ v.nextProtos, p.length < 256 := fun p hp => (hnp p hp).2
  rw [← shExtensions_length v hnp256] at hext
  revert hext
  rw [← List.append_nil (shExtensions v).flatten]
  simp only [shExtensions, List.flatten_append, List.append_assoc, renegExt_eq _ hrn]
  -- next_protocol_negotiation
  refine extLoop_opt_lt shExtension 13172 _ (npnEntries v.nextProtos) (shM1 v) (fun _ => ?_) (fun c _ => ?_)
    (fun c => ?_) ?_
  · rw [npnEntries_eq _ hnp256, protoEntries_length]
  · rw [npnEntries_eq _ hnp256, ← protoEntries_length, shExt_npn _ _ _ hnp, shM1, c]; rfl
  · have e := Bool.eq_false_iff.mpr c
    have e2 := hnp0 e
    cases v; cases e; cases e2; rfl
  -- status_request
  refine extLoop_opt_lt shExtension 5 0 [] (shM2 v) (fun _ => rfl) (fun c _ => ?_) (fun c => ?_) ?_
  · rw [List.nil_append, shExt_ocsp, shM2, c]
  · have e := Bool.eq_false_iff.mpr c
    cases v; cases e; rfl
  -- session_ticket
  refine extLoop_opt_lt shExtension 35 0 [] (shM3 v) (fun _ => rfl) (fun c _ => ?_) (fun c => ?_) ?_
  · rw [List.nil_append, shExt_ticket, shM3, c]
  · have e := Bool.eq_false_iff.mpr c
    cases v; cases e; rfl
  -- renegotiation_info
  refine extLoop_opt_lt shExtension 65281 _ (put8 v.secureRenegotiation.length ++ v.secureRenegotiation) (shM4 v)
    (fun _ => List.length_append) (fun c _ => ?_) (fun c => ?_) ?_
  · rw [shExt_reneg _ _ _ hrn, shM4, c]
  · have e := Bool.eq_false_iff.mpr c
    have e2 := hrn0 e
    cases v; cases e; cases e2; rfl
  -- application_layer_protocol_negotiation
  refine extLoop_opt_lt shExtension 16 _
    (put16 (1 + v.alpnProtocol.length) ++ (put8 v.alpnProtocol.length ++ v.alpnProtocol)) (shM5 v)
    (fun _ => by simp only [put16, put8, List.length_append, List.length_cons, List.length_nil]; omega)
    (fun c _ => ?_) (fun c => ?_) ?_
  · rw [shExt_alpn _ _ _ (by omega) halpn]; rfl
  · have e := List.eq_nil_of_length_eq_zero (Nat.eq_zero_of_not_pos c)
    cases v; cases e; rfl
  -- signed_certificate_timestamp
  refine extLoop_opt_lt shExtension 18 _ (put16 (sctTotal v.scts) ++ sctEntries v.scts) v
    (fun _ => ?_) (fun c hl => ?_) (fun c => ?_) (fun _ => rfl)
  · simp only [put16, List.length_append, List.length_cons, List.length_nil, sctEntries_length]; omega
  · rw [shExt_sct _ _ _ hsct hl c]
    cases v; rfl
  · cases v with
    | mk _ _ _ _ _ _ _ _ scts _ _ _ _ =>
      cases scts with
      | nil => rfl
      | cons a l => exact absurd (by simp only [sctTotal]; omega) c

theorem shTail_fields (v : ServerHelloMsg) (blk : Bytes) (hcs : v.cipherSuite < 65536) (hcm : v.compressionMethod < 256) :
    shTail v.vers v.random v.sessionId (put16 v.cipherSuite ++ (put8 v.compressionMethod ++ blk)) =
      extBlock shExtension blk (shBase v) := by
  simp only [shTail, put16, put8]
  bsimp
  rw [get16_put16 _ hcs, toNat_ofNat8 _ hcm, if_neg (by omega)]
  rfl

/-- `serverHelloMsg.unmarshal` reads back what `marshal` wrote, all six extensions included -/
theorem unmarshalServerHello_marshalServerHello (v : ServerHelloMsg) (h : WFServerHello v) :
    unmarshalServerHello (marshalServerHello v) = some v := by
  have hloop := extLoop_shExtensions v h
  obtain ⟨hv, hr, hsid, hcs, hcm, hnp0, hnp, hsct, hrn0, hrn, halpn, hext⟩ := h
  unfold marshalServerHello
  simp only [random32_eq _ hr]
  by_cases hn : shNumExtensions v > 0
  · simp only [if_pos hn]
    rw [← shExtensions_length v (fun p hp => (hnp p hp).2)] at hext ⊢
    generalize (shExtensions v).flatten = E at hloop hext ⊢
    -- the buffer `marshal` allocates is filled exactly (`omega` takes several times as long to add this up)
    have hw : ([2] ++ (put24 (38 + v.sessionId.length + (2 + E.length)) ++ (put16 v.vers ++ (v.random ++
        (put8 v.sessionId.length ++ (v.sessionId ++ (put16 v.cipherSuite ++ (put8 v.compressionMethod ++
        (put16 E.length ++ E))))))))).length = 4 + (38 + v.sessionId.length + (2 + E.length)) := by
      simp +arith only [put24, put16, put8, List.length_append, List.length_cons, List.length_nil, hr]
    rw [hw, Nat.sub_self, List.replicate_zero, List.append_nil, ← List.append_assoc [2], unmarshalServerHello_eq,
      helloHead_fields _ _ _ _ _ _ rfl hr hsid hv
        (by simp only [put16, put8, List.length_append, List.length_cons, List.length_nil]; omega),
      shTail_fields v _ hcs hcm, extBlock_put16 _ _ _ hext, hloop]
  · simp only [if_neg hn]
    -- nothing is written, so the loop lemma says that the optional fields are all unset
    rw [List.eq_nil_of_length_eq_zero (by rw [shExtensions_count]; omega : (shExtensions v).length = 0)] at hloop
    have hw : ([2] ++ (put24 (38 + v.sessionId.length) ++ (put16 v.vers ++ (v.random ++
        (put8 v.sessionId.length ++ (v.sessionId ++ (put16 v.cipherSuite ++ (put8 v.compressionMethod ++
        [])))))))).length = 4 + (38 + v.sessionId.length) := by
      simp +arith only [put24, put16, put8, List.length_append, List.length_cons, List.length_nil, hr]
    rw [hw, Nat.sub_self, List.replicate_zero, List.append_nil, ← List.append_assoc [2], unmarshalServerHello_eq,
      helloHead_fields _ _ _ _ _ _ rfl hr hsid hv
        (by simp only [put16, put8, List.length_append, List.length_cons, List.length_nil]; omega),
      shTail_fields v _ hcs hcm, extBlock_nil]
    exact hloop

theorem chExt_npn (m : ClientHelloMsg) (rest : Bytes) :
    chExtension m 13172 0 rest = some { m with nextProtoNeg := true } := by
  simp [chExtension]

theorem sniLoop_host (f : Nat) (name : Bytes) (h0 : 0 < name.length) (h : name.length < 65536) :
    sniLoop (f + 2) ([0] ++ (put16 name.length ++ name)) none = some (some name) := by
  rw [sniLoop]
  simp only [put16]
  bsimp
  rw [get16_put16 _ h, if_pos (by omega), if_neg (by omega), if_neg (by omega),
    if_pos trivial, if_neg (by simp only [Option.isSome_none, Bool.false_eq_true, or_false]; omega), List.take_length,
    List.drop_length]
  rfl

theorem chExtension_sni_list (m : ClientHelloMsg) (list rest : Bytes) (n k : Nat) (hn : list.length = n) (hk : k < 65536) :
    chExtension m 0 (n + 2) (put16 k ++ (list ++ rest)) =
      if n ≠ k then none else
      match sniLoop (n + 1) list none with
      | none => none
      | some none => some m
      | some (some x) => some { m with serverName := x } := by
  subst hn
  have el : (put16 k ++ list).length = list.length + 2 := by
    simp only [put16, List.length_append, List.length_cons, List.length_nil]; omega
  rw [← List.append_assoc]
  simp only [chExtension, ↓reduceIte, List.take_left' el]
  simp only [put16]
  bsimp
  rw [get16_put16 _ hk, if_neg (by omega)]
  rfl

theorem chExt_sni (m : ClientHelloMsg) (name rest : Bytes) (h0 : 0 < name.length) (h : name.length + 5 < 65536) :
    chExtension m 0 (name.length + 5) (put16 (name.length + 3) ++ ([0] ++ (put16 name.length ++ name)) ++ rest) =
      some { m with serverName := name } := by
  have el : (([0] : Bytes) ++ (put16 name.length ++ name)).length = name.length + 3 := by
    simp only [put16, List.length_append, List.length_cons, List.length_nil]; omega
  rw [List.append_assoc, chExtension_sni_list m _ rest _ _ el (by omega), if_neg (by omega),
    sniLoop_host (name.length + 2) name h0 (by omega)]

theorem chExt_ocsp (m : ClientHelloMsg) (rest : Bytes) :
    chExtension m 5 5 ([1, 0, 0, 0, 0] ++ rest) = some { m with ocspStapling := true } := by
  have e : ocspRequestOk ((List.take 5 ([1, 0, 0, 0, 0] ++ rest : Bytes)).drop 1) = true := by
    rw [show (5 : Nat) = ([1, 0, 0, 0, 0] : Bytes).length from rfl, List.take_left]
    decide
  simp only [chExtension, Nat.reduceEqDiff, ↓reduceIte, e]
  rfl

theorem chExt_curves (m : ClientHelloMsg) (curves : List Nat) (rest : Bytes) (hx : ∀ x ∈ curves, x < 65536)
    (hl : 2 + 2 * curves.length < 65536) :
    chExtension m 10 (2 + 2 * curves.length) (put16 (2 * curves.length) ++ writeU16s curves ++ rest) =
      some { m with supportedCurves := curves } := by
  simp only [chExtension, Nat.reduceEqDiff, ↓reduceIte, put16]
  bsimp
  rw [get16_put16 _ (by omega), if_neg (by omega), if_neg (by omega), show 2 * curves.length / 2 = curves.length by omega,
    readU16s_writeU16s curves rest hx]

theorem chExt_points (m : ClientHelloMsg) (points rest : Bytes) (hl : points.length < 256) :
    chExtension m 11 (1 + points.length) (put8 points.length ++ points ++ rest) =
      some { m with supportedPoints := points } := by
  simp only [chExtension, Nat.reduceEqDiff, ↓reduceIte, put8]
  bsimp
  rw [toNat_ofNat8 _ hl, if_neg (by omega), if_neg (by omega), List.take_left]

theorem chExt_ticket (m : ClientHelloMsg) (ticket rest : Bytes) :
    chExtension m 35 ticket.length (ticket ++ rest) = some { m with ticketSupported := true, sessionTicket := ticket } := by
  simp only [chExtension, Nat.reduceEqDiff, ↓reduceIte, List.take_left]

theorem chExt_sigalgs (m : ClientHelloMsg) (algs : List Nat) (rest : Bytes) (hx : ∀ x ∈ algs, x < 65536)
    (hl : 2 + 2 * algs.length < 65536) :
    chExtension m 13 (2 + 2 * algs.length) (put16 (2 * algs.length) ++ writeU16s algs ++ rest) =
      some { m with supportedSignatureAlgorithms := algs } := by
  simp only [chExtension, Nat.reduceEqDiff, ↓reduceIte, put16]
  bsimp
  rw [get16_put16 _ (by omega), if_neg (by omega), if_neg (by omega), show 2 * algs.length / 2 = algs.length by omega,
    readU16s_writeU16s algs rest hx]

theorem chExt_reneg (m : ClientHelloMsg) (reneg rest : Bytes) (h : reneg.length < 255) :
    chExtension m 65281 (1 + reneg.length) (put8 reneg.length ++ reneg ++ rest) =
      some { m with secureRenegotiation := reneg, secureRenegotiationSupported := true } := by
  simp only [chExtension, Nat.reduceEqDiff, ↓reduceIte, renegInfo_complete reneg rest h]

theorem chExt_alpn (m : ClientHelloMsg) (protos : List Bytes) (rest : Bytes)
    (hp : ∀ p ∈ protos, 1 ≤ p.length ∧ p.length < 256) (hl : (protoEntries protos).length + 2 < 65536) :
    chExtension m 16 ((protoEntries protos).length + 2) (put16 (protoEntries protos).length ++ protoEntries protos ++ rest) =
      some { m with alpnProtocols := m.alpnProtocols ++ protos } := by
  simp only [chExtension, Nat.reduceEqDiff, ↓reduceIte, put16]
  bsimp
  rw [get16_put16 _ (by omega), if_neg (by omega), if_neg (by omega), Nat.add_sub_cancel, List.take_left,
    protoLoop_complete protos _ hp (by omega)]

theorem chExt_sct (m : ClientHelloMsg) (rest : Bytes) :
    chExtension m 18 0 rest = some { m with scts := true } := by
  simp [chExtension]

/-- the values `clientHelloMsg.marshal` writes without truncating a field and `unmarshal` reads back as they are;
    the renegotiation flag must be set when the cipher suites contain the signalling value 0x00ff (the parser sets
    it then) -/
def WFClientHello (v : ClientHelloMsg) : Prop :=
  v.vers < 65536 ∧ v.random.length = 32 ∧ v.sessionId.length ≤ 32 ∧
  (∀ x ∈ v.cipherSuites, x < 65536) ∧ 2 * v.cipherSuites.length < 65536 ∧ v.compressionMethods.length < 256 ∧
  (∀ x ∈ v.supportedCurves, x < 65536) ∧ v.supportedPoints.length < 256 ∧
  (v.ticketSupported = false → v.sessionTicket = []) ∧
  (∀ x ∈ v.supportedSignatureAlgorithms, x < 65536) ∧
  (v.secureRenegotiationSupported = false → v.secureRenegotiation = []) ∧ v.secureRenegotiation.length < 255 ∧
  (v.cipherSuites.any (· = 255) = true → v.secureRenegotiationSupported = true) ∧
  (∀ p ∈ v.alpnProtocols, 1 ≤ p.length ∧ p.length < 256) ∧
  (chExtensions v).flatten.length < 65536

/-- the message as `clientHelloMsg.unmarshal` holds it before the first extension, and after each of the first nine -/
def chBase (v : ClientHelloMsg) : ClientHelloMsg :=
  { v with nextProtoNeg := false, serverName := [], ocspStapling := false, scts := false, supportedCurves := [],
           supportedPoints := [], ticketSupported := false, sessionTicket := [], supportedSignatureAlgorithms := [],
           secureRenegotiation := [], secureRenegotiationSupported := v.cipherSuites.any (· = 255), alpnProtocols := [] }
def chM1 (v : ClientHelloMsg) : ClientHelloMsg := { chBase v with nextProtoNeg := v.nextProtoNeg }
def chM2 (v : ClientHelloMsg) : ClientHelloMsg := { chM1 v with serverName := v.serverName }
def chM3 (v : ClientHelloMsg) : ClientHelloMsg := { chM2 v with ocspStapling := v.ocspStapling }
def chM4 (v : ClientHelloMsg) : ClientHelloMsg := { chM3 v with supportedCurves := v.supportedCurves }
def chM5 (v : ClientHelloMsg) : ClientHelloMsg := { chM4 v with supportedPoints := v.supportedPoints }
def chM6 (v : ClientHelloMsg) : ClientHelloMsg :=
  { chM5 v with ticketSupported := v.ticketSupported, sessionTicket := v.sessionTicket }
def chM7 (v : ClientHelloMsg) : ClientHelloMsg :=
  { chM6 v with supportedSignatureAlgorithms := v.supportedSignatureAlgorithms }
def chM8 (v : ClientHelloMsg) : ClientHelloMsg :=
  { chM7 v with secureRenegotiation := v.secureRenegotiation, secureRenegotiationSupported := v.secureRenegotiationSupported }
def chM9 (v : ClientHelloMsg) : ClientHelloMsg := { chM8 v with alpnProtocols := v.alpnProtocols }

theorem extLoop_chExtensions (v : ClientHelloMsg) (h : WFClientHello v) :
    extLoop chExtension ((chExtensions v).flatten.length + 1) (chExtensions v).flatten (chBase v) = some v := by
  obtain ⟨hv, hr, hsid, hcs, hcsl, hcm, hcu, hpt, htk, hsa, hrn0, hrn, hscsv, halpn, hext⟩ := h
  revert hext
  rw [← List.append_nil (chExtensions v).flatten]
  simp only [chExtensions, List.flatten_append, List.append_assoc, renegExt_eq _ hrn]
  -- next_protocol_negotiation
  refine extLoop_opt_lt chExtension 13172 0 [] (chM1 v) (fun _ => rfl) (fun c _ => ?_) (fun c => ?_) ?_
  · rw [List.nil_append, chExt_npn, chM1, c]
  · have e := Bool.eq_false_iff.mpr c
    cases v; cases e; rfl
  -- server_name
  refine extLoop_opt_lt chExtension 0 _
    (put16 (v.serverName.length + 3) ++ ([0] ++ (put16 v.serverName.length ++ v.serverName))) (chM2 v)
    (fun _ => ?_) (fun c hl => ?_) (fun c => ?_) ?_
  · simp only [put16, List.length_append, List.length_cons, List.length_nil]; omega
  · rw [chExt_sni _ _ _ c hl]; rfl
  · have e := List.eq_nil_of_length_eq_zero (Nat.eq_zero_of_not_pos c)
    cases v; cases e; rfl
  -- status_request
  refine extLoop_opt_lt chExtension 5 5 [1, 0, 0, 0, 0] (chM3 v) (fun _ => rfl) (fun c _ => ?_)
    (fun c => ?_) ?_
  · rw [chExt_ocsp, chM3, c]
  · have e := Bool.eq_false_iff.mpr c
    cases v; cases e; rfl
  -- supported_curves
  refine extLoop_opt_lt chExtension 10 _ (put16 (2 * v.supportedCurves.length) ++ writeU16s v.supportedCurves)
    (chM4 v) (fun _ => ?_) (fun c hl => ?_) (fun c => ?_) ?_
  · rw [List.length_append, writeU16s_length]; rfl
  · rw [chExt_curves _ _ _ hcu hl]; rfl
  · have e := List.eq_nil_of_length_eq_zero (Nat.eq_zero_of_not_pos c)
    cases v; cases e; rfl
  -- ec_point_formats
  refine extLoop_opt_lt chExtension 11 _ (put8 v.supportedPoints.length ++ v.supportedPoints) (chM5 v)
    (fun _ => List.length_append) (fun c _ => ?_) (fun c => ?_) ?_
  · rw [chExt_points _ _ _ hpt]; rfl
  · have e := List.eq_nil_of_length_eq_zero (Nat.eq_zero_of_not_pos c)
    cases v; cases e; rfl
  -- session_ticket
  refine extLoop_opt_lt chExtension 35 _ v.sessionTicket (chM6 v) (fun _ => rfl) (fun c _ => ?_) (fun c => ?_) ?_
  · rw [chExt_ticket, chM6, c]
  · have e := Bool.eq_false_iff.mpr c
    have e2 := htk e
    cases v; cases e; cases e2; rfl
  -- signature_algorithms
  refine extLoop_opt_lt chExtension 13 _
    (put16 (2 * v.supportedSignatureAlgorithms.length) ++ writeU16s v.supportedSignatureAlgorithms)
    (chM7 v) (fun _ => ?_) (fun c hl => ?_) (fun c => ?_) ?_
  · rw [List.length_append, writeU16s_length]; rfl
  · rw [chExt_sigalgs _ _ _ hsa hl]; rfl
  · have e := List.eq_nil_of_length_eq_zero (Nat.eq_zero_of_not_pos c)
    cases v; cases e; rfl
  -- renegotiation_info
  refine extLoop_opt_lt chExtension 65281 _ (put8 v.secureRenegotiation.length ++ v.secureRenegotiation) (chM8 v)
    (fun _ => List.length_append) (fun c _ => ?_) (fun c => ?_) ?_
  · rw [chExt_reneg _ _ _ hrn, chM8, c]
  · -- no extension: the flag is unset, so the suites do not hold the signalling value either
    have c2 := Bool.eq_false_iff.mpr c
    have a1 := hrn0 c2
    have a2 : v.cipherSuites.any (· = 255) = false := by
      cases hs : v.cipherSuites.any (· = 255) with
      | false => rfl
      | true => rw [hscsv hs] at c2; cases c2
    cases v
    cases c2
    cases a1
    simp only at a2
    show chM7 _ = { chM7 _ with secureRenegotiation := [], secureRenegotiationSupported := false }
    rw [← a2]; rfl
  -- application_layer_protocol_negotiation
  refine extLoop_opt_lt chExtension 16 _
    (put16 (protoEntries v.alpnProtocols).length ++ protoEntries v.alpnProtocols) (chM9 v)
    (fun _ => ?_) (fun c hl => ?_) (fun c => ?_) ?_
  · simp only [put16, List.length_append, List.length_cons, List.length_nil]; omega
  · rw [chExt_alpn _ _ _ halpn hl]; rfl
  · have e := List.eq_nil_of_length_eq_zero (Nat.eq_zero_of_not_pos c)
    cases v; cases e; rfl
  -- signed_certificate_timestamp
  refine extLoop_opt_lt chExtension 18 0 [] v (fun _ => rfl) (fun c _ => ?_) (fun c => ?_) (fun _ => rfl)
  · rw [List.nil_append, chExt_sct]
    cases v; cases c; rfl
  · cases v; cases Bool.eq_false_iff.mpr c; rfl

/-- the length of the cipher suite list as `marshal` writes it (`byte(len >> 7)`, `byte(len << 1)`) is twice the
    number of suites -/
theorem get16_suites (n : Nat) (h : 2 * n < 65536) :
    get16 (BitVec.ofNat 8 (n / 128)) (BitVec.ofNat 8 (n * 2)) = 2 * n := by
  unfold get16; simp only [BitVec.toNat_ofNat]; omega

theorem drop2 (a b : Byte) (r : Bytes) (n : Nat) : List.drop (2 + n) (a :: b :: r) = List.drop n r :=
  drop_at [a, b] r 2 n rfl

theorem drop1 (a : Byte) (r : Bytes) (n : Nat) : List.drop (1 + n) (a :: r) = List.drop n r :=
  drop_at [a] r 1 n rfl

theorem chTail_fields (v : ClientHelloMsg) (blk : Bytes) (hcs : ∀ x ∈ v.cipherSuites, x < 65536)
    (hcsl : 2 * v.cipherSuites.length < 65536) (hcm : v.compressionMethods.length < 256) :
    chTail v.vers v.random v.sessionId
      ([BitVec.ofNat 8 (v.cipherSuites.length / 128), BitVec.ofNat 8 (v.cipherSuites.length * 2)] ++
        (writeU16s v.cipherSuites ++ (put8 v.compressionMethods.length ++ (v.compressionMethods ++ blk)))) =
      extBlock chExtension blk (chBase v) := by
  have hwl := writeU16s_length v.cipherSuites
  simp only [chTail, put8]
  bsimp
  rw [get16_suites _ hcsl, if_neg (by omega), if_neg (by simp only [List.length_append, List.length_cons]; omega),
    show 2 * v.cipherSuites.length / 2 = v.cipherSuites.length by omega, readU16s_writeU16s _ _ hcs,
    drop2, ← hwl, List.drop_left]
  bsimp
  rw [toNat_ofNat8 _ hcm, if_neg (by omega), if_neg (by simp only [List.length_append]; omega),
    List.take_left, drop1, List.drop_left]
  rfl

/-- `clientHelloMsg.unmarshal` reads back what `marshal` wrote, all ten extensions included -/
theorem unmarshalClientHello_marshalClientHello (v : ClientHelloMsg) (h : WFClientHello v) :
    unmarshalClientHello (marshalClientHello v) = some v := by
  have hloop := extLoop_chExtensions v h
  obtain ⟨hv, hr, hsid, hcs, hcsl, hcm, hcu, hpt, htk, hsa, hrn0, hrn, hscsv, halpn, hext⟩ := h
  have hwl := writeU16s_length v.cipherSuites
  unfold marshalClientHello
  simp only [random32_eq _ hr]
  rw [← List.append_assoc [1], unmarshalClientHello_eq, helloHead_fields _ _ _ _ _ _ rfl hr hsid hv
    (by simp only [put8, List.length_append, List.length_cons, List.length_nil]; omega), chTail_fields v _ hcs hcsl hcm]
  by_cases hn : (chExtensions v).length > 0
  · rw [if_pos hn, extBlock_put16 _ _ _ hext, hloop]
  · -- nothing is written, so the loop lemma says that the optional fields are all unset
    rw [List.eq_nil_of_length_eq_zero (by omega : (chExtensions v).length = 0)] at hloop
    rw [if_neg hn, extBlock_nil]
    exact hloop

end Props.C15Codec
