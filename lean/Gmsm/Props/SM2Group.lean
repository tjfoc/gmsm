/-
SM2 over the executable specification: the theorems of C01 / C02 / C13 with their group-law hypotheses discharged
(what remains are range hypotheses on keys and nonces).

`Proofs.SM2Affine` shows that `Spec.SM2.padd` / `smul` are the group law of the curve over `ZMod p`
(Mathlib's `WeierstrassCurve.Affine.Point`); `Props.C03.nG_zero` (kernel evaluation) gives [n]G = O and
`Proofs.SM2Prime` that n is prime, so G has order exactly n.  From this: scalar multiplications commute and
scalars of G may be reduced modulo n; `decrypt_encrypt`; `kex_agree` (the hypothesis `hV` of
`Props.C13.outputs_from_V` is discharged); `verify_signWith`.

Scalars are bounded by 2^600 (the fuel of the spec's double-and-add); in the spec all scalars are < n < 2^256.
-/
import Gmsm.Proofs.SM2Affine
import Gmsm.Proofs.BytesNat
import Gmsm.Proofs.Modes
import Gmsm.Props.C01
import Gmsm.Props.C02
import Gmsm.Props.C03
import Gmsm.Props.C13
import Mathlib.GroupTheory.OrderOfElement

set_option exponentiation.threshold 700
namespace Props.SM2Group
open Gmsm Spec.SM2 Proofs.SM2Affine

theorem order_G : n • pt G = 0 := by
  have h := pt_smul valid_G n_lt
  rw [Props.C03.nG_zero, pt_none] at h
  exact h.symm

theorem pt_G_ne_zero : pt G ≠ 0 := pt_some_ne_zero valid_G

theorem addOrderOf_G : addOrderOf (pt G) = n := addOrderOf_eq_prime order_G pt_G_ne_zero

theorem nsmul_G_eq_zero_iff (k : Nat) : k • pt G = 0 ↔ n ∣ k := by
  rw [← addOrderOf_G]; exact addOrderOf_dvd_iff_nsmul_eq_zero.symm

theorem nsmul_G_inj {i j : Nat} (hi : i < n) (hj : j < n) (h : i • pt G = j • pt G) : i = j :=
  nsmul_injOn_Iio_addOrderOf (Set.mem_Iio.mpr (addOrderOf_G ▸ hi)) (Set.mem_Iio.mpr (addOrderOf_G ▸ hj)) h

theorem order_mul_G (m : Nat) : n • (m • pt G) = 0 := by
  rw [← mul_nsmul, Nat.mul_comm, mul_nsmul, order_G, nsmul_zero]

theorem mod_nsmul_G (k m : Nat) : (k % n) • (m • pt G) = k • (m • pt G) :=
  Props.C01.smul_mod_order n _ (order_mul_G m) k

theorem smul_G_ne_none {k : Nat} (h0 : 0 < k) (hk : k < n) : smul k G ≠ none := by
  intro h
  have h1 := pt_smul valid_G (lt_of_lt_n hk)
  rw [h, pt_none] at h1
  have := (nsmul_G_eq_zero_iff k).mp h1.symm
  exact absurd (Nat.le_of_dvd h0 this) (by omega)

theorem smul_G_some {k : Nat} (h0 : 0 < k) (hk : k < n) :
    ∃ x y, smul k G = some (x, y) ∧ Valid (some (x, y)) := by
  have hv : Valid (smul k G) := smul_valid valid_G (lt_of_lt_n hk)
  cases hh : smul k G with
  | none => exact absurd hh (smul_G_ne_none h0 hk)
  | some xy => exact ⟨xy.1, xy.2, rfl, hh ▸ hv⟩

theorem smul_smul_comm {P : Pt} (hP : Valid P) {a b : Nat} (ha : a < 2 ^ 600) (hb : b < 2 ^ 600) :
    smul a (smul b P) = smul b (smul a P) := by
  apply pt_inj (smul_valid (smul_valid hP hb) ha) (smul_valid (smul_valid hP ha) hb)
  rw [pt_smul (smul_valid hP hb) ha, pt_smul hP hb, pt_smul (smul_valid hP ha) hb, pt_smul hP ha,
    ← mul_nsmul, ← mul_nsmul, Nat.mul_comm]

theorem smul_smul_comm_G {a b : Nat} (ha : a < 2 ^ 600) (hb : b < 2 ^ 600) :
    smul a (smul b G) = smul b (smul a G) := smul_smul_comm valid_G ha hb

theorem smul_mul_mod_of_order {P : Pt} (hP : Valid P) (hn : n • pt P = 0) {a b : Nat} (ha : a < 2 ^ 600)
    (hb : b < 2 ^ 600) : smul (a * b % n) P = smul a (smul b P) := by
  have hab : a * b % n < 2 ^ 600 := lt_of_lt_n (Nat.mod_lt _ n_pos)
  apply pt_inj (smul_valid hP hab) (smul_valid (smul_valid hP hb) ha)
  rw [pt_smul hP hab, pt_smul (smul_valid hP hb) ha, pt_smul hP hb, ← mul_nsmul,
    Props.C01.smul_mod_order n _ hn, Nat.mul_comm]

theorem smul_mul_mod_G {a b : Nat} (ha : a < 2 ^ 600) (hb : b < 2 ^ 600) :
    smul (a * b % n) G = smul a (smul b G) := smul_mul_mod_of_order valid_G order_G ha hb

theorem smul_mod_of_order {P : Pt} (hP : Valid P) (hn : n • pt P = 0) {k : Nat} (hk : k < 2 ^ 600) :
    smul (k % n) P = smul k P := by
  have hk' : k % n < 2 ^ 600 := lt_of_lt_n (Nat.mod_lt _ n_pos)
  apply pt_inj (smul_valid hP hk') (smul_valid hP hk)
  rw [pt_smul hP hk', pt_smul hP hk, Props.C01.smul_mod_order n _ hn]

theorem smul_mod_G {k : Nat} (hk : k < 2 ^ 600) : smul (k % n) G = smul k G :=
  smul_mod_of_order valid_G order_G hk

/-- library coordinates ↔ spec point round trip for valid points -/
theorem dec_enc {P : Pt} (hP : Valid P) : dec (enc P).1 (enc P).2 = P := by
  match P, hP with
  | none, _ => rfl
  | some (x, y), hP =>
    have : ¬ (x = 0 ∧ y = 0) := by
      rintro ⟨rfl, rfl⟩
      have := hP.2.2
      rw [Props.C13.infinity_not_on_curve] at this
      exact absurd this (by simp)
    simp only [enc, dec, this, if_false]

theorem b32_length (v : Nat) : (b32 v).length = 32 := i2ospR_length 32 v

theorem os2ip_b32 {v : Nat} (h : v < p) : os2ip (b32 v) = v :=
  os2ip_i2ospR_of_lt 32 v (Nat.lt_trans h (by decide))

theorem parseCt_c1c3c2 {x1 y1 : Nat} (hx : x1 < p) (hy : y1 < p) (c3 c2 : Bytes) (h3 : c3.length = 32) :
    parseCt (0x04 :: (b32 x1 ++ b32 y1 ++ c3 ++ c2)) .c1c3c2 = (x1, y1, c3, c2) := by
  unfold parseCt
  simp only [List.drop_succ_cons, List.drop_zero, List.append_assoc]
  rw [List.take_left' (b32_length x1)]
  rw [show (64 : Nat) = 32 + 32 from rfl, ← List.drop_drop]
  rw [List.drop_left' (b32_length x1), List.take_left' (b32_length y1), List.drop_left' (b32_length y1),
    List.take_left' h3, List.drop_left' h3, os2ip_b32 hx, os2ip_b32 hy]

theorem parseCt_c1c2c3 {x1 y1 : Nat} (hx : x1 < p) (hy : y1 < p) (c3 c2 : Bytes) (h3 : c3.length = 32) :
    parseCt (0x04 :: (b32 x1 ++ b32 y1 ++ c2 ++ c3)) .c1c2c3 = (x1, y1, c3, c2) := by
  unfold parseCt
  simp only [List.drop_succ_cons, List.drop_zero, List.append_assoc]
  rw [List.take_left' (b32_length x1)]
  rw [show (64 : Nat) = 32 + 32 from rfl, ← List.drop_drop]
  rw [List.drop_left' (b32_length x1), List.take_left' (b32_length y1), List.drop_left' (b32_length y1)]
  have hl : (c2 ++ c3).length - 32 = c2.length := by rw [List.length_append, h3]; omega
  rw [hl, List.take_left' rfl, List.drop_left' rfl, os2ip_b32 hx, os2ip_b32 hy]

/-- decryption of well-formed components: with C1 = (x1, y1) on the curve and reduced, shared point
    [d]C1 = (x2, y2), C2 = M ⊕ KDF(x2‖y2) (KDF output not all zero) and C3 = SM3(x2‖M‖y2), the
    plaintext is recovered -/
theorem decryptParsed_ok (d x1 y1 x2 y2 : Nat) (msg : Bytes) (hx : x1 < p) (hy : y1 < p)
    (hc : onCurve x1 y1 = true) (hsh : enc (smul d (dec x1 y1)) = (x2, y2))
    (hz : ¬ ((kdf (b32 x2 ++ b32 y2) msg.length).all (· == 0)) = true) :
    decryptParsed d x1 y1 (Spec.SM3.hash (b32 x2 ++ msg ++ b32 y2))
      (xorBytes msg (kdf (b32 x2 ++ b32 y2) msg.length)) = some msg := by
  have hlen : (xorBytes msg (kdf (b32 x2 ++ b32 y2) msg.length)).length = msg.length := by
    rw [Proofs.Modes.xorBytes_length, Props.C02.kdf_length, Nat.min_self]
  have hcancel : xorBytes (xorBytes msg (kdf (b32 x2 ++ b32 y2) msg.length))
      (kdf (b32 x2 ++ b32 y2) msg.length) = msg :=
    Proofs.Modes.xor_cancel_right _ _ (by rw [Props.C02.kdf_length])
  unfold decryptParsed
  simp only [hx, hy, decide_true, Bool.and_self, Bool.not_true, Bool.false_eq_true, if_false]
  rw [Nat.mod_eq_of_lt hx, Nat.mod_eq_of_lt hy, hc, hsh]
  simp only [Bool.not_true, Bool.false_eq_true, if_false, hlen, hz, hcancel, if_true]

/-- any private key d < 2^600 (public key P = [d]G as the library reports it, (0,0) for
    infinity), nonce 0 < k < n: whenever `encryptWith` returns a ciphertext (i.e. the KDF output is not
    all zero; in particular the message is non-empty), `decrypt` with d returns the message — for
    both orderings C1‖C3‖C2 and C1‖C2‖C3. -/
theorem decrypt_encrypt_gen (d k : Nat) (msg ct : Bytes) (ord : Order) (hd : d < 2 ^ 600)
    (hk0 : 0 < k) (hk : k < n)
    (h : encryptWith (enc (smul d G)).1 (enc (smul d G)).2 msg k ord = some ct) :
    decrypt d ct ord = some msg := by
  have hk600 := lt_of_lt_n hk
  have hvP : Valid (smul d G) := smul_valid valid_G hd
  have hvC : Valid (smul k G) := smul_valid valid_G hk600
  obtain ⟨x1, y1, hC1, hx, hy, hc⟩ := smul_G_some hk0 hk
  -- the shared point computed by the receiver is the sender's
  have hshared : smul d (dec x1 y1) = smul k (dec (enc (smul d G)).1 (enc (smul d G)).2) := by
    rw [dec_enc hvP]
    have : dec x1 y1 = smul k G := by
      have := dec_enc hvC
      rw [hC1] at this
      rw [hC1]; exact this
    rw [this]
    exact smul_smul_comm valid_G hd hk600
  unfold encryptWith at h
  rw [hC1, ← hshared] at h
  generalize hsh : enc (smul d (dec x1 y1)) = sh at h
  obtain ⟨x2, y2⟩ := sh
  simp only [enc] at h
  by_cases hz : ((kdf (b32 x2 ++ b32 y2) msg.length).all (· == 0)) = true
  · rw [if_pos hz] at h; exact absurd h (by simp)
  · rw [if_neg hz] at h
    cases ord with
    | c1c3c2 =>
      simp only [Option.some.injEq] at h
      subst h
      unfold decrypt
      rw [if_neg (by simp [b32_length, Props.C04.hash_length]; omega),
        parseCt_c1c3c2 hx hy _ _ (Props.C04.hash_length _)]
      exact decryptParsed_ok d x1 y1 x2 y2 msg hx hy hc hsh hz
    | c1c2c3 =>
      simp only [Option.some.injEq] at h
      subst h
      unfold decrypt
      rw [if_neg (by simp [b32_length, Props.C04.hash_length]; omega),
        parseCt_c1c2c3 hx hy _ _ (Props.C04.hash_length _)]
      exact decryptParsed_ok d x1 y1 x2 y2 msg hx hy hc hsh hz

/-- C02 `decrypt_encrypt`: for every private key 1 ≤ d < n and nonce 1 ≤ k < n, decryption of the
    ciphertext returned by `encryptWith` under the public key [d]G returns the message. -/
theorem decrypt_encrypt (d k : Nat) (msg ct : Bytes) (ord : Order) (hd : 1 ≤ d ∧ d < n)
    (hk : 1 ≤ k ∧ k < n)
    (h : encryptWith (enc (smul d G)).1 (enc (smul d G)).2 msg k ord = some ct) :
    decrypt d ct ord = some msg :=
  decrypt_encrypt_gen d k msg ct ord (lt_of_lt_n hd.2) hk.1 hk.2 h

theorem enc_smul_G_valid {k : Nat} (h0 : 0 < k) (hk : k < n) :
    Valid (some ((enc (smul k G)).1, (enc (smul k G)).2)) := by
  obtain ⟨x, y, e, hv⟩ := smul_G_some h0 hk
  rw [e]; exact hv

theorem xbar_lt (x : Nat) : xbar x < 2 ^ 600 :=
  Nat.lt_trans (Props.C13.xbar_range x).2 (Nat.pow_lt_pow_right (by decide) (by decide))

/-- the point V computed by a party with secrets (d, r) from the peer's [dP]G, [rP]G, in the group -/
theorem pt_kex_point (t dP rP xP : Nat) (ht : t < 2 ^ 600) (hdP : dP < 2 ^ 600) (hrP : rP < 2 ^ 600)
    (hxP : xP < 2 ^ 600) :
    Valid (smul t (padd (smul dP G) (smul xP (smul rP G)))) ∧
    pt (smul t (padd (smul dP G) (smul xP (smul rP G)))) = t • ((dP + xP * rP) • pt G) := by
  have v1 := smul_valid valid_G hdP
  have v2 := smul_valid valid_G hrP
  have v3 := smul_valid v2 hxP
  have v4 := padd_valid v1 v3
  refine ⟨smul_valid v4 ht, ?_⟩
  rw [pt_smul v4 ht, pt_padd v1 v3, pt_smul valid_G hdP, pt_smul v2 hxP, pt_smul valid_G hrP,
    ← mul_nsmul, Nat.mul_comm rP xP, add_nsmul]

/-- C13 `kex_agree`: honest parties — long-term keys P_A = [d_A]G, P_B = [d_B]G, ephemeral points
    R_A = [r_A]G, R_B = [r_B]G with r_A, r_B ∈ [1, n−1] — obtain identical results (K, S1, S2), or both
    the same error, from `kex` in role A (own d_A, r_A; peer P_B, R_B) and role B (own d_B, r_B; peer
    P_A, R_A). -/
theorem kex_agree (klen : Nat) (ida idb : Bytes) (dA rA dB rB : Nat)
    (hdA : dA < n) (hrA : 1 ≤ rA ∧ rA < n) (hdB : dB < n) (hrB : 1 ≤ rB ∧ rB < n) :
    kex klen ida idb dA rA (enc (smul dB G)) (enc (smul rB G))
        (enc (smul dA G)) (enc (smul dB G)) (enc (smul rA G)) (enc (smul rB G)) =
    kex klen ida idb dB rB (enc (smul dA G)) (enc (smul rA G))
        (enc (smul dA G)) (enc (smul dB G)) (enc (smul rA G)) (enc (smul rB G)) := by
  have vA := enc_smul_G_valid hrA.1 hrA.2
  have vB := enc_smul_G_valid hrB.1 hrB.2
  apply Props.C13.outputs_from_V klen ida idb dA rA dB rB _ _ _ _ vA.2.2 vB.2.2 ⟨vA.1, vA.2.1⟩
    ⟨vB.1, vB.2.1⟩
  have hdA' := lt_of_lt_n hdA
  have hdB' := lt_of_lt_n hdB
  have hrA' := lt_of_lt_n hrA.2
  have hrB' := lt_of_lt_n hrB.2
  rw [dec_enc (smul_valid valid_G hdA'), dec_enc (smul_valid valid_G hdB'),
    dec_enc (smul_valid valid_G hrA'), dec_enc (smul_valid valid_G hrB')]
  have htA : (dA + xbar (enc (smul rA G)).1 * rA) % n < 2 ^ 600 := lt_of_lt_n (Nat.mod_lt _ n_pos)
  have htB : (dB + xbar (enc (smul rB G)).1 * rB) % n < 2 ^ 600 := lt_of_lt_n (Nat.mod_lt _ n_pos)
  obtain ⟨vA, eA⟩ := pt_kex_point _ dB rB (xbar (enc (smul rB G)).1) htA hdB' hrB' (xbar_lt _)
  obtain ⟨vB, eB⟩ := pt_kex_point _ dA rA (xbar (enc (smul rA G)).1) htB hdA' hrA' (xbar_lt _)
  apply pt_inj vA vB
  rw [eA, eB, mod_nsmul_G, mod_nsmul_G, ← mul_nsmul, ← mul_nsmul, Nat.mul_comm]

/-- the signing equation in `ZMod n`: s·(1+d) = k − r·d -/
theorem sign_equation (d k r : Nat) (hd : d + 1 < n) :
    ((invMod ((1 + d) % n) n * ((k + n * n - r * d % n) % n) % n : Nat) : ZMod n) *
      ((1 + d : Nat) : ZMod n) = (k : ZMod n) - (r : ZMod n) * (d : ZMod n) := by
  have hne : ((1 + d : Nat) : ZMod n) ≠ 0 := by
    rw [Ne, ZMod.natCast_eq_zero_iff]
    intro h
    exact absurd (Nat.le_of_dvd (by omega) h) (by omega)
  have hle : r * d % n ≤ k + n * n := by
    have := Nat.mod_lt (r * d) n_pos
    have : n ≤ n * n := Nat.le_mul_of_pos_left n n_pos
    omega
  have hne2 : (1 : ZMod n) + (d : ZMod n) ≠ 0 := by simpa using hne
  rw [ZMod.natCast_mod, Nat.cast_mul, invMod_eq_inv _ n n_gt2 n_lt, ZMod.natCast_mod, ZMod.natCast_mod,
    Nat.cast_sub hle, ZMod.natCast_mod]
  simp only [Nat.cast_add, Nat.cast_mul, Nat.cast_one, ZMod.natCast_self]
  field_simp
  ring

/-- C01 `verify_signWith`: if one signing attempt with private key d (d + 1 < n, so 1 + d is
    invertible mod n), digest value e and nonce k ∈ [1, n−1] returns (r, s), then (r, s) verifies for e
    under the public key [d]G. -/
theorem verify_signWith (d e k r s : Nat) (hd : d + 1 < n) (hk : 1 ≤ k ∧ k < n)
    (h : signWith d e k = some (r, s)) :
    verifyE (enc (smul d G)).1 (enc (smul d G)).2 e r s = true := by
  have hk600 := lt_of_lt_n hk.2
  have hd600 : d < 2 ^ 600 := lt_of_lt_n (by omega)
  have hvP : Valid (smul d G) := smul_valid valid_G hd600
  unfold signWith at h
  generalize hC1 : enc (smul k G) = c1 at h
  obtain ⟨x1, y1⟩ := c1
  simp only at h
  by_cases hr : (e + x1) % n = 0 ∨ (e + x1) % n + k = n
  · rw [if_pos hr] at h; exact absurd h (by simp)
  rw [if_neg hr] at h
  by_cases hs0 : invMod ((1 + d) % n) n * ((k + n * n - (e + x1) % n * d % n) % n) % n = 0
  · rw [if_pos hs0] at h; exact absurd h (by simp)
  rw [if_neg hs0] at h
  simp only [Option.some.injEq, Prod.mk.injEq] at h
  obtain ⟨hr_eq, hs_eq⟩ := h
  have heq := sign_equation d k r hd
  rw [← hr_eq] at heq
  rw [hs_eq] at heq hs0
  rw [hr_eq] at hr
  have hr_lt : r < n := hr_eq ▸ Nat.mod_lt _ n_pos
  have hs_lt : s < n := hs_eq ▸ Nat.mod_lt _ n_pos
  rw [hr_eq] at heq
  have ht : (r + s) % n ≠ 0 := by
    intro ht
    have h1 : ((r + s : Nat) : ZMod n) = 0 := by
      rw [ZMod.natCast_eq_zero_iff]; exact Nat.dvd_of_mod_eq_zero ht
    have h2 : ((r + k : Nat) : ZMod n) = 0 := by
      push_cast at h1 heq ⊢
      linear_combination (1 + (d : ZMod n)) * h1 - heq
    rw [ZMod.natCast_eq_zero_iff] at h2
    exact hr (Or.inr (Nat.eq_of_dvd_of_lt_two_mul (by omega) h2 (by omega)))
  -- the verifier's point is the signer's [k]G
  have hpoint : padd (smul s G) (smul ((r + s) % n) (dec (enc (smul d G)).1 (enc (smul d G)).2))
      = smul k G := by
    rw [dec_enc hvP]
    have hs600 := lt_of_lt_n hs_lt
    have ht600 : (r + s) % n < 2 ^ 600 := lt_of_lt_n (Nat.mod_lt _ n_pos)
    have v1 := smul_valid valid_G hs600
    have v2 := smul_valid hvP ht600
    apply pt_inj (padd_valid v1 v2) (smul_valid valid_G hk600)
    rw [pt_padd v1 v2, pt_smul valid_G hs600, pt_smul hvP ht600, pt_smul valid_G hd600,
      pt_smul valid_G hk600]
    exact Props.C01.verify_sign n (pt G) order_G d k r s heq
  unfold verifyE
  rw [if_neg (by omega)]
  simp only
  rw [if_neg ht, hpoint, hC1]
  simp only [beq_iff_eq]
  exact hr_eq

/-! the hypotheses `signWith … = some _`, `encryptWith … = some _` are satisfiable -/

/-- multiples of G may be evaluated in Jacobian coordinates -/
theorem enc_smul_G {k : Nat} (hk : k < 2 ^ 600) :
    enc (smul k G) = Model.SM2Curve.toAffine (Proofs.SM2Jacobian.jmul k (Model.SM2Curve.fromAffine gx gy)) :=
  Proofs.SM2Jacobian.enc_smul_eq_jmul (x := gx) (y := gy) valid_G hk

/-- the point the sender shares with the holder of `d`: [k][d]G = [k·d mod n]G -/
theorem smul_dec_enc_G {d k : Nat} (hd : d < 2 ^ 600) (hk : k < 2 ^ 600) :
    smul k (dec (enc (smul d G)).1 (enc (smul d G)).2) = smul (k * d % n) G := by
  rw [dec_enc (smul_valid valid_G hd), smul_mul_mod_G hk hd]

example : (signWith 12345 67890 424242).isSome = true := by
  rw [signWith, enc_smul_G (by decide)]
  decide +kernel

example : (encryptWith (enc (smul 12345 G)).1 (enc (smul 12345 G)).2 [0x61, 0x62, 0x63] 424242
    .c1c3c2).isSome = true := by
  have hd : 12345 < 2 ^ 600 := by decide
  have hk : 424242 < 2 ^ 600 := by decide
  rw [encryptWith, smul_dec_enc_G hd hk, enc_smul_G hk, enc_smul_G (lt_of_lt_n (Nat.mod_lt _ n_pos))]
  decide +kernel

end Props.SM2Group
