/-
C01 — SM2 signatures are complete, sound and match GM/T 0003.2.

`Spec.SM2` is the standard's algorithm (validated on the standard's example); the real code is compared
with it on every run (sm2sign/sm2signder/sm2verify/sm2verifyder).  Theorems here:
 * the algebra of the scheme over ANY commutative group of prime order (completeness: verify ∘ sign),
 * range checks, the exact characterisation of which altered messages/IDs are accepted,
 * strict DER: encode/decode round trip of SEQUENCE{INTEGER r, INTEGER s}.
-/
import Gmsm.Spec.SM2
import Gmsm.Spec.DER
import Gmsm.Proofs.DER
import Mathlib.Data.ZMod.Basic
import Mathlib.Algebra.Module.Basic
import Mathlib.Tactic.Ring
import Mathlib.Tactic.FieldSimp
import Mathlib.Tactic.LinearCombination
namespace Props.C01
open Gmsm Spec.SM2

theorem verifyE_eq (px py e r s : Nat) :
    verifyE px py e r s =
      if r < 1 ∨ s < 1 ∨ r ≥ n ∨ s ≥ n then false
      else if (r + s) % n = 0 then false
      else (e + (enc (padd (smul s G) (smul ((r + s) % n) (dec px py)))).1) % n == r := rfl

/-- r or s outside [1, n−1], or r + s ≡ 0 (mod n), is rejected whatever the rest is -/
theorem verify_range (px py e r s : Nat) (h : r < 1 ∨ s < 1 ∨ r ≥ n ∨ s ≥ n ∨ (r + s) % n = 0) :
    verifyE px py e r s = false := by
  rw [verifyE_eq]
  by_cases h1 : r < 1 ∨ s < 1 ∨ r ≥ n ∨ s ≥ n
  · rw [if_pos h1]
  · have h2 : (r + s) % n = 0 := by
      rcases h with h | h | h | h | h
      · exact absurd (Or.inl h) h1
      · exact absurd (Or.inr (Or.inl h)) h1
      · exact absurd (Or.inr (Or.inr (Or.inl h))) h1
      · exact absurd (Or.inr (Or.inr (Or.inr h))) h1
      · exact h
    rw [if_neg h1, if_pos h2]

/-- if a signature verifies for digest value e, then under the same key it
    verifies for e' **iff** e' ≡ e (mod n).  (So accepting an altered message or ID needs
    SM3(Z'‖M') ≡ SM3(Z‖M) mod n: a statement about the hash, not about this code.) -/
theorem verify_altered_msg_iff (px py e e' r s : Nat) (h : verifyE px py e r s = true) :
    verifyE px py e' r s = true ↔ e' % n = e % n := by
  rw [verifyE_eq] at h ⊢
  by_cases h1 : r < 1 ∨ s < 1 ∨ r ≥ n ∨ s ≥ n
  · rw [if_pos h1] at h; cases h
  by_cases h2 : (r + s) % n = 0
  · rw [if_neg h1, if_pos h2] at h; cases h
  rw [if_neg h1, if_neg h2] at h ⊢
  generalize (enc (padd (smul s G) (smul ((r + s) % n) (dec px py)))).1 = x1 at h ⊢
  rw [beq_iff_eq] at h ⊢
  exact ⟨fun hh => Nat.ModEq.add_right_cancel' x1 (hh.trans h.symm), fun hh => Eq.trans (Nat.ModEq.add_right x1 hh) h⟩

section
variable {Grp : Type} [AddCommGroup Grp] (q : Nat) (g : Grp) (hg : q • g = 0)

theorem smul_mod_order (h : Grp) (hh : q • h = 0) (k : Nat) : (k % q) • h = k • h :=
  (nsmul_eq_mod_nsmul k hh).symm

include hg in
/-- completeness, the algebra: for every private key d, nonce k and r, if s satisfies
    the signing equation s·(1+d) ≡ k − r·d (mod q) — which is what s = (1+d)⁻¹(k − r·d) mod q means —
    then with t = (r+s) mod q the verifier's point [s]G + [t]P equals [k]G, so the verifier recomputes
    the signer's x₁ and accepts.  Proved over any commutative group and any q with [q]G = O. -/
theorem verify_sign (d k r s : Nat)
    (hs : (s : ZMod q) * ((1 + d : Nat) : ZMod q) = (k : ZMod q) - (r : ZMod q) * (d : ZMod q)) :
    s • g + ((r + s) % q) • (d • g) = k • g := by
  have hdg : q • (d • g) = 0 := by rw [smul_comm, hg, smul_zero]
  rw [smul_mod_order q (d • g) hdg, ← mul_smul, ← add_smul]
  have key : ((s + (r + s) * d : Nat) : ZMod q) = (k : ZMod q) := by
    have hu : ((1 + d : Nat) : ZMod q) = 1 + (d : ZMod q) := by push_cast; ring
    rw [hu] at hs
    push_cast
    linear_combination hs
  have := (ZMod.natCast_eq_natCast_iff' _ _ _).mp key
  rw [← smul_mod_order q g hg (s + (r + s) * d), this, smul_mod_order q g hg]
end

open Spec.DER

theorem intContent_pos (v : Nat) : 0 < (intContent v).length := by
  have := isIntContent_intContent v
  cases h : intContent v with
  | nil => rw [h] at this; exact this.elim
  | cons x t => exact Nat.succ_pos _

/-- decoding the strict DER encoding of (r, s) returns (r, s), for all values below
    2^256 (every signature component is below n). -/
theorem der_roundtrip (r s : Nat) (hr : r < 256 ^ 32) (hs : s < 256 ^ 32) :
    decSig (encSig r s) = some ((r : Int), (s : Int)) :=
  decSig_encSig r s (Nat.lt_of_le_of_lt (encSig_length_le r s hr hs) (by decide))

/-- trailing bytes after the SEQUENCE are rejected -/
theorem der_trailing_rejected (r s : Nat) (hr : r < 256 ^ 32) (hs : s < 256 ^ 32) (x : Byte) (xs : Bytes) :
    decSig (encSig r s ++ x :: xs) = none := by
  rw [decSig_encSig_append r s _ (Nat.lt_of_le_of_lt (encSig_length_le r s hr hs) (by decide)),
    if_neg (List.cons_ne_nil x xs)]

/-- `Spec.DER.decIntContent_intContent`, under the name by which `props.py` lists it for C01 -/
theorem decIntContent_intContent (v : Nat) : decIntContent (intContent v) = some (v : Int) :=
  Spec.DER.decIntContent_intContent v

end Props.C01
