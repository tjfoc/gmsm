/-
C05 — SM4 block encryption is the GM/T 0002 permutation and decryption is its inverse.

Tables, key schedule and both block paths equal the standard's; `dec_enc` / `enc_dec` on 16-byte blocks.  Calls on
one cipher object: `history_independent` - for a cipher whose round keys are `generateSubKeys key`, every call of a
sequence returns `specOut key` of that call alone.  The SM4 lemmas used are in Gmsm/Proofs/SM4.lean.
`Model.SM4` mirrors sm4/sm4.go:154-255; its tables `Gen.SM4.*` are regenerated from the Go source on every run.
-/
import Gmsm.Proofs.SM4
namespace Props.C05
open Gmsm Spec.SM4 Proofs.SM4 Model.SM4

/-- every entry of the four 256-entry lookup tables in the Go source is
    `L(Sbox[i] <<< 8k)`, and the byte S-box / FK / CK arrays in the source are the standard's. -/
theorem ttables_ok :
    (∀ i : Fin 256, Gen.SM4.sbox0[i] = L (zext8 Sbox[i])) ∧
    (∀ i : Fin 256, Gen.SM4.sbox1[i] = L (zext8 Sbox[i] <<< 8)) ∧
    (∀ i : Fin 256, Gen.SM4.sbox2[i] = L (zext8 Sbox[i] <<< 16)) ∧
    (∀ i : Fin 256, Gen.SM4.sbox3[i] = L (zext8 Sbox[i] <<< 24)) ∧
    Gen.SM4.sbox = Sbox ∧ Gen.SM4.fk = FK ∧ (∀ i : Fin 32, Gen.SM4.ck[i] = CK i) :=
  ⟨fun i => getElem_of_toList_eq_map t0 i i.isLt, fun i => getElem_of_toList_eq_map t1 i i.isLt,
    fun i => getElem_of_toList_eq_map t2 i i.isLt, fun i => getElem_of_toList_eq_map t3 i i.isLt,
    sbox_eq_std, fk_eq_std, ck_eq_std⟩

/-- the four-table lookup used in `cryptBlock` equals `L(τ x)` -/
theorem T_eq (x : W32) : tt x = T x := tt_eq_T x

/-- the Go key schedule is the standard's -/
theorem subkeys_eq_spec (key : Bytes) : generateSubKeys key = expandKey (ofBytes key) :=
  generateSubKeys_eq key

/-- the Go encryption path computes the GM/T 0002 ciphertext -/
theorem cryptBlock_enc_eq_spec (key blk : Bytes) :
    cryptBlockCore (generateSubKeys key) blk false = Spec.SM4.encrypt key blk := by
  unfold cryptBlockCore Spec.SM4.encrypt encryptSt permuteFinalBlock permuteInitialBlock
  simp only [generateSubKeys_eq, Bool.false_eq_true, if_false]
  rw [encLoop_eq 8 _ (by rw [expandKey_length])]
  rfl

/-- likewise the decryption path (round keys walked backwards) -/
theorem cryptBlock_dec_eq_spec (key blk : Bytes) :
    cryptBlockCore (generateSubKeys key) blk true = Spec.SM4.decrypt key blk := by
  unfold cryptBlockCore Spec.SM4.decrypt decryptSt permuteFinalBlock permuteInitialBlock decLoop
  simp only [generateSubKeys_eq, if_true]
  rw [encLoop_eq 8 _ (by rw [List.length_reverse, expandKey_length])]
  rfl

/-- C05: decryption inverts encryption for every key and every 16-byte block -/
theorem dec_enc (key blk : Bytes) (h : blk.length = 16) :
    Spec.SM4.decrypt key (Spec.SM4.encrypt key blk) = blk := by
  unfold Spec.SM4.decrypt Spec.SM4.encrypt
  rw [ofBytes_toBytes, decryptSt_encryptSt, toBytes_ofBytes _ h]

/-- and conversely (so encryption is a permutation of the 16-byte blocks) -/
theorem enc_dec (key blk : Bytes) (h : blk.length = 16) :
    Spec.SM4.encrypt key (Spec.SM4.decrypt key blk) = blk := by
  unfold Spec.SM4.decrypt Spec.SM4.encrypt
  rw [ofBytes_toBytes, encryptSt_decryptSt, toBytes_ofBytes _ h]

theorem enc_length (key blk : Bytes) : (Spec.SM4.encrypt key blk).length = 16 := toBytes_length _
theorem dec_length (key blk : Bytes) : (Spec.SM4.decrypt key blk).length = 16 := toBytes_length _

/-- `NewCipher` fails exactly for keys whose length is not 16 -/
theorem newCipher_len (key : Bytes) :
    (∃ c, newCipher key = .ok c) ↔ key.length = 16 := by
  unfold newCipher
  by_cases h : key.length = 16 <;> simp [h]

/-- what the standard says the call returns into a 16-byte `dst` -/
def specOut (key : Bytes) : Op → Except Fault Bytes
  | .enc d s => if s.length < 16 then .error (.panic "index out of range")
                else .ok ((Spec.SM4.encrypt key (s.take 16)).take d.length ++ d.drop 16)
  | .dec d s => if s.length < 16 then .error (.panic "index out of range")
                else .ok ((Spec.SM4.decrypt key (s.take 16)).take d.length ++ d.drop 16)

theorem ofBytes_take16 (s : Bytes) : ofBytes (s.take 16) = ofBytes s := by
  unfold ofBytes
  simp only [List.getD_eq_getElem?_getD, List.getElem?_take]
  simp

theorem cryptBlockCore_eq_spec (key blk : Bytes) (d : Bool) :
    cryptBlockCore (generateSubKeys key) blk d =
      if d then Spec.SM4.decrypt key blk else Spec.SM4.encrypt key blk := by
  cases d
  · exact cryptBlock_enc_eq_spec key blk
  · exact cryptBlock_dec_eq_spec key blk

theorem cryptBlock_spec (c : Cipher) (key : Bytes) (hk : c.subkeys = generateSubKeys key)
    (dst src : Bytes) (d : Bool) :
    cryptBlock c dst src d =
      if src.length < 16 then .error (.panic "index out of range")
      else .ok (⟨c.subkeys,
                 ofBytes ((if d then Spec.SM4.decrypt key src else Spec.SM4.encrypt key src)),
                 (if d then Spec.SM4.decrypt key src else Spec.SM4.encrypt key src)⟩,
                (if d then Spec.SM4.decrypt key src else Spec.SM4.encrypt key src).take dst.length ++ dst.drop 16) := by
  unfold cryptBlock
  by_cases hs : src.length < 16
  · simp [hs]
  · simp only [hs, if_false]
    have := cryptBlockCore_eq_spec key src d
    unfold cryptBlockCore at this
    rw [hk, this, ← this]
    simp [permuteFinalBlock, ofBytes_toBytes]

theorem encrypt_take16 (key s : Bytes) : Spec.SM4.encrypt key (s.take 16) = Spec.SM4.encrypt key s := by
  unfold Spec.SM4.encrypt; rw [ofBytes_take16]
theorem decrypt_take16 (key s : Bytes) : Spec.SM4.decrypt key (s.take 16) = Spec.SM4.decrypt key s := by
  unfold Spec.SM4.decrypt; rw [ofBytes_take16]

/-- For every key, every initial scratch contents and every sequence of Encrypt/Decrypt calls on one object, the
    i-th result is what GM/T 0002 prescribes for that call's `src` alone: it does not depend on the calls made
    before (the scratch buffers are fully overwritten before they are read), and since `src` is read completely
    before `dst` is written the same holds when `dst` and `src` are the same buffer (`dst` only contributes its
    length). -/
theorem history_independent (key : Bytes) (c : Cipher) (hk : c.subkeys = generateSubKeys key)
    (ops : List Op) : run c ops = ops.map (specOut key) := by
  induction ops generalizing c with
  | nil => rfl
  | cons op ops ih =>
    cases op with
    | enc d s =>
      unfold run
      simp only [Cipher.encrypt, cryptBlock_spec c key hk, List.map_cons, specOut]
      by_cases hs : s.length < 16
      · simp only [hs, if_true]; rw [ih c hk]
      · simp only [hs, if_false, Bool.false_eq_true, encrypt_take16]
        rw [ih _ (by exact hk)]
    | dec d s =>
      unfold run
      simp only [Cipher.decrypt, cryptBlock_spec c key hk, List.map_cons, specOut]
      by_cases hs : s.length < 16
      · simp only [hs, if_true]; rw [ih c hk]
      · simp only [hs, if_false, if_true, decrypt_take16]
        rw [ih _ (by exact hk)]

/-- the standard's example (GM/T 0002 appendix A.1) -/
def exKey : Bytes := [0x01,0x23,0x45,0x67,0x89,0xab,0xcd,0xef,0xfe,0xdc,0xba,0x98,0x76,0x54,0x32,0x10]
example : exKey.length = 16 ∧
    Spec.SM4.encrypt exKey exKey =
      [0x68,0x1e,0xdf,0x34,0xd2,0x06,0x96,0x5e,0x86,0xb3,0xe9,0x4f,0x53,0x6e,0x42,0x46] := by
  decide +kernel
example : ∃ c, newCipher exKey = .ok c ∧ c.subkeys = generateSubKeys exKey := ⟨_, rfl, rfl⟩

end Props.C05
