/-
C16 — switching session tickets off and on again on a `Config` that is in use (repair of the
`ticketKeys()[0]` index-out-of-range crash in `encryptTicket`).

`serverInit` creates no ticket key while `SessionTicketsDisabled` is set, and it used to run once per
`Config` (`serverInitOnce`).  A `Config` that served its first connection with tickets disabled and had them
enabled afterwards therefore reached `encryptTicket` with an empty key list: the server crashed on the next
connection of every client that asks for a ticket.  The repaired entry points call
`Config.ensureTicketKeys` (`Model.Resume.ensureKeys` / `prep`) on every connection.

The model keeps the crash visible: `encryptTicket` is partial (`none` = the index expression panics),
`issues` says when a handshake reaches it and `panics` when it does so without a key.  The theorems say that
`serve` (entry point + handshake) never gets there, and what the ticket switch does in both directions.
-/
import Gmsm.Props.C16
namespace Props.C16Enable
open Model.Resume Props.C16

/-- the state the defect needed - tickets enabled, key list empty - does not survive `ensureTicketKeys` -/
theorem ensureKeys_nonempty (s : Server) (k : Nat) (h : (ensureKeys s k).disabled = false) :
    (ensureKeys s k).keys ≠ [] := by
  revert h
  unfold ensureKeys
  split
  · exact fun _ => List.cons_ne_nil _ _
  · rename_i hc
    exact fun h he => hc (by simp [h, he])

/-- `ensureTicketKeys` changes nothing when there is a key or tickets are disabled: explicit keys
    (`SetSessionTicketKeys`) and an earlier automatic key are kept, so tickets issued before stay valid -/
theorem ensureKeys_keeps (s : Server) (k : Nat) (h : s.disabled = true ∨ s.keys ≠ []) : ensureKeys s k = s := by
  refine if_neg fun hc => ?_
  rcases h with h | h
  · simp [h] at hc
  · exact h (List.isEmpty_iff.mp (Bool.and_eq_true_iff.mp hc).2)

theorem ensureKeys_idem (s : Server) (k k2 : Nat) : ensureKeys (ensureKeys s k) k2 = ensureKeys s k := by
  apply ensureKeys_keeps
  cases hd : (ensureKeys s k).disabled
  · exact Or.inr (ensureKeys_nonempty s k hd)
  · exact Or.inl rfl

/-- `encryptTicket` is defined (does not panic) exactly when there is a key -/
theorem encryptTicket_isSome (s : Server) (st : Sess) : (encryptTicket s st).isSome = !s.keys.isEmpty := by
  unfold encryptTicket
  cases s.keys <;> rfl

/-- a ticket that passes the gate under an old key was found in the key list: the list is not empty -/
theorem old_key_nonempty (m : Mode) (s : Server) (hello : List Suite) (t : Ticket) (st : Sess) (old : Bool)
    (h : checkForResumption m s hello t = some (st, old)) : s.keys ≠ [] := by
  obtain ⟨i, hi, _⟩ := ((gate_iff m s hello t st old).mp h).2.2.1
  intro he
  simp [he] at hi

theorem issues_enabled (m : Mode) (w : World) (r : ConnReq) (h : issues m w r = true) :
    (w.srv r.srv).disabled = false := by
  unfold issues at h
  split at h
  · rename_i st old hd
    obtain ⟨_, _, cs, _, _, hc⟩ := (resumeDecision_eq_some m w r st old).mp hd
    exact ((gate_iff _ _ _ _ _ _).mp hc).1
  · split at h
    · cases h
    · simp only [Bool.and_eq_true, Bool.not_eq_eq_eq_not, Bool.not_true] at h
      exact h.2

/-- (the repair) for EVERY world - every combination of the disabled flag and the key list (empty included) of
    every server, every client cache - and every request, a connection never reaches `encryptTicket` without a
    key: it resumes, performs a full handshake or fails the handshake, and never crashes. -/
theorem serve_never_panics (m : Mode) (w : World) (r : ConnReq) : panics m (prep w r) r = false := by
  unfold panics
  cases hi : issues m (prep w r) r with
  | false => rfl
  | true =>
    have hen := issues_enabled m (prep w r) r hi
    rw [prep_srv_self] at hen ⊢
    have := ensureKeys_nonempty _ _ hen
    cases hk : (ensureKeys (w.srv r.srv) (autoKey (w.n + 1))).keys with
    | nil => exact absurd hk this
    | cons a l => rfl

/-- the same for every connection of every history -/
theorem history_never_panics (m : Mode) (cap : Nat) (h : List Step) (r : ConnReq) :
    panics m (prep (reach m (initWorld cap) h) r) r = false :=
  serve_never_panics m _ r

/-- As found: without the entry point's `ensureTicketKeys` the handshake of a client with a session
    cache crashes a server whose `Config` has tickets enabled and no key (`fresh`, or used so far with
    tickets disabled only).  `conn` is the handshake alone; `serve` is what the repaired code runs. -/
theorem handshake_alone_panics :
    let w := (step .gm (step .gm (initWorld 2) (.fresh 0)).1 (.suites 0 (some [0xe013]))).1
    panics .gm w ⟨0, some [0xe013], 0, false⟩ = true ∧ panics .gm (prep w ⟨0, some [0xe013], 0, false⟩) ⟨0, some [0xe013], 0, false⟩ = false := by
  decide

theorem put_find (c : Cache) (cap k : Nat) (v : CSess) : (Cache.put c cap k v).find? (·.1 == k) = some (k, v) := by
  unfold Cache.put
  split
  · simp
  · split <;> simp

/-- tickets disabled: whatever the client offers is ignored (no resumption), no ticket is issued (the client
    cache keeps its content, only the order changes by the lookup), and the outcome is a full handshake or
    a handshake failure for reasons that have nothing to do with tickets (`fullOutcome`) -/
theorem disabled_serves_full (m : Mode) (w : World) (r : ConnReq) (h : (w.srv r.srv).disabled = true) :
    (serve m w r).1.cache = cacheAfterGet w r ∧
    (serve m w r).2 = (match fullOutcome m (prep w r) r with | some _ => .full (w.n + 1) | none => .error) := by
  have hd : ((prep w r).srv r.srv).disabled = true := by rw [prep_srv_self, ensureKeys_disabled]; exact h
  have hdec : resumeDecision m (prep w r) r = none :=
    Option.bind_eq_none_iff.mpr fun cs _ => disabled_never_resumes _ _ _ _ hd
  unfold serve conn
  rw [hdec]
  cases fullOutcome m (prep w r) r with
  | none => exact ⟨rfl, rfl⟩
  | some st => simp only [hd, Bool.not_true, Bool.and_false, store]; exact ⟨rfl, rfl⟩

/-- Tickets enabled on the server and on the client: every full handshake stores a session for this server in
    the client's cache - whatever the key list was before the connection; the ticket is sealed under the
    server's current key and carries the session of this handshake.  Before the repair this case crashed when the
    key list was empty. -/
theorem enabled_full_handshake_issues (m : Mode) (w : World) (r : ConnReq) (n : Nat)
    (hen : (w.srv r.srv).disabled = false) (hoff : w.clientOff = false) (hfull : (serve m w r).2 = .full n) :
    ∃ k st, ((prep w r).srv r.srv).keys.head? = some k ∧ st.sid = w.n + 1 ∧ n = w.n + 1 ∧
      (serve m w r).1.cache.find? (·.1 == r.srv) = some (r.srv, ⟨⟨k, st, true⟩, st⟩) := by
  have hd : ((prep w r).srv r.srv).disabled = false := by rw [prep_srv_self, ensureKeys_disabled]; exact hen
  have hne : ((prep w r).srv r.srv).keys ≠ [] := by rw [prep_srv_self] at hd ⊢; exact ensureKeys_nonempty _ _ hd
  have hoff2 : (prep w r).clientOff = false := hoff
  unfold serve conn at hfull ⊢
  split at hfull
  · cases hfull
  · split at hfull
    · cases hfull
    · rename_i st hf
      cases hk : ((prep w r).srv r.srv).keys with
      | nil => exact absurd hk hne
      | cons k l =>
        refine ⟨k, st, rfl, (fullOutcome_sid m _ r st hf).1, (Outcome.full.inj hfull).symm, ?_⟩
        simp only [hoff2, hd, Bool.not_false, Bool.and_self, store, hk, List.head?_cons]
        exact put_find _ _ _ _

/-- Non-vacuity (tests), GMSSL: a new `Config` serves a connection with tickets disabled (full handshake, no
    ticket), tickets are enabled (full handshake, ticket issued - the crash before the repair), the next
    connection resumes it; disabled again: full handshake; enabled again: the old ticket is still good. -/
example : run .gm (initWorld 2) [.fresh 0, .suites 0 (some [0xe013]), .disable 0 true,
    .conn ⟨0, some [0xe013], 0, false⟩, .disable 0 false, .conn ⟨0, some [0xe013], 0, false⟩,
    .conn ⟨0, some [0xe013], 0, false⟩, .disable 0 true, .conn ⟨0, some [0xe013], 0, false⟩,
    .disable 0 false, .conn ⟨0, some [0xe013], 0, false⟩]
    = [.full 1, .full 2, .resumed 2, .full 4, .resumed 2] := by decide

/-- a new `Config` forgets the old key: the cached ticket falls back to a full handshake, silently -/
example : run .tls (initWorld 2) [.suites 0 (some [0x9c]), .conn ⟨0, some [0x9c], 0, false⟩,
    .conn ⟨0, some [0x9c], 0, false⟩, .fresh 0, .conn ⟨0, some [0x9c], 0, false⟩, .conn ⟨0, some [0x9c], 0, false⟩]
    = [.full 1, .resumed 1, .full 3, .resumed 3] := by decide

example : ensureKeys ⟨[], false, none, 0, 0x0303⟩ 7 = ⟨[7], false, none, 0, 0x0303⟩ := rfl
example : (ensureKeys ⟨[], true, none, 0, 0x0303⟩ 7).keys = [] := rfl
example : (ensureKeys ⟨[3, 4], false, none, 0, 0x0303⟩ 7).keys = [3, 4] := rfl

end Props.C16Enable
