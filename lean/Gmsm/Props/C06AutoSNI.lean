import Gmsm.Model.CertSelect
/-
C06, certificate selection of the two GMSSL-capable server modes (Model.CertSelect).

Before the repair `processClientHelloGM` (auto-switch) obtained the signing certificate from `Config.getCertificate`
for every connection; with more than one static certificate, `NameToCertificate` populated
(`Config.BuildNameToCertificate`) and SNI in the ClientHello the lookup by name returned the ENCRYPTION certificate
(both certificates of a pair carry the same names, the later entry wins), the server signed with the encryption key
and the client refused the handshake - while the GMSSL-only server completed with the very same Config.
-/
namespace Props.C06AutoSNI
open Model.CertSelect

theorem getGMSignCertificate_eq {α : Type} (c : Config α) (sni : Name) :
    getGMSignCertificate c sni = getCertificate { c with nameMap := none } sni := by
  unfold getGMSignCertificate getCertificate staticCertificate
  cases c.getCert <;> cases hc : c.certs <;> simp
  all_goals (rename_i t; cases t <;> rfl)

/-- The repaired behaviour.  For every static configuration (no callbacks) with two or more certificates, with or
    without a name map (built by `BuildNameToCertificate` or by hand), with or without SNI, the GMSSL-only server
    and the auto-switch server both use `Certificates[0]` as signing and `Certificates[1]` as encryption
    certificate. -/
theorem autoswitch_selects_like_gmonly {α : Type} (c : Config α) (sni : Name) (a b : α) (rest : List α)
    (hcerts : c.certs = a :: b :: rest) (hgc : c.getCert = none) (hke : c.getKE = none) :
    selectAuto c sni = some (a, b) ∧ selectGM c sni = some (a, b) := by
  simp [selectAuto, selectGM, getGMSignCertificate, getEKCertificate, hcerts, hgc, hke]

/-- Without a `GetCertificate` callback the two modes select the same certificates for every number of static
    certificates, every name map, every server name and every `GetKECertificate` callback. -/
theorem autoswitch_eq_gmonly_static {α : Type} (c : Config α) (sni : Name) (hgc : c.getCert = none) :
    selectAuto c sni = selectGM c sni := by
  unfold selectAuto selectGM viaCallbacks getGMSignCertificate getCertificate staticCertificate getEKCertificate
  match hc : c.certs with
  | [] => simp [hgc]
  | [_] => simp [hgc]
  | _ :: _ :: t =>
    have hl : ¬ (t.length + 1 + 1 < 2) := by omega
    cases hk : c.getKE <;> simp [hgc, hl]

/-- The auto-switch server never looks at `NameToCertificate` for the GMSSL pair. -/
theorem auto_ignores_name_map {α : Type} (c : Config α) (sni : Name) (nm : Option (Name → Option α)) :
    selectAuto { c with nameMap := nm } sni = selectAuto c sni := rfl

/-- The selection of two static certificates (no `GetCertificate` callback) depends neither on the server name nor on
    the name map, in both modes. -/
theorem selection_ignores_names {α : Type} (c : Config α) (m : Mode) (a b : α) (rest : List α)
    (hcerts : c.certs = a :: b :: rest) (hgc : c.getCert = none) (sni sni2 : Name) (nm : Option (Name → Option α)) :
    select m c sni = select m { c with nameMap := nm } sni2 := by
  cases m <;> cases hk : c.getKE <;>
    simp [select, selectAuto, selectGM, getGMSignCertificate, getEKCertificate, hcerts, hgc, hk]

/-- With callbacks the precedence is what it was: the repaired auto-switch server chooses exactly what the original
    chose for the same Config with `NameToCertificate` nil - the `GetCertificate` callback first when `Certificates`
    is empty or the client sent SNI, `Certificates[0]` otherwise; `GetKECertificate` / `Certificates[1]` as before. -/
theorem auto_is_original_without_map {α : Type} (c : Config α) (sni : Name) :
    selectAuto c sni = selectAutoOriginal { c with nameMap := none } sni := by
  unfold selectAuto selectAutoOriginal viaCallbacks
  rw [getGMSignCertificate_eq]
  rfl

/-- Nothing changed for a Config whose name map is nil. -/
theorem auto_unchanged_without_map {α : Type} (c : Config α) (sni : Name) (hmap : c.nameMap = none) :
    selectAuto c sni = selectAutoOriginal c sni := by
  rw [auto_is_original_without_map]
  have : { c with nameMap := none } = c := by cases c; simp_all
  rw [this]

/-- Nothing changed with fewer than two static certificates (`NewBasicAutoSwitchConfig`: none, everything through the
    callbacks). -/
theorem fewer_than_two_unchanged {α : Type} (c : Config α) (sni : Name) (h : c.certs.length < 2) :
    selectAuto c sni = selectAutoOriginal c sni := by
  rw [auto_is_original_without_map]
  unfold selectAutoOriginal viaCallbacks getCertificate staticCertificate getEKCertificate
  match hc : c.certs with
  | [] => rfl
  | [_] => rfl
  | _ :: _ :: _ => simp only [hc, List.length_cons] at h; omega

/-- Nothing changed whenever the `GetCertificate` callback answers (it is consulted and returns a certificate or an
    error): its answer is the signing certificate, before and after. -/
theorem callback_answer_unchanged {α : Type} (c : Config α) (sni : Name) (r : Cb α) (hgc : c.getCert = some r)
    (hr : r ≠ .nil) (hcons : c.certs.isEmpty = true ∨ sni ≠ []) :
    selectAuto c sni = selectAutoOriginal c sni ∧ getGMSignCertificate c sni = r := by
  have h1 : getGMSignCertificate c sni = r := by
    unfold getGMSignCertificate
    cases r <;> simp_all
  have h2 : getCertificate c sni = r := by
    unfold getCertificate
    cases r <;> simp_all
  exact ⟨by unfold selectAuto selectAutoOriginal viaCallbacks; rw [h1, h2], h1⟩

/-- Where the original went wrong, exactly: with two or more static certificates the original chose the signing
    certificate `getCertificate` returns (callback, name map) - it agreed with the GMSSL-only server iff that is
    `Certificates[0]`. -/
theorem original_agrees_iff {α : Type} (c : Config α) (sni : Name) (a b : α) (rest : List α)
    (hcerts : c.certs = a :: b :: rest) :
    selectAutoOriginal c sni = selectGM c sni ↔ getCertificate c sni = .cert a := by
  have hek : getEKCertificate c = .cert b := by
    unfold getEKCertificate
    cases hk : c.getKE <;> simp [hcerts]
    intro h; omega
  unfold selectAutoOriginal viaCallbacks selectGM
  rw [hek]
  cases hg : getCertificate c sni <;> simp [hcerts]

/-- Without a name map and without a `GetCertificate` callback the original was right (why the defect went unnoticed). -/
theorem original_right_without_map {α : Type} (c : Config α) (sni : Name) (a b : α) (rest : List α)
    (hcerts : c.certs = a :: b :: rest) (hmap : c.nameMap = none) (hgc : c.getCert = none) :
    selectAutoOriginal c sni = selectGM c sni := by
  rw [original_agrees_iff c sni a b rest hcerts]
  simp [getCertificate, staticCertificate, hgc, hcerts, hmap]

def sniTest : Name := ['s', 'n', 'i', '.', 't', 'e', 's', 't']
def sniUpperDot : Name := ['S', 'N', 'I', '.', 'T', 'E', 'S', 'T', '.']

/-- Certificates by position: 0 the signing, 1 the encryption certificate, both for "sni.test". -/
def pairNames : Nat → List Name := fun _ => [sniTest]

/-- The configuration of the defect report: `Certificates = {sign, enc}`, `BuildNameToCertificate()` called, no
    callbacks. -/
def reported : Config Nat :=
  { certs := [0, 1], nameMap := some (buildNameToCertificate [0, 1] pairNames), getCert := none, getKE := none }

example : selectAuto reported sniTest = some (0, 1) ∧ selectGM reported sniTest = some (0, 1) := by decide

/-- The defect: the original auto-switch server chose the encryption certificate in both places whenever the client
    names the server (in any spelling), the right pair without SNI or without the name map. -/
theorem original_selected_encryption_certificate :
    selectAutoOriginal reported sniTest = some (1, 1) ∧ selectAutoOriginal reported sniUpperDot = some (1, 1)
    ∧ selectAutoOriginal reported [] = some (0, 1)
    ∧ selectAutoOriginal { reported with nameMap := none } sniTest = some (0, 1) := by
  refine ⟨?_, ?_, ?_, ?_⟩ <;> decide

/-- A hand-written wildcard entry had the same effect. -/
example : selectAutoOriginal { reported with nameMap := some fun n => if n = ['*', '.', 't', 'e', 's', 't'] then some 1 else none }
    sniTest = some (1, 1) := by decide

/-- Callbacks keep their precedence in auto-switch mode: static {0, 1} plus a `GetCertificate` callback serving
    certificate 7 - with SNI the callback's certificate signs, without SNI `Certificates[0]` (before and after the
    repair); the GMSSL-only server takes the static pair. -/
example : selectAuto { reported with getCert := some (.cert 7) } sniTest = some (7, 1)
    ∧ selectAutoOriginal { reported with getCert := some (.cert 7) } sniTest = some (7, 1)
    ∧ selectAuto { reported with getCert := some (.cert 7) } [] = some (0, 1)
    ∧ selectGM { reported with getCert := some (.cert 7) } sniTest = some (0, 1) := by
  refine ⟨?_, ?_, ?_, ?_⟩ <;> decide

end Props.C06AutoSNI
