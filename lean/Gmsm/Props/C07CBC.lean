/-
C07 (continued) — the SM4-CBC + HMAC-SM3 suite: a record produced by `halfConn.encrypt` with a 16-byte
explicit IV (`explicit.length = 16`) is accepted by `halfConn.decrypt` at the same sequence number and yields
exactly the payload.
-/
import Gmsm.Props.C07
import Gmsm.Props.C04
import Gmsm.Proofs.Modes
import Gmsm.Proofs.BytesNat
namespace Props.C07
open Gmsm Model.Record Proofs.Modes

theorem mac_length (k : Keys) (seq : Nat) (typ : Byte) (d : Bytes) : (mac k seq typ d).length = 32 :=
  Props.C04.hash_length _

theorem padCBC_length (b : Bytes) : (padCBC b).length = b.length + (16 - b.length % 16) := by
  simp [padCBC]

theorem padCBC_mod (b : Bytes) : (padCBC b).length % 16 = 0 := by
  rw [padCBC_length]; omega

theorem extractPadding_append_replicate (b : Bytes) (p : Nat) (hp1 : 1 ≤ p) (hp2 : p ≤ 256) :
    extractPadding (b ++ List.replicate p (BitVec.ofNat 8 (p - 1))) = (p, true) := by
  obtain ⟨q, rfl⟩ : ∃ q, p = q + 1 := ⟨p - 1, by omega⟩
  rw [Nat.add_sub_cancel]
  have hlast : (b ++ List.replicate (q + 1) (BitVec.ofNat 8 q)).getLast? = some (BitVec.ofNat 8 q) := by
    rw [List.replicate_succ', ← List.append_assoc, List.getLast?_concat]
  have hnat := toNat_ofNat8 q (by omega)
  rw [extractPadding, hlast]
  simp only [hnat, List.length_append, List.length_replicate, Nat.add_sub_cancel, List.drop_left]
  simp

/-- `extractPadding` undoes `padToBlockSize`. -/
theorem extractPadding_padCBC (b : Bytes) : extractPadding (padCBC b) = (16 - b.length % 16, true) :=
  extractPadding_append_replicate b _ (by omega) (by omega)

theorem cbc_all_inv (key iv data : Bytes) (hiv : iv.length = 16) (hd : data.length % 16 = 0) :
    cbcDecAll key iv (cbcEncAll key iv data) = data ∧ (cbcEncAll key iv data).length = data.length := by
  unfold cbcDecAll cbcEncAll
  refine ⟨cbc_flatten_inv16 _ _ (Props.C05.enc_length key) (fun x hx => Props.C05.dec_enc key x hx) iv hiv data hd,
    ?_⟩
  rw [flatten_length _ (cbcEnc_all _ (Props.C05.enc_length key) _ _), cbcEnc_length, blocks_length]
  omega

/-- SM4-CBC + HMAC-SM3 suite: the record `halfConn.encrypt` writes is accepted by `halfConn.decrypt` at that
    sequence number and yields exactly the payload (MAC-then-pad-then-encrypt is undone in order: CBC decryption,
    padding check, MAC comparison). -/
theorem decrypt_encrypt_cbc (keys : Keys) (seq : Nat) (typ : Byte) (explicit payload : Bytes)
    (he : explicit.length = 16) :
    let h : Half := ⟨.cbc, keys, seq⟩
    (h.decrypt typ ((h.encrypt typ explicit payload).1.drop 5)).1 = some payload := by
  intro h
  have hm := mac_length keys seq typ payload
  -- what is encrypted: payload ‖ MAC ‖ p bytes of padding, 1 ≤ p ≤ 16
  generalize hp : 16 - (payload ++ mac keys seq typ payload).length % 16 = p
  have hb2 : padCBC (payload ++ mac keys seq typ payload)
      = payload ++ (mac keys seq typ payload ++ List.replicate p (BitVec.ofNat 8 (p - 1))) := by
    rw [padCBC, hp, List.append_assoc]
  have hex : extractPadding (padCBC (payload ++ mac keys seq typ payload)) = (p, true) := by
    rw [extractPadding_padCBC, hp]
  have hbm := padCBC_mod (payload ++ mac keys seq typ payload)
  generalize hbody : padCBC (payload ++ mac keys seq typ payload) = body at hb2 hex hbm
  have hbl : body.length = payload.length + (32 + p) := by
    rw [hb2, List.length_append, List.length_append, hm, List.length_replicate]
  obtain ⟨hinv, hcl⟩ := cbc_all_inv keys.key explicit body he hbm
  simp only [h, Half.encrypt, hbody]
  unfold Half.decrypt
  simp only
  have hhdr : (header typ (explicit.length + (cbcEncAll keys.key explicit body).length)).length = 5 := by
    simp [header, be16, i2ospR_length]
  have hlen : (explicit ++ cbcEncAll keys.key explicit body).length = 16 + body.length := by
    rw [List.length_append, he, hcl]
  rw [List.append_assoc, List.drop_left' hhdr, if_neg (by rw [hlen]; omega), List.take_left' he, List.drop_left' he,
    hinv, hex]
  have hn : (if body.length < 32 + p then 0 else body.length - 32 - p) = payload.length := by
    rw [if_neg (by omega)]; omega
  simp only
  rw [if_neg (by omega)]
  simp only [hn]
  rw [hb2, List.take_left' rfl, List.drop_left' rfl, List.take_left' hm]
  simp

end Props.C07
