/-
C15 — unsupported versions, for every configured version window (`Config.MinVersion` / `Config.MaxVersion`):
`Config.mutualVersion` as modelled by `Model.Handshake.mutualVersionLim`.
-/
import Gmsm.Model.Handshake
namespace Props.C15Limits
open Model.Handshake

theorem mutualVersionLim_default (v : Nat) : mutualVersionLim (cfgMin 0) (cfgMax 0) v = mutualVersion v := by
  unfold mutualVersionLim mutualVersion cfgMin cfgMax
  simp

/-- a client_version strictly between GMSSL (0x0101) and SSL 3.0 (0x0300) names no protocol: it is refused whatever
    window is configured — in particular it is not clamped to a maximum of 0x0101 first -/
theorem gap_refused (lo hi v : Nat) (h1 : versionGMSSL < v) (h2 : v < versionSSL30) :
    mutualVersionLim lo hi v = none := by
  unfold mutualVersionLim
  split
  · rfl
  · simp [h1, h2]

theorem below_min_refused (lo hi v : Nat) (h : v < lo) : mutualVersionLim lo hi v = none := by
  unfold mutualVersionLim; simp [h]

/-- what is agreed is the client's version or the configured maximum, and never inside the gap (between GMSSL and
    SSL 3.0) when the maximum is not -/
theorem agreed_version (lo hi v w : Nat) (h : mutualVersionLim lo hi v = some w) :
    w ≤ hi ∧ w ≤ v ∧ lo ≤ v ∧ (w = v ∨ w = hi) ∧
    (¬ (versionGMSSL < hi ∧ hi < versionSSL30) → ¬ (versionGMSSL < w ∧ w < versionSSL30)) := by
  revert h
  fun_cases mutualVersionLim lo hi v <;> intro h <;> cases h
  · exact ⟨Nat.le_refl _, by omega, by omega, Or.inr rfl, fun hh => hh⟩
  · exact ⟨by omega, Nat.le_refl _, by omega, Or.inl rfl, fun _ => by assumption⟩

theorem dispatchLim_refuses (lo hi v : Nat) (m : Mode) (h : mutualVersionLim lo hi v = none) :
    dispatchLim lo hi m v = .reject := by
  cases m <;> simp [dispatchLim, gmServerVersion, h]

/-- non-vacuity: `mutualVersion` with a GMSSL-only window answers 0x0303 with 0x0101 (the TLS-only server would go
    on with it; the GMSSL server does not, see `gm_only_server_accepts_only_gmssl`), refuses 0x0200 -/
example : mutualVersionLim 0x0101 0x0101 0x0303 = some 0x0101 ∧ mutualVersionLim 0x0101 0x0101 0x0200 = none := by
  constructor <;> rfl

theorem gmServerVersion_lim (lo hi v : Nat) :
    gmServerVersion (mutualVersionLim lo hi v) v =
      if v = versionGMSSL ∧ lo ≤ versionGMSSL ∧ versionGMSSL ≤ hi then some versionGMSSL else none := by
  by_cases c : v = versionGMSSL ∧ lo ≤ versionGMSSL ∧ versionGMSSL ≤ hi
  · obtain ⟨rfl, h1, h2⟩ := c
    have : mutualVersionLim lo hi versionGMSSL = some versionGMSSL := by
      unfold mutualVersionLim versionGMSSL at *
      rw [if_neg (by omega), if_neg (by omega), if_neg (by omega)]
    rw [this, if_pos ⟨rfl, h1, h2⟩]; rfl
  · rw [if_neg c]
    cases h : mutualVersionLim lo hi v with
    | none => rfl
    | some w =>
      obtain ⟨h1, _, h2, _⟩ := agreed_version lo hi v w h
      exact if_neg fun ⟨hv, hw⟩ => c ⟨hv, hv ▸ h2, hw ▸ h1⟩

/-- The repaired behaviour (before the repair e.g. `lo = 0x0101, hi = 0x0303, v = 0x0300` gave `.gm 0x0300`).  A
    server in GMSSL-only mode (`serverHandshakeStateGM.readClientHello`), with `lo` = `minVersion()`, `hi` =
    `maxVersion()`: it proceeds iff the client_version is 0x0101 and the configured window contains 0x0101, and then
    at connection version 0x0101; every other hello — whether `mutualVersion` refuses, accepts or clamps its version —
    is answered with the protocol_version alert.  It never runs TLS code. -/
theorem gm_only_server_accepts_only_gmssl (lo hi v : Nat) :
    dispatchLim lo hi .gmOnly v =
      if v = 0x0101 ∧ lo ≤ 0x0101 ∧ 0x0101 ≤ hi then .gm 0x0101 else .reject := by
  have h : gmServerVersion (mutualVersionLim lo hi v) v =
      if v = 0x0101 ∧ lo ≤ 0x0101 ∧ 0x0101 ≤ hi then some 0x0101 else none := gmServerVersion_lim lo hi v
  by_cases c : v = 0x0101 ∧ lo ≤ 0x0101 ∧ 0x0101 ≤ hi
  · simp only [dispatchLim, h, if_pos c]
  · simp only [dispatchLim, h, if_neg c]

theorem gm_only_server_proceeds_iff (lo hi v w : Nat) :
    dispatchLim lo hi .gmOnly v = .gm w ↔ (v = 0x0101 ∧ lo ≤ 0x0101 ∧ 0x0101 ≤ hi ∧ w = 0x0101) := by
  rw [gm_only_server_accepts_only_gmssl]
  split
  · rename_i c; simp [c, eq_comm]
  · rename_i c; simp only [reduceCtorEq, false_iff]; exact fun h => c ⟨h.1, h.2.1, h.2.2.1⟩

/-- with the package defaults (window 0x0101..0x0303) -/
theorem gm_only_server_default (v w : Nat) :
    dispatchLim (cfgMin 0) (cfgMax 0) .gmOnly v = .gm w ↔ (v = 0x0101 ∧ w = 0x0101) := by
  rw [gm_only_server_proceeds_iff]
  unfold cfgMin cfgMax versionGMSSL versionTLS12
  simp

/-- the auto-switch server reaches the GMSSL code under the same condition (`processClientHelloGM` has the same
    test), so the two modes agree on which hellos the GMSSL handshake serves -/
theorem auto_gm_agrees_with_gm_only (lo hi v w : Nat) :
    dispatchLim lo hi .auto v = .gm w ↔ dispatchLim lo hi .gmOnly v = .gm w := by
  by_cases hv : v = versionGMSSL
  · simp [dispatchLim, hv]
  · have hv2 : ¬ v = 0x0101 := hv
    rw [gm_only_server_proceeds_iff]
    simp only [dispatchLim, if_neg hv]
    constructor
    · intro h
      split at h
      · split at h <;> cases h
      · cases h
    · intro h; exact absurd h.1 hv2

/-- a handshake served by the GMSSL code has connection version 0x0101: the key schedule (`prfForVersion`), the
    Finished hash and the record protection all see the one version GM/T 0024 defines -/
theorem gm_path_version (lo hi v w : Nat) (m : Mode) (h : dispatchLim lo hi m v = .gm w) : w = 0x0101 := by
  cases m with
  | gmOnly => exact ((gm_only_server_proceeds_iff lo hi v w).mp h).2.2.2
  | auto => exact ((gm_only_server_proceeds_iff lo hi v w).mp ((auto_gm_agrees_with_gm_only lo hi v w).mp h)).2.2.2
  | tlsOnly =>
    simp only [dispatchLim] at h
    split at h <;> cases h

/-- non-vacuity: the default window serves 0x0101 and refuses 0x0300, 0x0303, 0x0304 (all completed before the
    repair); a window without 0x0101 refuses 0x0101 itself -/
example : dispatchLim 0x0101 0x0303 .gmOnly 0x0101 = .gm 0x0101 ∧ dispatchLim 0x0101 0x0303 .gmOnly 0x0300 = .reject ∧
    dispatchLim 0x0101 0x0303 .gmOnly 0x0303 = .reject ∧ dispatchLim 0x0101 0x0303 .gmOnly 0x0304 = .reject ∧
    dispatchLim 0x0101 0x0100 .gmOnly 0x0101 = .reject ∧ dispatchLim 0x0102 0x0303 .gmOnly 0x0101 = .reject ∧
    dispatchLim 0x0101 0x0101 .gmOnly 0x0303 = .reject := by
  refine ⟨?_, ?_, ?_, ?_, ?_, ?_, ?_⟩ <;> decide

end Props.C15Limits
