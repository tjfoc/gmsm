/-
C18 / C17 (x509/ber.go, as repaired): the object tree that `readObjectDepth` builds is LINEAR in the bytes it
consumed.  Every object — primitive or constructed — accounts for at least two bytes of the input that no
other object of the tree at the same level accounts for: the children of a definite-length parent are read one
after the other and each must END INSIDE the parent (`ber2der: BER object extends beyond its parent`), so the
spans of siblings are disjoint and nested in the parent's span.

Before the repair a child was allowed to run past the end of its parent; the parent then continued at its own
declared end, i.e. the bytes after it were parsed again by the grandparent.  k nested levels re-read the same
tail 2^k times: a 90-byte input made `ber2der` build millions of objects (reproduced with the harness op
`ber2der`, see DESIGN §0.3).  With the check, `span_linear` holds, which with `depth_bounded` and `ber2der_cost`
(Props/C18.lean) bounds the whole of `ber2der` by a constant multiple of the input.
-/
import Gmsm.Props.C18

namespace Model.BER
mutual
  /-- number of objects in a tree = number of `readObjectDepth` calls that returned successfully while it was
      built = number of `EncodeTo` calls that re-encode it -/
  def Obj.nodes : Obj → Nat
    | .prim _ _ => 1
    | .cons _ items => 1 + nodesItems items
  def nodesItems : List Obj → Nat
    | [] => 0
    | o :: os => o.nodes + nodesItems os
end
end Model.BER

namespace Props.C18
open Model.BER Gmsm

/-- every object of the tree owns two bytes of the span it was read from; the item loop of a definite-length
    parent never runs past the parent's end -/
theorem span_all (ber : Bytes) : ∀ f : Nat,
    (∀ off d o e, readObject f ber off d = .ok (o, e) → 2 * o.nodes + off ≤ e) ∧
    (∀ off ce ind d os e, readItems f ber off ce ind d = .ok (os, e) →
        2 * nodesItems os + off ≤ e ∧ (ind = false → off ≤ ce → e ≤ ce)) := by
  refine parse_induction ber ?_ ?_ ?_ ?_
  · intro off d hd hh _ _
    have := header_bounds hh
    simp only [Obj.nodes]; omega
  · intro f off d hd items e1 hh _ _ _ _ hI
    have := header_bounds hh
    simp only [Obj.nodes]
    cases hi : hd.ind
    · have := hI.2 hi (Nat.le_add_right _ _); simp only [Bool.false_eq_true, if_false]; omega
    · simp only [if_true]; omega
  · intro off ce ind d _ _
    exact ⟨by simp only [nodesItems]; omega, fun _ h => h⟩
  · intro f off ce ind d o e1 os e _ _ hF hO hI
    exact ⟨by simp only [nodesItems]; omega, fun hind _ => hI.2 hind (hF hind).2⟩

/-- an object that `readObjectDepth` returns for the bytes `[off, off')` has at most
    `(off' - off) / 2` nodes.  So the number of successful `readObjectDepth` calls, the size of the tree held in
    memory and the number of `EncodeTo` calls are all at most half the number of bytes consumed. -/
theorem span_linear {fuel : Nat} {ber : Bytes} {off d : Nat} {o : Obj} {off' : Nat}
    (h : readObject fuel ber off d = .ok (o, off')) : 2 * o.nodes ≤ off' - off := by
  have := (span_all ber fuel).1 off d o off' h; omega

/-- the children of a definite-length parent end inside the parent -/
theorem items_inside_parent {fuel : Nat} {ber : Bytes} {off ce d : Nat} {os : List Obj} {e : Nat}
    (hoff : off ≤ ce) (h : readItems fuel ber off ce false d = .ok (os, e)) : e ≤ ce :=
  ((span_all ber fuel).2 off ce false d os e h).2 rfl hoff

/-- an accepted input of n bytes is the re-encoding of a tree of at most
    n/2 objects and depth at most 128; with `ber2der_cost` the encoder writes at most 129 × len(der) bytes. -/
theorem ber2der_linear {ber der : Bytes} (h : ber2der ber = .ok der) :
    ∃ o, der = encodeTo o ∧ 2 * o.nodes ≤ ber.length ∧ o.depth ≤ maxBERDepth := by
  obtain ⟨o, e, hr, rfl⟩ := ber2der_ok h
  have := span_linear hr
  have := (readObject_progress hr).2
  exact ⟨o, rfl, by omega, depth_bounded (Nat.zero_le _) hr⟩

/-- a child that runs past the end of its definite-length parent is refused (`30 02` holds `04 03 …`) -/
example : ber2der [0x30, 0x04, 0x30, 0x02, 0x04, 0x03, 0x01, 0x02, 0x03] = .error .beyondParent := by rfl

/-- the same bytes with consistent lengths are accepted and have 3 nodes for 9 bytes -/
example : (readObject 9 [0x30, 0x07, 0x30, 0x05, 0x04, 0x03, 0x01, 0x02, 0x03] 0 0).toOption.map (·.1.nodes)
    = some 3 := by rfl

/-- the bound is attained: `05 00` is one node in two bytes -/
example : (readObject 1 [0x05, 0x00] 0 0).toOption.map (fun r => (r.1.nodes, r.2)) = some (1, 2) := by rfl

end Props.C18
