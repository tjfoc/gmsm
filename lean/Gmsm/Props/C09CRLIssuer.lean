/-
C09, revocation lists: the issuer name of a CRL that the package creates is the subject of the issuing
certificate, whatever attributes, order and grouping that subject has (`Model.CRLIssuer`).
-/
import Gmsm.Model.CRLIssuer
namespace Props.C09CRLIssuer
open Gmsm.Model.CRLIssuer

/-- The repaired behaviour.  For every RDN sequence `r` (any attribute types, any order, any grouping into
multi-valued RDNs, any string types): a CRL created (`CreateRevocationList` or `CreateCRL`) with a parsed
certificate whose subject is `r` as issuer names exactly `r` - its issuer bytes are the certificate's RawSubject.
False for the code before the repair (`old_rule_drops_extra_attributes` …). -/
theorem crlIssuer_parsed (r : RDNSeq) : crlIssuer (parseCert r) = r := rfl

/-- More generally: whenever RawSubject is non-empty it alone decides the name; the decoded `Subject` field (which a
caller may have changed after parsing) is not consulted. -/
theorem crlIssuer_rawSubject (r : RDNSeq) (n : Name) : crlIssuer ⟨some r, n⟩ = r := rfl

/-- An issuer object that was not parsed (a template with Subject set, RawSubject empty) gives
`Subject.ToRDNSequence()`, as before the repair. -/
theorem crlIssuer_template (n : Name) : crlIssuer (template n) = toRDNSequence n := rfl

/-- The repair changes nothing for unparsed issuer templates. -/
theorem crlIssuer_template_unchanged (n : Name) : crlIssuer (template n) = crlIssuerOld (template n) := rfl

/-- A CRL and a certificate issued by the same certificate object carry the same issuer name (RFC 5280 6.3.3 needs
the two to match). -/
theorem crlIssuer_eq_certIssuer (c : Cert) : crlIssuer c = certIssuer c := rfl

/-- What parsing keeps: every attribute goes to `Names`, in order, and `ExtraNames` is not touched. -/
theorem fillATV_fields (n : Name) (a : ATV) :
    (fillATV n a).names = n.names ++ [a] ∧ (fillATV n a).extraNames = n.extraNames := by
  unfold fillATV
  split <;> exact ⟨rfl, rfl⟩

theorem foldl_fields {α : Type} (step : Name → α → Name) (ext : α → List ATV)
    (h : ∀ n a, (step n a).names = n.names ++ ext a ∧ (step n a).extraNames = n.extraNames) (l : List α) (n : Name) :
    (l.foldl step n).names = n.names ++ l.flatMap ext ∧ (l.foldl step n).extraNames = n.extraNames := by
  induction l generalizing n with
  | nil => simp
  | cons a rest ih =>
    obtain ⟨i1, i2⟩ := ih (step n a)
    rw [List.foldl_cons, i1, i2, (h n a).1, (h n a).2]
    simp

theorem fillRDN_fields (n : Name) (rdn : RDN) :
    (fillRDN n rdn).names = n.names ++ rdn ∧ (fillRDN n rdn).extraNames = n.extraNames := by
  simpa [fillRDN] using foldl_fields fillATV (fun a => [a]) fillATV_fields rdn n

theorem fill_extraNames (r : RDNSeq) : (fill r).extraNames = [] := (foldl_fields fillRDN id fillRDN_fields r {}).2

theorem fill_names (r : RDNSeq) : (fill r).names = r.flatten := by
  simpa [fill] using (foldl_fields fillRDN id fillRDN_fields r {}).1

/-- The attributes of the repaired CRL issuer are exactly `issuer.Subject.Names` of the parsed issuer (all of them,
in order) - the field the old rule ignored. -/
theorem crlIssuer_parsed_attributes (r : RDNSeq) :
    (crlIssuer (parseCert r)).flatten = (parseCert r).subject.names := by
  rw [crlIssuer_parsed]; exact (fill_names r).symm

theorem mem_appendRDNs {n : Name} {acc : RDNSeq} {values : List String} {oid : OID} {a : ATV}
    (h : a ∈ (appendRDNs n acc values oid).flatten) : a ∈ acc.flatten ∨ (a.1 = oid ∧ a.2.tag = 0) := by
  unfold appendRDNs at h
  split at h
  · exact Or.inl h
  · rw [List.flatten_append, List.mem_append] at h
    rcases h with h | h
    · exact Or.inl h
    · right
      simp only [List.flatten_cons, List.flatten_nil, List.append_nil, List.mem_map] at h
      obtain ⟨v, _, rfl⟩ := h
      exact ⟨rfl, rfl⟩

/-- a name that only has attributes of the nine fixed types, all typed as Go strings -/
def OnlyFixed (s : RDNSeq) : Prop := ∀ b : ATV, b ∈ s.flatten → b.1 ∈ fixedOIDs ∧ b.2.tag = 0

theorem onlyFixed_nil : OnlyFixed [] := by
  intro b hb; simp at hb

theorem onlyFixed_appendRDNs {n : Name} {acc : RDNSeq} {values : List String} {oid : OID}
    (ho : oid ∈ fixedOIDs) (hacc : OnlyFixed acc) : OnlyFixed (appendRDNs n acc values oid) := by
  intro b hb
  rcases mem_appendRDNs hb with hb | ⟨h1, h2⟩
  · exact hacc b hb
  · exact ⟨h1 ▸ ho, h2⟩

theorem onlyFixed_toRDNSequence (n : Name) (h : n.extraNames = []) : OnlyFixed (toRDNSequence n) := by
  unfold toRDNSequence
  simp only [h, List.map_nil, List.append_nil]
  split <;> split <;>
    repeat (first | exact onlyFixed_nil | refine onlyFixed_appendRDNs (by decide) ?_)

/-- The old rule in general: whatever the subject of the parsed issuer was, the name the unrepaired creators wrote
contains only attributes of the nine fixed types, all re-typed as Go strings - every other attribute of the
issuer's subject (emailAddress, DC, UID, givenName, …) is lost. -/
theorem old_rule_only_fixed (r : RDNSeq) (a : ATV) (h : a ∈ (crlIssuerOld (parseCert r)).flatten) :
    a.1 ∈ fixedOIDs ∧ a.2.tag = 0 :=
  onlyFixed_toRDNSequence (fill r) (fill_extraNames r) a h

/-- Hence: a parsed issuer whose subject has an attribute outside the nine fixed types, or a string type other than
the marshaller's default, was never named correctly by the unrepaired creators. -/
theorem old_rule_wrong_of_extra_attribute (r : RDNSeq) (a : ATV) (ha : a ∈ r.flatten)
    (hx : a.1 ∉ fixedOIDs ∨ a.2.tag ≠ 0) : crlIssuerOld (parseCert r) ≠ r := by
  intro heq
  have ha2 : a ∈ (crlIssuerOld (parseCert r)).flatten := by rw [heq]; exact ha
  have := old_rule_only_fixed r a ha2
  rcases hx with hx | hx
  · exact hx this.1
  · exact hx this.2

def oidEmail : OID := [1, 2, 840, 113549, 1, 9, 1]
def oidDC : OID := [0, 9, 2342, 19200300, 100, 1, 25]

/-- CN=ca, emailAddress=ca@example.com, DC=example -/
def caExtra : RDNSeq :=
  [[(oidCommonName, ⟨0, "ca"⟩)], [(oidEmail, ⟨0, "ca@example.com"⟩)], [(oidDC, ⟨0, "example"⟩)]]

/-- CN=ca, O=org (in this order) -/
def caOrder : RDNSeq := [[(oidCommonName, ⟨0, "ca"⟩)], [(oidOrganization, ⟨0, "org"⟩)]]

/-- one RDN {CN=ca, OU=unit}, then O=org -/
def caMulti : RDNSeq :=
  [[(oidCommonName, ⟨0, "ca"⟩), (oidOrganizationalUnit, ⟨0, "unit"⟩)], [(oidOrganization, ⟨0, "org"⟩)]]

/-- The old rule dropped the attributes outside the fixed set: the CRL of the CA
`CN=ca, emailAddress=ca@example.com, DC=example` named the issuer `CN=ca`. -/
theorem old_rule_drops_extra_attributes :
    crlIssuerOld (parseCert caExtra) = [[(oidCommonName, ⟨0, "ca"⟩)]] ∧ crlIssuerOld (parseCert caExtra) ≠ caExtra := by
  decide

/-- The old rule rewrote the order of the RDNs (`CN=ca, O=org` became `O=org, CN=ca`). -/
theorem old_rule_reorders :
    crlIssuerOld (parseCert caOrder) = [[(oidOrganization, ⟨0, "org"⟩)], [(oidCommonName, ⟨0, "ca"⟩)]] ∧
      crlIssuerOld (parseCert caOrder) ≠ caOrder := by
  decide

/-- The old rule split a multi-valued RDN (and moved its parts). -/
theorem old_rule_regroups :
    crlIssuerOld (parseCert caMulti) =
        [[(oidOrganization, ⟨0, "org"⟩)], [(oidOrganizationalUnit, ⟨0, "unit"⟩)], [(oidCommonName, ⟨0, "ca"⟩)]] ∧
      crlIssuerOld (parseCert caMulti) ≠ caMulti := by
  decide

/-- The old rule and the repaired one disagree: the repair is not a no-op. -/
theorem old_rule_differs : ∃ r : RDNSeq, crlIssuerOld (parseCert r) ≠ crlIssuer (parseCert r) :=
  ⟨caExtra, old_rule_drops_extra_attributes.2⟩

example : crlIssuer (parseCert caExtra) = caExtra := crlIssuer_parsed _
example : crlIssuer (parseCert caMulti) = caMulti := crlIssuer_parsed _
example : (fill caExtra).names.length = 3 ∧ (fill caExtra).commonName = "ca" ∧ (fill caExtra).extraNames = [] := by decide
-- the empty subject of a parsed certificate stays empty; RawSubject decides even against a non-empty Subject
example : crlIssuer (parseCert []) = [] := rfl
example : crlIssuer ⟨some caOrder, { commonName := "ignored" }⟩ = caOrder := rfl
-- an unparsed template: fixed order, ExtraNames behind, an ExtraNames entry overrides the field of its type
example : crlIssuer (template { commonName := "ca", organization := ["o1", "o2"], country := ["CN"] }) =
    [[(oidCountry, ⟨0, "CN"⟩)], [(oidOrganization, ⟨0, "o1"⟩), (oidOrganization, ⟨0, "o2"⟩)], [(oidCommonName, ⟨0, "ca"⟩)]] := by
  decide
example : crlIssuer (template { commonName := "ca", extraNames := [(oidCommonName, ⟨0, "x"⟩), (oidEmail, ⟨22, "a@b"⟩)] }) =
    [[(oidCommonName, ⟨0, "x"⟩)], [(oidEmail, ⟨22, "a@b"⟩)]] := by
  decide
-- the hypothesis of `old_rule_wrong_of_extra_attribute` is satisfiable
example : crlIssuerOld (parseCert caExtra) ≠ caExtra :=
  old_rule_wrong_of_extra_attribute caExtra (oidEmail, ⟨0, "ca@example.com"⟩) (by decide) (Or.inl (by decide))

end Props.C09CRLIssuer
