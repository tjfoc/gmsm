/-
C07 — a protected stream that is cut INSIDE a record is never reported as a clean end.

`Conn.readRecord` (gmtls/conn.go) reads a record in two steps: the 5-byte header, then the body.  The end of the
transport is accepted as a plain `io.EOF` if and only if it happens at a record boundary (nothing of the next
record has arrived); as soon as 1..4 bytes of a header, or a header and a part of the body, are there, the error is
`io.ErrUnexpectedEOF`, it is stored in `c.in.err` like every other read error, and `Conn.Read` hands out nothing
beyond the last complete record.  (Before the repair of `readRecord`, "EOF with a partial header buffered" was
passed through as `io.EOF`.)

Record layer (`Model.Record`, both suites; vocabulary of `Props.C07Stream`): `parse_truncated` (framing alone decides),
`truncated_inside_record`, `truncation_detected` (every byte position of the cut of what `Conn.Write` emits), and
`transport_end_clean_iff` for arbitrary wire bytes.  Buffering (`Model.ConnRead`, `Props.C06Read`):
`read_truncated_is_error`, `readHandshake_trunc`, `recvCCS_trunc`.
-/
import Gmsm.Props.C07Stream
import Gmsm.Props.C06Read

namespace Props.C07Trunc

section RecordLayer
open Gmsm Model.Record Props.C07Stream

/-- `parse` is `Props.C07Stream.parse`, which `readAll_parse` proves to be the model's header handling. -/
theorem parse_eof_iff (wire : Bytes) : parse wire = .stop .eof ↔ wire = [] := by
  rcases parse_cases wire with ⟨hw, h⟩ | ⟨hw, st, hst, h⟩ | ⟨_, _, _, h, _, hw⟩ <;> rw [h]
  · exact ⟨fun _ => hw, fun _ => rfl⟩
  · exact ⟨fun e => absurd (Parsed.stop.inj e) hst, fun e => absurd e hw⟩
  · refine ⟨fun e => (by cases e), ?_⟩
    rintro rfl
    cases h

/-- 1..4 header bytes and then the end of the transport: the line of `readRecord` that was repaired (as found:
    `io.EOF`). -/
theorem parse_short (wire : Bytes) (h0 : 0 < wire.length) (h5 : wire.length < 5) : parse wire = .stop .ueof := by
  unfold parse
  have e : wire.isEmpty = false := by cases wire <;> simp_all
  rw [e]
  simp [h5]

/-- The cut may lie inside the 5-byte header or anywhere inside the body.  No cryptography is involved: the framing
    alone decides. -/
theorem parse_truncated (typ : Byte) (body : Bytes) (hb : body.length ≤ 16384 + 2048) (n : Nat)
    (h0 : 0 < n) (hn : n < 5 + body.length) :
    parse ((header typ body.length ++ body).take n) = .stop .ueof := by
  by_cases h5 : n < 5
  · apply parse_short
    · rw [List.length_take, List.length_append, header_length]; omega
    · exact Nat.lt_of_le_of_lt (List.length_take_le _ _) h5
  · rw [List.take_append, header_length, List.take_of_length_le (by rw [header_length]; omega),
      parse_header _ _ hb, if_pos (Nat.lt_of_le_of_lt (List.length_take_le _ _) (by omega))]

theorem randOK_after (s : Suite) (k j : Nat) (rand : Bytes) (h : RandOK s (k + j) rand) :
    RandOK s j (randAfter s k rand) := by
  cases s
  · simp only [RandOK, randAfter, List.length_drop, Nat.mul_add] at h ⊢
    exact Nat.le_sub_of_add_le' h
  · trivial

/-- Every record `Conn.Write` produces is at least a header long, so cuts after 1..4 bytes are always strictly
    inside it. -/
theorem encrypt_length_ge (h : Half) (typ : Byte) (e p : Bytes) : 5 ≤ (h.encrypt typ e p).1.length := by
  rw [encrypt_shape, List.length_append, header_length]; omega

theorem readAllH_cut (h hw : Half) (rand : Bytes) (f : Bytes) (warn fuel n : Nat)
    (he : ExplicitOK hw.suite (explicitOf hw rand)) (hf : f.length ≤ 16384)
    (h0 : 0 < n) (hn : n < (hw.encrypt 23 (explicitOf hw rand) f).1.length) :
    readAllH (fuel + 1) h warn ((hw.encrypt 23 (explicitOf hw rand) f).1.take n) = ⟨[], .ueof, h, 0, false⟩ := by
  rw [encrypt_shape] at hn ⊢
  rw [List.length_append, header_length] at hn
  rw [readAllH, parse_truncated 23 _ (Nat.le_trans (encBody_le hw 23 _ f he hf) (by decide)) n h0 hn]

/-- **Truncation inside a record (C07 "every truncation … of the protected stream is rejected")**, both suites.
    The sender's records are `encFrags h rand gs` (what `Conn.Write` emits for the fragments `gs`).  The wire carries
    the first `k` of them completely and then `0 < n < len` bytes of record `k` (header bytes included), and the
    transport ends.  A synchronised receiver delivers exactly the payloads of the `k` complete records and ends with
    `ueof` (`io.ErrUnexpectedEOF`): never the clean `eof`, and nothing of record `k`. -/
theorem truncated_inside_record (gs : List Bytes) (h : Half) (rand : Bytes) (warn fuel k n : Nat) (r : Bytes)
    (hlen : ∀ g ∈ gs, g.length ≤ 16384) (hr : RandOK h.suite gs.length rand)
    (hk : (encFrags h rand gs)[k]? = some r) (h0 : 0 < n) (hn : n < r.length) (hfuel : k + 1 ≤ fuel) :
    readAll fuel h warn (((encFrags h rand gs).take k).flatten ++ r.take n) = ((gs.take k).flatten, .ueof) := by
  rw [encFrags_get] at hk
  obtain ⟨g, hg, rfl⟩ := Option.map_eq_some_iff.mp hk
  obtain ⟨hkl, rfl⟩ := List.getElem?_eq_some_iff.mp hg
  obtain ⟨g, rfl⟩ := Nat.exists_eq_add_of_lt (Nat.lt_of_le_of_lt (List.length_take_le k gs) hfuel)
  have hr1 : RandOK h.suite 1 (randAfter h.suite k rand) :=
    randOK_after _ k 1 rand (RandOK_mono _ _ _ _ hkl hr)
  have he := (explicitOf_ok { h with seq := h.seq + k } (randAfter h.suite k rand) 0 hr1).1
  rw [encFrags_take, readAll_eq_readAllH, Nat.add_assoc,
    readAllH_encFrags (gs.take k) h rand warn (g + 1) _ (fun x hx => hlen x (List.mem_of_mem_take hx))
      (RandOK_mono _ _ _ _ (List.length_take_le' k gs) hr)]
  rw [readAllH_cut _ { h with seq := h.seq + k } (randAfter h.suite k rand) gs[k] _ g n he
    (hlen _ (List.getElem_mem hkl)) h0 hn]
  simp

/-- `truncated_inside_record` for what `Conn.Write` puts on the wire (any writer state, any writes `bs`). -/
theorem write_truncated_rejected (w : Writer) (bs : List Bytes) (k n : Nat) (r : Bytes)
    (hrand : RandOK w.half.suite (writeMany w bs).1.length w.rand)
    (hk : (writeMany w bs).1[k]? = some r) (h0 : 0 < n) (hn : n < r.length)
    (fuel : Nat) (hfuel : k + 1 ≤ fuel) (warn : Nat) :
    (readAll fuel w.half warn (((writeMany w bs).1.take k).flatten ++ r.take n)).2 = .ueof ∧
    (readAll fuel w.half warn (((writeMany w bs).1.take k).flatten ++ r.take n)).1 <+: bs.flatten := by
  obtain ⟨fs, h1, W⟩ := writeMany_spec w bs
  rw [W.recs] at hk ⊢
  rw [W.recs, encFrags_length] at hrand
  rw [truncated_inside_record fs w.half w.rand warn fuel k n r (fun f hf => (W.sizes f hf).2) hrand hk h0 hn hfuel]
  exact ⟨rfl, h1 ▸ flatten_take_prefix fs k⟩


/-- **Every byte position** (C07 "for every truncation … length"): cut the wire image `W` of any sequence of
    writes after `m < len(W)` bytes and close the transport.  What the receiver delivers is a prefix of what was
    written, reading ends with `eof` or `ueof`, and it is the clean `eof` only if the cut is a record boundary
    (the deliberate leniency of the code for peers that close without close_notify). -/
theorem truncation_detected (w : Writer) (bs : List Bytes) (m : Nat)
    (hrand : RandOK w.half.suite (writeMany w bs).1.length w.rand)
    (hm : m < (writeMany w bs).1.flatten.length)
    (fuel : Nat) (hfuel : (writeMany w bs).1.length ≤ fuel) (warn : Nat) :
    (readAll fuel w.half warn ((writeMany w bs).1.flatten.take m)).1 <+: bs.flatten ∧
    ((readAll fuel w.half warn ((writeMany w bs).1.flatten.take m)).2 = .eof ∨
     (readAll fuel w.half warn ((writeMany w bs).1.flatten.take m)).2 = .ueof) ∧
    ((readAll fuel w.half warn ((writeMany w bs).1.flatten.take m)).2 = .eof →
      ∃ j, (writeMany w bs).1.flatten.take m = ((writeMany w bs).1.take j).flatten) := by
  obtain ⟨k, n, r, e1, e2, e3⟩ := take_flatten_decomp (writeMany w bs).1 m hm
  obtain ⟨hkl, -⟩ := List.getElem?_eq_some_iff.mp e1
  rw [e3]
  by_cases hn0 : n = 0
  · subst hn0
    simp only [List.take_zero, List.append_nil]
    obtain ⟨p1, p2⟩ := record_prefix_delivery w bs k hrand fuel (Nat.le_trans (Nat.min_le_right _ _) hfuel) warn
    exact ⟨p1, Or.inl p2, fun _ => ⟨k, rfl⟩⟩
  · obtain ⟨q1, q2⟩ := write_truncated_rejected w bs k n r hrand e1 (Nat.pos_of_ne_zero hn0) e2 fuel
      (Nat.lt_of_lt_of_le hkl hfuel) warn
    refine ⟨q2, Or.inr q1, fun h => ?_⟩
    rw [q1] at h; cases h

/-- Instrumentation of `readAllH`: `some r` — the reader consumed whole records, `r` is what is left of the wire, and
    `readRecord` then found the end of the transport (in front of a header: `r = []`; inside a header or a body:
    `r ≠ []`); `none` — reading ended for another reason (alert sent or received, close_notify, the model's fuel). -/
def transportEnd : Nat → Half → Nat → Bytes → Option Bytes
  | 0, _, _, _ => none
  | fuel+1, h, warn, wire =>
    match parse wire with
    | .stop st => if st = .eof ∨ st = .ueof then some wire else none
    | .record typ body rest =>
      match h.decrypt typ body with
      | (none, _) => none
      | (some data, h') =>
        match dispatch typ data warn with
        | .halt _ => none
        | .deliver _ w => transportEnd fuel h' w rest
        | .skip w => transportEnd fuel h' w rest

/-- **Arbitrary wire bytes** (whatever an attacker puts on the wire, both suites, any receiver state): whenever
    reading ends because the transport has ended, with `r` the bytes not consumed as complete records, the end is the
    clean `eof` iff `r` is empty; any left-over — 1..4 header bytes or an incomplete body — is `ueof`
    (`io.ErrUnexpectedEOF`). -/
theorem transport_end_clean_iff (fuel : Nat) (h : Half) (warn : Nat) (wire r : Bytes)
    (ht : transportEnd fuel h warn wire = some r) :
    r <:+ wire ∧ ((readAll fuel h warn wire).2 = .eof ↔ r = []) ∧
    (r ≠ [] → (readAll fuel h warn wire).2 = .ueof) := by
  rw [readAll_eq_readAllH]
  refine readAllH_induct (motive := fun fuel h warn wire run => ∀ r, transportEnd fuel h warn wire = some r →
    r <:+ wire ∧ (run.status = .eof ↔ r = []) ∧ (r ≠ [] → run.status = .ueof)) ?_ ?_ ?_ ?_ ?_ fuel h warn wire r ht
  · intro _ _ _ r ht
    cases ht
  · intro _ _ _ wire st hp r ht
    simp only [transportEnd, hp] at ht
    split at ht
    · cases ht
      have hst : st = .eof ↔ wire = [] := by rw [← parse_eof_iff, hp, Parsed.stop.injEq]
      refine ⟨List.suffix_refl _, hst, fun hne => ?_⟩
      rename_i h
      exact h.resolve_left (mt hst.mp hne)
    · cases ht
  · intro _ _ _ _ _ _ _ hp hd r ht
    simp [transportEnd, hp, hd] at ht
  · intro _ _ _ _ _ _ _ _ _ hp hd hdp r ht
    simp [transportEnd, hp, hd, hdp] at ht
  · intro fuel h _ wire typ body rest _ w _ _ hp hd hout ih r ht
    have ht' : transportEnd fuel { h with seq := h.seq + 1 } w rest = some r := by
      rcases hout with ⟨-, -, hdp⟩ | ⟨-, -, hdp⟩ <;> simpa only [transportEnd, hp, hd, hdp] using ht
    obtain ⟨i1, i2, i3⟩ := ih r ht'
    exact ⟨i1.trans (parse_record_inv wire typ body rest hp).2.2.1, i2, i3⟩

example (h : Half) (warn : Nat) : readAll 1 h warn [23, 1, 1] = ([], .ueof) := by
  rw [readAll_parse, parse_short _ (by decide) (by decide)]

example (h : Half) (warn : Nat) : readAll 1 h warn [] = ([], .eof) := by
  rw [readAll_parse, (parse_eof_iff []).mpr rfl]

example (h : Half) (warn : Nat) : transportEnd 1 h warn [23, 1, 1, 0] = some [23, 1, 1, 0] := by
  rw [transportEnd, parse_short _ (by decide) (by decide)]; rfl

/-- The hypotheses of `truncated_inside_record` are jointly satisfiable: the CBC record for the write `[1,2,3]`
    (its first, one-byte fragment). -/
example : ∃ r, (encFrags demoCBC.half demoCBC.rand [[1], [2, 3]])[0]? = some r ∧ 4 < r.length ∧
    ∀ n, 0 < n → n ≤ 4 → readAll 1 demoCBC.half 0 (r.take n) = ([], .ueof) := by
  have hl := encrypt_length_ge demoCBC.half 23 (explicitOf demoCBC.half demoCBC.rand) [1]
  refine ⟨(demoCBC.half.encrypt 23 (explicitOf demoCBC.half demoCBC.rand) [1]).1, rfl, hl, fun n h0 h4 => ?_⟩
  exact truncated_inside_record [[1], [2, 3]] demoCBC.half demoCBC.rand 0 1 0 n _
    (by decide) (show 16 * 2 ≤ 64 by decide) rfl h0 (Nat.lt_of_le_of_lt h4 hl) (Nat.le_refl 1)

end RecordLayer

section Buffering
open Gmsm Model.ConnRead Props.C06Read

/-- The transport ending inside a record is `io.ErrUnexpectedEOF` whether the cut is in the header or in the body. -/
theorem truncErr_unexpected (inBody : Bool) : truncErr inBody = .unexpectedEOF := rfl

/-- Every error a sequence of Reads returns is `io.ErrNoProgress` or the one error the record list ends in. -/
theorem run_outcomes (r : Reader) (sizes : List Nat) :
    ∀ o ∈ (run r sizes).2, ∀ e, o.2 = some e → e = .noProgress ∨ endingOf r = e := by
  induction sizes generalizing r with
  | nil => intro o ho; cases ho
  | cons b bs ih =>
    intro o ho e he
    rcases List.mem_cons.mp ho with rfl | ho
    · exact read_error r b e he
    · rw [← (read_spec r b).2.1]
      exact ih (read r b).1 o ho e he

/-- **`Conn.Read` never reports a clean end for a stream cut inside a record.**  The records are any
    application-data records `ps` (any transport segmentation), then a record inside which the transport ends
    (`Rec.truncated`: in the header or in the body; buffered together with the record before it or not), then
    anything.  For every list of buffer sizes: what is delivered is a prefix of the payloads; no Read returns
    `io.EOF`; once an error is stored it is `io.ErrUnexpectedEOF` and exactly the payloads of the complete records
    have been delivered. -/
theorem read_truncated_is_error (ps : List (Bool × Bytes)) (s a : Bool) (tl : List Item) (sizes : List Nat) :
    delivered (readAll (Reader.init (dataItems ps ++ ⟨s, Rec.truncated a⟩ :: tl)) sizes) <+: (ps.map (·.2)).flatten ∧
    (∀ o ∈ readAll (Reader.init (dataItems ps ++ ⟨s, Rec.truncated a⟩ :: tl)) sizes, o.2 ≠ some .eof) ∧
    ((run (Reader.init (dataItems ps ++ ⟨s, Rec.truncated a⟩ :: tl)) sizes).1.err ≠ none →
      delivered (readAll (Reader.init (dataItems ps ++ ⟨s, Rec.truncated a⟩ :: tl)) sizes) = (ps.map (·.2)).flatten ∧
      (run (Reader.init (dataItems ps ++ ⟨s, Rec.truncated a⟩ :: tl)) sizes).1.err = some .unexpectedEOF) := by
  obtain ⟨hstream, hend⟩ := stream_dataItems ps _
    (show Stops (⟨s, Rec.truncated a⟩ :: tl) from Or.inr ⟨a, .unexpectedEOF, rfl⟩) 0
  change _ = Err.unexpectedEOF at hend
  obtain ⟨r1, r2⟩ := read_stream (dataItems ps ++ ⟨s, Rec.truncated a⟩ :: tl) sizes
  rw [hstream] at r1 r2
  rw [hend] at r2
  refine ⟨r1, fun o ho he => ?_, fun h => ⟨(r2 h).1, (r2 h).2.1⟩⟩
  have := run_outcomes _ sizes o ho .eof he
  rw [init_ending, hend] at this
  rcases this with h | h <;> cases h

theorem fill_trunc (need : Nat) (hand : Bytes) (wc : Nat) (b : Bool) (rest : List HRec)
    (h : ¬ need ≤ hand.length) :
    fill need ⟨hand, .trunc b :: rest, none, wc⟩ =
      (⟨hand, .trunc b :: rest, some .unexpectedEOF, wc⟩, some .unexpectedEOF) := by
  rw [fill_eq_fillGo, fillGo, if_neg h]; rfl

/-- `Conn.readHandshake` when the transport ends inside the next record (header or body) while a message is still
    incomplete: `io.ErrUnexpectedEOF`, stored; never a message, never `io.EOF`. -/
theorem readHandshake_trunc (accept : Bytes → Bool) (hand : Bytes) (wc : Nat) (b : Bool) (rest : List HRec)
    (h : hand.length < 4) :
    readHandshake accept ⟨hand, .trunc b :: rest, none, wc⟩ =
      (⟨hand, .trunc b :: rest, some .unexpectedEOF, wc⟩, .error .unexpectedEOF) :=
  readHandshake_of_header_err accept _ _ _ (fill_trunc 4 hand wc b rest (Nat.not_le_of_lt h))

/-- `readRecord(recordTypeChangeCipherSpec)` on a transport that ends inside the next record -/
theorem recvCCS_trunc (hand : Bytes) (wc : Nat) (e : Option Err) (b : Bool) (rest : List HRec) :
    (recvCCS ⟨hand, .trunc b :: rest, e, wc⟩).2 = some .unexpectedEOF := by
  simp [recvCCS, recvCCSGo, truncErr]

example : readAll (Reader.init [⟨false, .data [1, 2, 3]⟩, ⟨false, Rec.truncated false⟩]) [2, 2, 2]
    = [([1, 2], none), ([3], none), ([], some .unexpectedEOF)] := by decide
/-- At a record boundary the end of the transport is still the clean end. -/
example : readAll (Reader.init [⟨false, .data [1, 2, 3]⟩]) [3, 2] = [([1, 2, 3], none), ([], some .eof)] := by decide
example : (readHandshake (fun _ => true) ⟨[20, 0], [.trunc false], none, 0⟩).2 = .error .unexpectedEOF := by decide
example : (recvCCS ⟨[], [.warning, .trunc false], none, 0⟩).2 = some .unexpectedEOF := by decide

end Buffering

end Props.C07Trunc
