/-
C16 — the server's gate alone enforces "the client still offers the session's suite".
`Model.ResumeGraft` adds connections of a foreign client that presents its ticket whatever its ClientHello
lists (the stock client never does).  Theorems: such a ticket is never resumed when the session's suite is
not offered - the connection is the full handshake it would have been without a ticket - and, over every
history, the foreign client obtains exactly what the stock client obtains.
-/
import Gmsm.Props.C16
import Gmsm.Model.ResumeGraft
namespace Props.C16Graft
open Model.Resume Model.ResumeGraft Props.C16

/-- Whatever the ticket, the key list, the policy: if `checkForResumption` resumes, the suite sealed in the
    ticket is one of the suites of THIS ClientHello, and the resumed state is the sealed one.  (Go: the loop
    over `hs.clientHello.cipherSuites` in both `checkForResumption`s.) -/
theorem resume_requires_offered_suite (m : Mode) (s : Server) (hello : List Suite) (t : Ticket) (st : Sess)
    (old : Bool) (h : checkForResumption m s hello t = some (st, old)) :
    t.sess.suite ∈ hello ∧ st = t.sess := by
  obtain ⟨_, _, _, rfl, _, ho, _⟩ := (gate_iff _ _ _ _ _ _).mp h
  exact ⟨ho, rfl⟩

/-- contrapositive, as the gate's answer -/
theorem suite_not_offered_never_resumes (m : Mode) (s : Server) (hello : List Suite) (t : Ticket)
    (h : t.sess.suite ∉ hello) : checkForResumption m s hello t = none :=
  never_resumes fun st old hc => h (resume_requires_offered_suite m s hello t st old hc).1

theorem presented_sess (r : ConnReq) (cs : CSess) : (presented r cs).sess = cs.ticket.sess := by
  unfold presented; split <;> rfl

/-- In ANY world (no invariant needed: whatever the cache holds), a
    foreign client whose ticket seals a suite that its ClientHello does not list is not resumed; the
    connection is exactly the full handshake of that ClientHello - it completes as `full` whenever a full
    handshake is possible, silently. -/
theorem foreign_not_offered_falls_back (m : Mode) (w : World) (r : ConnReq) (cs : CSess)
    (hget : offeredAny w r = some cs) (hs : cs.ticket.sess.suite ∉ helloSuites m r.csuites) :
    (connAny m w r).2 = (match fullOutcome m w r with | none => Outcome.error | some _ => Outcome.full (w.n + 1)) := by
  have hd : resumeDecisionAny m w r = none := by
    rw [resumeDecisionAny, hget, Option.bind_some]
    exact suite_not_offered_never_resumes _ _ _ _ (presented_sess r cs ▸ hs)
  unfold connAny
  rw [hd]
  cases fullOutcome m w r <;> rfl

/-- never `resumed`, stated on its own -/
theorem foreign_not_offered_not_resumed (m : Mode) (w : World) (r : ConnReq) (cs : CSess) (sid : Nat)
    (hget : offeredAny w r = some cs) (hs : cs.ticket.sess.suite ∉ helloSuites m r.csuites) :
    (connAny m w r).2 ≠ .resumed sid := by
  rw [foreign_not_offered_falls_back m w r cs hget hs]
  cases fullOutcome m w r <;> simp

theorem offeredAny_mem (w : World) (r : ConnReq) (cs : CSess) (h : offeredAny w r = some cs) : (r.srv, cs) ∈ w.cache := by
  unfold offeredAny at h
  split at h
  · cases h
  · exact get_fst_mem _ _ _ h

theorem offered_eq_filter (m : Mode) (w : World) (r : ConnReq) :
    offered m w r = (offeredAny w r).filter fun cs => (helloSuites m r.csuites).contains cs.sess.suite := by
  unfold offered offeredAny
  split <;> rfl

/-- in a world whose cached sessions remember what their tickets seal (every reachable one), the foreign
    client's offer leads to the decision the stock client's offer leads to: where the stock client drops the
    session, the gate drops the ticket -/
theorem decisionAny_eq (m : Mode) (w : World) (hI : Inv w) (r : ConnReq) :
    resumeDecisionAny m w r = resumeDecision m w r := by
  rw [resumeDecisionAny, resumeDecision, offered_eq_filter]
  cases ho : offeredAny w r with
  | none => rfl
  | some cs =>
    cases hs : (helloSuites m r.csuites).contains cs.sess.suite with
    | true => simp only [Option.filter, hs, if_true, Option.bind_some]
    | false =>
      simp only [Option.filter, hs, Bool.false_eq_true, if_false, Option.bind_some, Option.bind_none]
      apply suite_not_offered_never_resumes
      rw [presented_sess, (hI.cache _ (offeredAny_mem w r cs ho)).2.1]
      simpa using hs

/-- Under the invariant, a connection of the foreign client is the connection of the
    stock client - same outcome, same cache, same log: offering a ticket outside one's suite list gains
    nothing and breaks nothing. -/
theorem foreign_eq_stock (m : Mode) (w : World) (hI : Inv w) (r : ConnReq) : connAny m w r = conn m w r := by
  unfold connAny conn
  rw [decisionAny_eq m w hI r]
  rfl

theorem serveAny_eq_serve (m : Mode) (w : World) (hI : Inv w) (r : ConnReq) : serveAny m w r = serve m w r := by
  unfold serveAny serve
  exact foreign_eq_stock m _ (inv_prep w hI r) r

/-- the step of `Model.Resume` that a step of the extended history amounts to -/
def toStep : GStep → Step
  | .plain s => s
  | .graft r => .conn r

theorem gstep_eq_step (m : Mode) (w : World) (hI : Inv w) (s : GStep) : gstep m w s = step m w (toStep s) := by
  cases s with
  | plain s => rfl
  | graft r =>
    simp only [gstep, toStep, step]
    rw [serveAny_eq_serve m w hI r]

theorem inv_gstep (m : Mode) (w : World) (hI : Inv w) (s : GStep) : Inv (gstep m w s).1 := by
  rw [gstep_eq_step m w hI s]; exact inv_step m w hI (toStep s)

theorem reachG_eq_reach (m : Mode) (w : World) (hI : Inv w) (h : List GStep) :
    reachG m w h = reach m w (h.map toStep) := by
  induction h generalizing w with
  | nil => rfl
  | cons s ss ih => rw [reachG, ih _ (inv_gstep m w hI s), gstep_eq_step m w hI s]; rfl

theorem runG_eq_run_from (m : Mode) (w : World) (hI : Inv w) (h : List GStep) :
    runG m w h = run m w (h.map toStep) := by
  induction h generalizing w with
  | nil => rfl
  | cons s ss ih =>
    have hI' := inv_step m w hI (toStep s)
    rw [runG, List.map_cons, run, gstep_eq_step m w hI s]
    cases hst : step m w (toStep s) with
    | mk w' o => rw [hst] at hI'; cases o <;> simp only [ih w' hI']

/-- For every history, of any length, that mixes stock and foreign connections with key
    rotations and configuration changes, the outcomes are those of the history in which every foreign
    connection is a stock one. -/
theorem runG_eq_run (m : Mode) (cap : Nat) (h : List GStep) :
    runG m (initWorld cap) h = run m (initWorld cap) (h.map toStep) :=
  runG_eq_run_from m _ (inv_init cap) h

theorem inv_reachG (m : Mode) (cap : Nat) (h : List GStep) : Inv (reachG m (initWorld cap) h) := by
  rw [reachG_eq_reach m _ (inv_init cap) h]; exact inv_reach m cap _

/-- After ANY extended history, a foreign connection that is
    reported as resumed resumed a session of an earlier full handshake of the history whose suite the
    client offers in this very ClientHello, with an unaltered ticket, while tickets were enabled. -/
theorem history_foreign_resumption_sound (m : Mode) (cap : Nat) (h : List GStep) (r : ConnReq) (sid : Nat)
    (hr : (serveAny m (reachG m (initWorld cap) h) r).2 = .resumed sid) :
    ∃ st ∈ (reachG m (initWorld cap) h).issued, st.sid = sid ∧ sid ≤ (reachG m (initWorld cap) h).n ∧
      st.vers = vers m ((reachG m (initWorld cap) h).srv r.srv) ∧ st.suite ∈ helloSuites m r.csuites ∧
      r.tampered = false ∧ ((reachG m (initWorld cap) h).srv r.srv).disabled = false := by
  rw [serveAny_eq_serve m _ (inv_reachG m cap h) r] at hr
  rw [reachG_eq_reach m _ (inv_init cap) h] at hr ⊢
  exact history_resumption_sound m cap _ r sid hr

/-- non-vacuity: GMSSL, the server lists both suites, the first connection negotiates e013; a foreign client
    then presents that ticket while offering only e053 - full handshake number 2; offering e013 again with
    the ticket of connection 2 (suite e053) - full handshake number 3; a stock connection then resumes 3 -/
example : runG .gm (initWorld 2)
    [.plain (.suites 0 (some [0xe013, 0xe053])), .plain (.conn ⟨0, some [0xe013, 0xe053], 0, false⟩),
     .graft ⟨0, some [0xe053], 0, false⟩, .graft ⟨0, some [0xe013], 0, false⟩,
     .plain (.conn ⟨0, some [0xe013], 0, false⟩)]
    = [.full 1, .full 2, .full 3, .resumed 3] := by decide

end Props.C16Graft
