/-
C16 (codec part) — the byte-level session state codec of gmtls/ticket.go: `sessionState.unmarshal` inverts
`sessionState.marshal` on every state the Go types can hold without length truncation, accepts exactly the
canonical encodings (no second byte string for a state, no trailing bytes) and never claims bytes beyond
its input.  Theorems about `Model.SessionState`, which is tied to the Go code by the `sstate` / `sstatem`
ops (harness/c16codec.go, Driver/SessionState.lean).
-/
import Gmsm.Proofs.TLSBytes
namespace Props.C16Codec
open Gmsm Model.SessionState Proofs.TLSBytes.SessionState
open Proofs.TLSBytes (split2 split4)

theorem unmarshalCerts_succ (n : Nat) (a b c e : Byte) (rest : Bytes) :
    unmarshalCerts (n + 1) (a :: b :: c :: e :: rest) =
      if rest.length < get32 a b c e then none else
      match unmarshalCerts n (rest.drop (get32 a b c e)) with
      | some cs => some (rest.take (get32 a b c e) :: cs)
      | none => none := by
  rw [unmarshalCerts]
  bsimp
  rw [if_neg (by omega)]
  rfl

theorem unmarshalCerts_marshalCerts (cs : List Bytes) (h : ∀ c ∈ cs, c.length < 4294967296) :
    unmarshalCerts cs.length (marshalCerts cs) = some cs := by
  induction cs with
  | nil => rfl
  | cons c cs ih =>
    have hc : c.length < 4294967296 := h c (by simp)
    simp only [List.length_cons, marshalCerts, put32, List.cons_append, List.nil_append]
    rw [unmarshalCerts_succ, get32_put32 c.length hc, if_neg (by simp only [List.length_append]; omega), List.drop_left,
      List.take_left, ih (fun x hx => h x (by simp [hx]))]

theorem unmarshalCerts_sound (n : Nat) (d : Bytes) (cs : List Bytes) (h : unmarshalCerts n d = some cs) :
    cs.length = n ∧ marshalCerts cs = d ∧ ∀ c ∈ cs, c.length < 4294967296 := by
  induction n generalizing d cs with
  | zero =>
    simp only [unmarshalCerts, Option.ite_none_right_eq_some, Option.some.injEq] at h
    obtain ⟨h0, rfl⟩ := h
    cases List.eq_nil_of_length_eq_zero h0
    exact ⟨rfl, rfl, by simp⟩
  | succ n ih =>
    obtain ⟨a, b, c, e, rest, rfl⟩ := split4 d (by simp only [unmarshalCerts, Option.ite_none_left_eq_some] at h; omega)
    rw [unmarshalCerts_succ, Option.ite_none_left_eq_some] at h
    obtain ⟨hl, h⟩ := h
    split at h
    · rename_i cs0 hrec
      cases h
      obtain ⟨i1, i2, i3⟩ := ih _ _ hrec
      have htl : (List.take (get32 a b c e) rest).length = get32 a b c e := List.length_take_of_le (by omega)
      refine ⟨by rw [List.length_cons, i1], ?_, ?_⟩
      · simp only [marshalCerts, htl, put32_get32, i2, List.take_append_drop, List.cons_append, List.nil_append]
      · intro x hx
        rcases List.mem_cons.mp hx with e1 | e1
        · rw [e1, htl]; exact get32_lt a b c e
        · exact i3 x e1
    · simp at h

theorem mem_marshalCerts_length (cs : List Bytes) (c : Bytes) (h : c ∈ cs) : c.length ≤ (marshalCerts cs).length := by
  induction cs with
  | nil => simp at h
  | cons x xs ih =>
    simp only [marshalCerts, List.length_append]
    rcases List.mem_cons.mp h with e | e
    · subst e; omega
    · have := ih e; omega

theorem marshalCerts_length_ge (cs : List Bytes) : 4 * cs.length ≤ (marshalCerts cs).length := by
  induction cs with
  | nil => simp [marshalCerts]
  | cons x xs ih =>
    simp only [marshalCerts, put32, List.length_append, List.length_cons, List.length_nil]
    omega

/-- a certificate list that parses passes the check in front of `make`: the remaining input holds at
    least 4 bytes per announced certificate -/
theorem unmarshalCerts_count_le (n : Nat) (d : Bytes) (cs : List Bytes) (h : unmarshalCerts n d = some cs) :
    4 * n ≤ d.length := by
  obtain ⟨h1, h2, _⟩ := unmarshalCerts_sound n d cs h
  have := marshalCerts_length_ge cs
  rw [h2, h1] at this
  exact this

theorem unmarshalCerts_no_trailing (n : Nat) (d t : Bytes) (cs : List Bytes) (h : unmarshalCerts n d = some cs)
    (ht : t ≠ []) : unmarshalCerts n (d ++ t) = none := by
  have : t.length ≠ 0 := by simpa using ht
  induction n generalizing d cs with
  | zero =>
    simp only [unmarshalCerts, Option.ite_none_right_eq_some] at h
    simp only [unmarshalCerts]
    rw [if_neg (by simp only [List.length_append]; omega)]
  | succ n ih =>
    obtain ⟨a, b, c, e, rest, rfl⟩ := split4 d (by simp only [unmarshalCerts, Option.ite_none_left_eq_some] at h; omega)
    rw [unmarshalCerts_succ, Option.ite_none_left_eq_some] at h
    obtain ⟨hl, h⟩ := h
    split at h
    · rename_i cs0 hrec
      rw [List.cons_append, List.cons_append, List.cons_append, List.cons_append, unmarshalCerts_succ,
        if_neg (by simp only [List.length_append]; omega), List.drop_append_of_le_length (by omega), ih _ _ hrec]
    · simp at h

/-- the fixed fields, the master secret and the certificate count as `marshal` writes them, read back: what is left
    is the check in front of `make` and the certificate loop -/
theorem unmarshal_fields (vers suite n : Nat) (master rest : Bytes) (hv : vers < 65536) (hs : suite < 65536)
    (hm : master.length < 65536) (hn : n < 65536) :
    unmarshal (put16 vers ++ (put16 suite ++ (put16 master.length ++ (master ++ (put16 n ++ rest))))) =
      if rest.length < 4 * n then none else
      match unmarshalCerts n rest with
      | some cs => some ⟨vers, suite, master, cs⟩
      | none => none := by
  simp only [unmarshal, put16]
  bsimp
  rw [get16_put16 vers hv, get16_put16 suite hs, get16_put16 master.length hm,
    if_neg (by simp only [List.length_append, List.length_cons]; omega),
    if_neg (by simp only [List.length_append, List.length_cons]; omega), List.drop_left, List.take_left]
  bsimp
  rw [get16_put16 n hn, if_neg (by omega)]
  rfl

/-- Every session state whose version and suite are 16-bit numbers (the Go field
    types), whose master secret and certificate count are below 2^16 and whose certificates are shorter
    than 2^32 bytes is read back from its serialization exactly — version, suite, master secret, every
    certificate in order. -/
theorem unmarshal_marshal (s : SState) (hv : s.vers < 65536) (hs : s.suite < 65536) (hm : s.master.length < 65536)
    (hn : s.certs.length < 65536) (hc : ∀ c ∈ s.certs, c.length < 4294967296) :
    unmarshal (marshal s) = some s := by
  have hge := marshalCerts_length_ge s.certs
  rw [marshal, unmarshal_fields _ _ _ _ _ hv hs hm hn, if_neg (by omega), unmarshalCerts_marshalCerts s.certs hc]

theorem unmarshal_marshal_wf (s : SState) (h : WF s) : unmarshal (marshal s) = some s :=
  unmarshal_marshal s h.1 h.2.1 h.2.2.1 h.2.2.2.1 h.2.2.2.2

/-- The accepted inputs, stated outright: `b` is read as `s` exactly when `s` is within
    the field bounds and `b` is its serialization. -/
theorem unmarshal_iff (b : Bytes) (s : SState) : unmarshal b = some s ↔ WF s ∧ marshal s = b := by
  refine ⟨fun h => ?_, fun ⟨hw, hb⟩ => hb ▸ unmarshal_marshal_wf s hw⟩
  simp only [unmarshal, Option.ite_none_left_eq_some] at h
  obtain ⟨h8, hml, h2, h4, h⟩ := h
  obtain ⟨b0, b1, b2, b3, r, rfl⟩ := split4 b (by omega)
  obtain ⟨b4, b5, rest, rfl⟩ := split2 r (by simp only [List.length_cons] at h8; omega)
  simp only [List.getD_eq_getElem?_getD, List.getElem?_cons_zero, List.getElem?_cons_succ, Option.getD_some,
    List.drop_succ_cons, List.drop_zero] at hml h2 h
  obtain ⟨n1, n0, r2, hr⟩ := split2 (List.drop (get16 b4 b5) rest) (by omega)
  simp only [hr, List.getElem?_cons_zero, List.getElem?_cons_succ, Option.getD_some, List.drop_succ_cons,
    List.drop_zero] at h
  split at h
  · rename_i cs hcs
    cases h
    obtain ⟨c1, c2, c3⟩ := unmarshalCerts_sound _ _ _ hcs
    have htl : (List.take (get16 b4 b5) rest).length = get16 b4 b5 := List.length_take_of_le (by omega)
    refine ⟨⟨get16_lt _ _, get16_lt _ _, ?_, ?_, c3⟩, ?_⟩
    · show (List.take _ _).length < 65536
      rw [htl]; exact get16_lt _ _
    · show cs.length < 65536
      rw [c1]; exact get16_lt _ _
    · simp only [marshal, htl, c1, c2, put16_get16, List.cons_append, List.nil_append]
      rw [← hr, List.take_append_drop]
  · simp at h

/-- Whatever `unmarshal` accepts is, byte for byte, what `marshal` writes for the
    state it returns.  So the parser accepts only canonical encodings: no byte string other than
    `marshal s` is read as `s`, in particular none with trailing or padding bytes. -/
theorem marshal_unmarshal (b : Bytes) (s : SState) (h : unmarshal b = some s) : marshal s = b :=
  ((unmarshal_iff b s).mp h).2

theorem unmarshal_wf (b : Bytes) (s : SState) (h : unmarshal b = some s) : WF s :=
  ((unmarshal_iff b s).mp h).1

/-- one state, one ticket plaintext: two byte strings that are read as the same state are equal … -/
theorem unmarshal_injective (b1 b2 : Bytes) (s : SState) (h1 : unmarshal b1 = some s) (h2 : unmarshal b2 = some s) :
    b1 = b2 := by
  rw [← marshal_unmarshal b1 s h1, ← marshal_unmarshal b2 s h2]

/-- … and two states within the bounds with the same serialization are equal -/
theorem marshal_injective (s1 s2 : SState) (h1 : WF s1) (h2 : WF s2) (h : marshal s1 = marshal s2) : s1 = s2 := by
  have r1 := unmarshal_marshal_wf s1 h1
  rw [h, unmarshal_marshal_wf s2 h2] at r1
  exact (Option.some.inj r1).symm

theorem marshal_length (s : SState) :
    (marshal s).length = 8 + s.master.length + (marshalCerts s.certs).length := by
  simp only [marshal, put16, List.length_append, List.length_cons, List.length_nil]; omega

/-- `unmarshal` is a total function (a Lean definition by structural recursion on the
    certificate count; it returns `none` where the Go code returns false) and what it returns lies inside
    the input: the master secret and every certificate are no longer than the input — a length field never
    makes it claim bytes that are not there. -/
theorem unmarshal_total (b : Bytes) (s : SState) (h : unmarshal b = some s) :
    s.master.length ≤ b.length ∧ ∀ c ∈ s.certs, c.length ≤ b.length := by
  have hb := marshal_unmarshal b s h
  have hl := marshal_length s
  rw [hb] at hl
  refine ⟨by omega, fun c hc => ?_⟩
  have := mem_marshalCerts_length s.certs c hc
  omega

/-- shorter than the 8 bytes of fixed fields: rejected (the Go code returns before indexing) -/
theorem unmarshal_short (b : Bytes) (h : b.length < 8) : unmarshal b = none := by
  unfold unmarshal; rw [if_pos h]

/-- an accepted serialization followed by anything is rejected. -/
theorem no_trailing_bytes (b t : Bytes) (s : SState) (h : unmarshal b = some s) (ht : t ≠ []) :
    unmarshal (b ++ t) = none := by
  have hw := unmarshal_wf b s h
  have hb := marshal_unmarshal b s h
  obtain ⟨hv, hs, hm, hn, hc⟩ := hw
  have hge := marshalCerts_length_ge s.certs
  simp only [← hb, marshal, List.append_assoc]
  rw [unmarshal_fields _ _ _ _ _ hv hs hm hn, if_neg (by simp only [List.length_append]; omega),
    unmarshalCerts_no_trailing _ _ t _ (unmarshalCerts_marshalCerts s.certs hc) ht]

/-- the truncation `marshal` performs outside the bounds is real: a master secret of 65536 bytes is
    written with length field 0, and the parser then rejects the result (a state outside `WF` does not
    survive the round trip — the hypotheses of `unmarshal_marshal` are needed) -/
theorem marshal_truncates : (marshal ⟨0x0101, 0xe013, List.replicate 65536 0, []⟩).take 6 = [1, 1, 0xe0, 0x13, 0, 0] := by
  simp only [marshal, put16, List.length_replicate, List.cons_append, List.nil_append, List.take_succ_cons, List.take_zero]
  decide

/-- Non-vacuity (tests): a GMSSL state with a 3-byte secret and two certificates (one empty) -/
def sample : SState := ⟨0x0101, 0xe013, [0xaa, 0xbb, 0xcc], [[1, 2], []]⟩

example : marshal sample = [1, 1, 0xe0, 0x13, 0, 3, 0xaa, 0xbb, 0xcc, 0, 2, 0, 0, 0, 2, 1, 2, 0, 0, 0, 0] := by decide
example : unmarshal (marshal sample) = some sample := by decide
example : WF sample := by decide
example : unmarshal (marshal sample ++ [0]) = none := by decide
example : unmarshal ((marshal sample).dropLast) = none := by decide
-- the certificate count says 3, two follow
example : unmarshal [1, 1, 0xe0, 0x13, 0, 0, 0, 3, 0, 0, 0, 0, 0, 0, 0, 0] = none := by decide

end Props.C16Codec
