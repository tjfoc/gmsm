/-
C14, the password-protected forms: theorems about `Gmsm.Model.P8Env` (x509/pkcs8.go
`MarshalSm2EcryptedPrivateKey`, `ParsePKCS8EcryptedPrivateKey`, `ParsePKCS8PrivateKey`,
`MarshalSm2PrivateKey`) for all keys, passwords and salts and every 16-byte IV (what
`MarshalSm2EcryptedPrivateKey` draws), relative to the abstract parts of the model:

* `hED : ∀ k b, D k (E k b) = b` - the block cipher decrypts what it encrypted (AES, stdlib);
* `hInner : ∀ k pad, parseInner (marshalInner k ++ pad) = some k` (`InnerIgnoresTrailing`) - the inner
  DER parser returns the key and IGNORES TRAILING BYTES (`asn1.Unmarshal` returns the rest, which
  `ParsePKCS8UnecryptedPrivateKey` discards with `_`).  The Go code never removes the 1..16 pad bytes
  after decryption; this hypothesis is exactly what makes that work;
* `hRej : parseInner garbage = none` - only in the "a different password is an error" clause: the
  mis-decrypted bytes are not accepted by the inner parser.  This is NOT provable for a real cipher
  (it is a statement about 1 - 2^-k of the keys, not all); the theorems say precisely that a wrong
  password can yield a key ONLY through this door;
* `hCodec` (in `private_key_roundtrip` only) - `decodeEnv (encodeEnv env) = some env` for the envelopes
  `marshal` writes: encoding/asn1 reads back the envelope it wrote (not modelled).
-/
import Gmsm.Model.P8Env
import Gmsm.Proofs.Modes
namespace Gmsm.Props.C14Env
open Gmsm Spec.Modes Proofs.Modes Gmsm.Model.P8Env

variable {K : Type}

theorem liftB_length (f : Block → Block) (b : Bytes) : (liftB f b).length = 16 := by
  unfold liftB
  split
  · exact (f _).2
  · simp

theorem liftB_inv (E D : Key → Block → Block) (hED : ∀ k b, D k (E k b) = b) (key : Key)
    (x : Bytes) (hx : x.length = 16) : liftB (D key) (liftB (E key) x) = x := by
  have h1 : liftB (E key) x = (E key ⟨x, hx⟩).1 := by simp [liftB, hx]
  rw [h1]
  have h2 : (E key ⟨x, hx⟩).1.length = 16 := (E key ⟨x, hx⟩).2
  simp only [liftB, h2, dite_true]
  rw [hED]

theorem cbcEncrypt_length (E : Key → Block → Block) (key : Key) (iv src : Bytes) :
    (cbcEncrypt E key iv src).length = 16 * (src.length / 16) := by
  unfold cbcEncrypt
  rw [flatten_length _ (cbcEnc_all _ (liftB_length _) _ _), cbcEnc_length, blocks_length]

theorem cbcDecrypt_cbcEncrypt (E D : Key → Block → Block) (hED : ∀ k b, D k (E k b) = b) (key : Key)
    (iv : Bytes) (hiv : iv.length = 16) (p : Bytes) (hp : p.length % 16 = 0) :
    cbcDecrypt D key iv (cbcEncrypt E key iv p) = p :=
  cbc_flatten_inv16 (liftB (E key)) (liftB (D key)) (liftB_length _) (liftB_inv E D hED key) iv hiv p hp

/-- the hand-written pad of lines 329-336 always adds 1..16 bytes and makes the length a positive
    multiple of 16 -/
theorem pad_length (der : Bytes) :
    (pad der).length = 16 * (der.length / 16 + 1) ∧
    1 ≤ (pad der).length - der.length ∧ (pad der).length - der.length ≤ 16 ∧
    ∃ padding, pad der = der ++ padding := by
  refine ⟨pad16_length der, ?_, ?_, ⟨_, rfl⟩⟩ <;> (rw [pad, pad16_length]; omega)

theorem cbc_length (P : Params K) (k : K) (pwd salt iv : Bytes) :
    (marshal P k pwd salt iv).encryptedData.length = (pad (P.marshalInner k)).length ∧
    (marshal P k pwd salt iv).encryptedData.length = 16 * ((P.marshalInner k).length / 16 + 1) := by
  simp only [marshal, cbcEncrypt_length, pad, pad16_length]
  omega

/-- the first failing check of `ParsePKCS8EcryptedPrivateKey` before decryption, in the order of the
    code (lines 237-280); it does not look at the password -/
def structErr (env : Envelope) : Option Err :=
  if env.pbes2Oid ≠ oidPBES2 then some .onlyPBES2
  else if env.kdfOid ≠ oidPBKDF2 then some .onlyPBKDF2
  else if env.encOid ≠ oidAES128CBC ∧ env.encOid ≠ oidAES256CBC then some .unknownEncAlg
  else if prfOfOid env.prfOid = none then some .unknownHash
  else if env.iv.length ≠ 16 then some .invalidIVLength
  else if env.encryptedData.length = 0 ∨ env.encryptedData.length % 16 ≠ 0 then some .notMultiple
  else none

/-- the hash selected by the envelope (meaningful when `structErr = none`) -/
def prfOf (env : Envelope) : PrfId := (prfOfOid env.prfOid).getD .sha1

/-- the key `ParsePKCS8EcryptedPrivateKey` derives: `pbkdf(pwd, salt, iter, 32, h)` -/
def derivedKey (P : Params K) (env : Envelope) (pwd : Bytes) : Key :=
  P.kdf (prfOf env) pwd env.salt env.iter

/-- the bytes handed to `ParsePKCS8UnecryptedPrivateKey` (padding included) -/
def decrypted (P : Params K) (env : Envelope) (key : Key) : Bytes :=
  cbcDecrypt P.D key env.iv env.encryptedData

/-- the password enters through `derivedKey` only -/
theorem parse_eq (P : Params K) (env : Envelope) (pwd : Bytes) :
    parse P env pwd =
      match structErr env with
      | some e => .error e
      | none =>
        match P.parseInner (decrypted P env (derivedKey P env pwd)) with
        | none => .error .incorrectPassword
        | some k => .ok k := by
  unfold parse structErr decrypted derivedKey prfOf
  by_cases h1 : env.pbes2Oid ≠ oidPBES2
  · simp [h1]
  by_cases h2 : env.kdfOid ≠ oidPBKDF2
  · simp [h1, h2]
  by_cases h3 : env.encOid ≠ oidAES128CBC ∧ env.encOid ≠ oidAES256CBC
  · simp [h1, h2, h3]
  rw [if_neg h1, if_neg h2, if_neg h3, if_neg h1, if_neg h2, if_neg h3]
  cases h4 : prfOfOid env.prfOid with
  | none => simp
  | some prf =>
    by_cases h5 : env.iv.length ≠ 16
    · simp [h5]
    by_cases h6 : env.encryptedData.length = 0 ∨ env.encryptedData.length % 16 ≠ 0
    · simp only [if_neg h5, reduceCtorEq, if_false, Option.getD_some]
      rw [if_pos h6, if_pos h6]
    simp only [if_neg h5, if_neg h6, reduceCtorEq, if_false, Option.getD_some]
    cases P.parseInner (cbcDecrypt P.D (P.kdf prf pwd env.salt env.iter) env.iv env.encryptedData) <;> rfl

/-- exact characterisation of acceptance: `ParsePKCS8EcryptedPrivateKey` returns the
    key `k` iff every structural check passes and `ParsePKCS8UnecryptedPrivateKey` returns `k` on the
    CBC decryption of the data under the derived key (padding included). -/
theorem parse_ok_iff (P : Params K) (env : Envelope) (pwd : Bytes) (k : K) :
    parse P env pwd = .ok k ↔
      structErr env = none ∧
      P.parseInner (cbcDecrypt P.D (P.kdf (prfOf env) pwd env.salt env.iter) env.iv env.encryptedData)
        = some k := by
  rw [parse_eq]
  show _ ↔ _ ∧ P.parseInner (decrypted P env (derivedKey P env pwd)) = some k
  cases structErr env with
  | some e => simp
  | none =>
    cases P.parseInner (decrypted P env (derivedKey P env pwd)) with
    | none => simp
    | some k2 =>
      simp only [true_and, Option.some.injEq]
      constructor
      · intro h; injection h
      · intro h; rw [h]

/-- every refusal of `ParsePKCS8EcryptedPrivateKey`: the error is the first failing structural check, or
    "pkcs8: incorrect password" exactly when all structural checks pass and the inner parser refuses
    the decrypted bytes (whatever the reason - the text blames the password in every case). -/
theorem parse_error_iff (P : Params K) (env : Envelope) (pwd : Bytes) (e : Err) :
    parse P env pwd = .error e ↔
      structErr env = some e ∨
      (structErr env = none ∧ e = .incorrectPassword ∧
        P.parseInner (decrypted P env (derivedKey P env pwd)) = none) := by
  rw [parse_eq]
  cases structErr env with
  | some e2 =>
    simp only [Option.some.injEq, reduceCtorEq, false_and, or_false]
    constructor
    · intro h; injection h
    · intro h; rw [h]
  | none =>
    cases P.parseInner (decrypted P env (derivedKey P env pwd)) with
    | none =>
      simp only [reduceCtorEq, true_and, and_true, false_or]
      constructor
      · intro h; injection h with h; exact h.symm
      · intro h; rw [h]
    | some k2 => simp

theorem structErr_any_password (P : Params K) (env : Envelope) (e : Err) (h : structErr env = some e)
    (pwd : Bytes) : parse P env pwd = .error e := by
  rw [parse_eq, h]

/-- what `MarshalSm2EcryptedPrivateKey` writes passes every structural check of
    `ParsePKCS8EcryptedPrivateKey`; the fields are the constants of the code: iteration count 2048, PRF
    hmacWithSHA1, cipher aes256-CBC.  The salt has 8 bytes in the code; its length plays no role. -/
theorem marshal_structure (P : Params K) (k : K) (pwd salt iv : Bytes) (hiv : iv.length = 16) :
    structErr (marshal P k pwd salt iv) = none ∧
    prfOf (marshal P k pwd salt iv) = .sha1 ∧
    (marshal P k pwd salt iv).iter = 2048 ∧
    (marshal P k pwd salt iv).encOid = oidAES256CBC ∧
    (marshal P k pwd salt iv).salt = salt ∧ (marshal P k pwd salt iv).iv = iv := by
  have hl := (cbc_length P k pwd salt iv).2
  refine ⟨?_, rfl, rfl, rfl, rfl, rfl⟩
  unfold structErr
  have e1 : (marshal P k pwd salt iv).pbes2Oid = oidPBES2 := rfl
  have e2 : (marshal P k pwd salt iv).kdfOid = oidPBKDF2 := rfl
  have e3 : (marshal P k pwd salt iv).encOid = oidAES256CBC := rfl
  have e4 : prfOfOid (marshal P k pwd salt iv).prfOid = some .sha1 := rfl
  have e5 : (marshal P k pwd salt iv).iv.length = 16 := hiv
  have e6 : ¬((marshal P k pwd salt iv).encryptedData.length = 0 ∨
      (marshal P k pwd salt iv).encryptedData.length % 16 ≠ 0) := by rw [hl]; omega
  rw [if_neg (by rw [e1]; exact fun h => h rfl), if_neg (by rw [e2]; exact fun h => h rfl),
    if_neg (by rw [e3]; exact fun h => h.2 rfl), if_neg (by rw [e4]; exact fun h => nomatch h),
    if_neg (by rw [e5]; exact fun h => h rfl), if_neg e6]

/-- the hypothesis that makes "no un-padding" work: the inner parser
    (`ParsePKCS8UnecryptedPrivateKey`, i.e. `asn1.Unmarshal` whose `rest` is dropped) returns the key
    from its own encoding followed by ANY trailing bytes -/
def InnerIgnoresTrailing (P : Params K) : Prop :=
  ∀ (k : K) (padding : Bytes), P.parseInner (P.marshalInner k ++ padding) = some k

theorem decrypted_marshal (P : Params K) (hED : ∀ k b, P.D k (P.E k b) = b)
    (k : K) (pwd salt iv : Bytes) (hiv : iv.length = 16) :
    decrypted P (marshal P k pwd salt iv) (P.kdf .sha1 pwd salt 2048) = pad (P.marshalInner k) := by
  unfold decrypted
  show cbcDecrypt P.D _ iv (cbcEncrypt P.E _ iv (pad (P.marshalInner k))) = _
  exact cbcDecrypt_cbcEncrypt P.E P.D hED _ iv hiv _ (by rw [pad, pad16_length]; omega)

/-- C14 for the password-protected PKCS#8 form:
    `ParsePKCS8EcryptedPrivateKey(MarshalSm2EcryptedPrivateKey(key, pwd), pwd)` returns `key`, for every
    key, every password, every salt and every 16-byte IV the random source may deliver - GIVEN that the
    block cipher inverts (`hED`) and that the inner parser ignores trailing bytes (`hInner`; the pad is
    never removed). -/
theorem parse_marshal (P : Params K) (hED : ∀ k b, P.D k (P.E k b) = b) (hInner : InnerIgnoresTrailing P)
    (k : K) (pwd salt iv : Bytes) (hiv : iv.length = 16) :
    parse P (marshal P k pwd salt iv) pwd = .ok k := by
  rw [parse_eq, (marshal_structure P k pwd salt iv hiv).1]
  have hk : derivedKey P (marshal P k pwd salt iv) pwd = P.kdf .sha1 pwd salt 2048 := rfl
  rw [hk, decrypted_marshal P hED k pwd salt iv hiv]
  unfold pad pad16
  rw [hInner k]

theorem structErr_prf_none (env : Envelope) (h : prfOfOid env.prfOid = none) :
    ∃ e, structErr env = some e := by
  unfold structErr
  by_cases h1 : env.pbes2Oid ≠ oidPBES2
  · exact ⟨_, if_pos h1⟩
  by_cases h2 : env.kdfOid ≠ oidPBKDF2
  · exact ⟨_, by rw [if_neg h1, if_pos h2]⟩
  by_cases h3 : env.encOid ≠ oidAES128CBC ∧ env.encOid ≠ oidAES256CBC
  · exact ⟨_, by rw [if_neg h1, if_neg h2, if_pos h3]⟩
  · exact ⟨_, by rw [if_neg h1, if_neg h2, if_neg h3, if_pos h]⟩

/-- verdict and result of `ParsePKCS8EcryptedPrivateKey` depend on the password
    only through `pbkdf(pwd, salt, iter, 32, h)`: two passwords with the same derived key (for the salt,
    count and hash of the file) are indistinguishable.  PBKDF2
    uses the password as an HMAC key, so e.g. a password longer than the hash block and its hash derive
    the same key for EVERY salt and count, and both open the same file - in this and in any other
    PBKDF2-based envelope. -/
theorem parse_only_via_key (P : Params K) (env : Envelope) (pwd pwd2 : Bytes)
    (h : ∀ prf, prfOfOid env.prfOid = some prf →
      P.kdf prf pwd env.salt env.iter = P.kdf prf pwd2 env.salt env.iter) :
    parse P env pwd = parse P env pwd2 := by
  rw [parse_eq, parse_eq]
  cases hp : prfOfOid env.prfOid with
  | none =>
    obtain ⟨e, he⟩ := structErr_prf_none env hp
    rw [he]
  | some prf =>
    have : derivedKey P env pwd = derivedKey P env pwd2 := by
      unfold derivedKey prfOf; rw [hp]; exact h prf hp
    rw [this]

/-- on the files this library writes: a second password whose
    PBKDF2-HMAC-SHA1 key for the file's salt equals that of the password used to write the file is
    accepted and yields the key (hypotheses as in `parse_marshal`). -/
theorem second_password_opens (P : Params K) (hED : ∀ k b, P.D k (P.E k b) = b)
    (hInner : InnerIgnoresTrailing P) (k : K) (pwd pwd2 salt iv : Bytes) (hiv : iv.length = 16)
    (hkey : P.kdf .sha1 pwd2 salt 2048 = P.kdf .sha1 pwd salt 2048) :
    parse P (marshal P k pwd salt iv) pwd2 = .ok k := by
  rw [parse_only_via_key P _ pwd2 pwd]
  · exact parse_marshal P hED hInner k pwd salt iv hiv
  · intro prf hprf
    -- the file names hmacWithSHA1
    cases (Option.some.inj hprf : PrfId.sha1 = prf)
    exact hkey

theorem marshal_only_via_key (P : Params K) (k : K) (pwd pwd2 salt iv : Bytes)
    (hkey : P.kdf .sha1 pwd salt 2048 = P.kdf .sha1 pwd2 salt 2048) :
    marshal P k pwd salt iv = marshal P k pwd2 salt iv := by
  simp only [marshal, hkey]

/-- `pbkdf` (x509/pkcs8.go) uses the
    password only as the key of `hmac.New(h, password)`, and HMAC first normalises its key (a key longer
    than the hash block is replaced by its hash, a shorter one is zero-padded to the block: RFC 2104).
    Whenever the key derivation factors through such a normalisation `norm`, two passwords with the same
    normal form - a long password and its hash; `pwd` and `pwd ++ [0]` - get the same verdict and the
    same key from `ParsePKCS8EcryptedPrivateKey` on EVERY envelope, and `MarshalSm2EcryptedPrivateKey`
    writes the same file for both. -/
theorem hmac_equivalent_passwords (P : Params K) (norm : PrfId → Bytes → Bytes)
    (kdf0 : PrfId → Bytes → Bytes → Nat → Key)
    (hK : ∀ prf pwd salt iter, P.kdf prf pwd salt iter = kdf0 prf (norm prf pwd) salt iter)
    (pwd pwd2 : Bytes) (hn : ∀ prf, norm prf pwd = norm prf pwd2) :
    (∀ env, parse P env pwd = parse P env pwd2) ∧
    (∀ k salt iv, marshal P k pwd salt iv = marshal P k pwd2 salt iv) := by
  refine ⟨fun env => parse_only_via_key P env pwd pwd2 (fun prf _ => ?_),
    fun k salt iv => marshal_only_via_key P k pwd pwd2 salt iv ?_⟩
  · rw [hK, hK, hn]
  · rw [hK, hK, hn]

/-- reading a file written under `pwd` with a password `pwd2` (any
    other password; nothing is assumed about the derived key): the result is EITHER the error
    "pkcs8: incorrect password" OR a key that `ParsePKCS8UnecryptedPrivateKey` accepted from the bytes
    mis-decrypted under `pwd2`'s key.  No other error, and no other source of "a different key". -/
theorem wrong_password_error_or_inner (P : Params K) (k : K) (pwd pwd2 salt iv : Bytes)
    (hiv : iv.length = 16) :
    parse P (marshal P k pwd salt iv) pwd2 = .error .incorrectPassword ∨
    ∃ k2, parse P (marshal P k pwd salt iv) pwd2 = .ok k2 ∧
      P.parseInner (cbcDecrypt P.D (P.kdf .sha1 pwd2 salt 2048) iv
        (marshal P k pwd salt iv).encryptedData) = some k2 := by
  have hs := (marshal_structure P k pwd salt iv hiv).1
  cases hr : P.parseInner (cbcDecrypt P.D (P.kdf .sha1 pwd2 salt 2048) iv
      (marshal P k pwd salt iv).encryptedData) with
  | none => exact Or.inl ((parse_error_iff P _ pwd2 _).mpr (Or.inr ⟨hs, rfl, hr⟩))
  | some k2 => exact Or.inr ⟨k2, (parse_ok_iff P _ pwd2 k2).mpr ⟨hs, hr⟩, rfl⟩

/-- the clause "a different password is reported as an error, not a
    different key", RELATIVE to the hypothesis `hRej` that the inner parser refuses the bytes obtained by
    decrypting under the other password's key.  `hRej` is not provable for a real cipher and all
    passwords: it fails for HMAC-equivalent passwords (`second_password_opens`), and for an unrelated
    key it holds with overwhelming probability only (the garbage would have to start with a well-formed
    PKCS#8 SEQUENCE carrying the SM2 OID and a scalar below the group order). -/
theorem wrong_password_rejected (P : Params K) (k : K) (pwd pwd2 salt iv : Bytes) (hiv : iv.length = 16)
    (hRej : P.parseInner (cbcDecrypt P.D (P.kdf .sha1 pwd2 salt 2048) iv
      (marshal P k pwd salt iv).encryptedData) = none) :
    parse P (marshal P k pwd salt iv) pwd2 = .error .incorrectPassword := by
  rcases wrong_password_error_or_inner P k pwd pwd2 salt iv hiv with h | ⟨k2, _, h2⟩
  · exact h
  · rw [hRej] at h2; exact nomatch h2

/-- for ANY envelope and password the outcome is a structural error
    that no password changes, or "incorrect password", or a key the inner parser accepted -/
theorem parse_trichotomy (P : Params K) (env : Envelope) (pwd : Bytes) :
    (∃ e, structErr env = some e ∧ ∀ pwd2, parse P env pwd2 = .error e) ∨
    parse P env pwd = .error .incorrectPassword ∨
    ∃ k, parse P env pwd = .ok k ∧ P.parseInner (decrypted P env (derivedKey P env pwd)) = some k := by
  cases hs : structErr env with
  | some e => exact Or.inl ⟨e, rfl, structErr_any_password P env e hs⟩
  | none =>
    right
    rw [parse_eq, hs]
    cases P.parseInner (decrypted P env (derivedKey P env pwd)) with
    | none => exact Or.inl rfl
    | some k => exact Or.inr ⟨k, rfl, rfl⟩

/-- the `switch` of lines 255-270 knows exactly the four HMAC OIDs md5, sha1, sha256, sha512 -/
theorem prfOfOid_none_iff (o : Oid) :
    prfOfOid o = none ↔ o ≠ oidKEYMD5 ∧ o ≠ oidKEYSHA1 ∧ o ≠ oidKEYSHA256 ∧ o ≠ oidKEYSHA512 := by
  unfold prfOfOid
  by_cases h1 : o = oidKEYMD5
  · rw [if_pos h1]; exact ⟨fun h => (nomatch h), fun h => absurd h1 h.1⟩
  by_cases h2 : o = oidKEYSHA1
  · rw [if_neg h1, if_pos h2]; exact ⟨fun h => (nomatch h), fun h => absurd h2 h.2.1⟩
  by_cases h3 : o = oidKEYSHA256
  · rw [if_neg h1, if_neg h2, if_pos h3]; exact ⟨fun h => (nomatch h), fun h => absurd h3 h.2.2.1⟩
  by_cases h4 : o = oidKEYSHA512
  · rw [if_neg h1, if_neg h2, if_neg h3, if_pos h4]
    exact ⟨fun h => (nomatch h), fun h => absurd h4 h.2.2.2⟩
  rw [if_neg h1, if_neg h2, if_neg h3, if_neg h4]
  exact ⟨fun _ => ⟨h1, h2, h3, h4⟩, fun _ => rfl⟩

/-- each malformed field yields its specific error whatever the password, in
    the order of the code: wrong PBES2 OID ↦ "only support PBES2"; wrong KDF OID ↦ "only support PBKDF2";
    a cipher OID other than aes128-CBC / aes256-CBC ↦ "unknow encryption algorithm"; a PRF OID outside
    the four ↦ "unknown hash algorithm"; an IV of another length than 16 ↦ "invalid IV length in PBES2
    parameters"; empty data or a length that is not a multiple of 16 ↦ "encrypted key is not a multiple
    of the block size".  (Each later error presupposes that the earlier checks passed.) -/
theorem structural_rejections (P : Params K) (env : Envelope) (pwd : Bytes) :
    (env.pbes2Oid ≠ oidPBES2 → parse P env pwd = .error .onlyPBES2) ∧
    (env.pbes2Oid = oidPBES2 → env.kdfOid ≠ oidPBKDF2 → parse P env pwd = .error .onlyPBKDF2) ∧
    (env.pbes2Oid = oidPBES2 → env.kdfOid = oidPBKDF2 →
      env.encOid ≠ oidAES128CBC → env.encOid ≠ oidAES256CBC → parse P env pwd = .error .unknownEncAlg) ∧
    (env.pbes2Oid = oidPBES2 → env.kdfOid = oidPBKDF2 →
      (env.encOid = oidAES128CBC ∨ env.encOid = oidAES256CBC) →
      prfOfOid env.prfOid = none → parse P env pwd = .error .unknownHash) ∧
    (env.pbes2Oid = oidPBES2 → env.kdfOid = oidPBKDF2 →
      (env.encOid = oidAES128CBC ∨ env.encOid = oidAES256CBC) →
      prfOfOid env.prfOid ≠ none → env.iv.length ≠ 16 → parse P env pwd = .error .invalidIVLength) ∧
    (env.pbes2Oid = oidPBES2 → env.kdfOid = oidPBKDF2 →
      (env.encOid = oidAES128CBC ∨ env.encOid = oidAES256CBC) →
      prfOfOid env.prfOid ≠ none → env.iv.length = 16 →
      (env.encryptedData.length = 0 ∨ env.encryptedData.length % 16 ≠ 0) →
      parse P env pwd = .error .notMultiple) := by
  have enc : (env.encOid = oidAES128CBC ∨ env.encOid = oidAES256CBC) →
      ¬(env.encOid ≠ oidAES128CBC ∧ env.encOid ≠ oidAES256CBC) :=
    fun h hh => h.elim hh.1 hh.2
  have key : ∀ e, structErr env = some e → parse P env pwd = .error e :=
    fun e h => structErr_any_password P env e h pwd
  unfold structErr at key
  refine ⟨fun h1 => key _ (if_pos h1), fun h1 h2 => key _ ?_, fun h1 h2 h3 h3b => key _ ?_,
    fun h1 h2 h3 h4 => key _ ?_, fun h1 h2 h3 h4 h5 => key _ ?_, fun h1 h2 h3 h4 h5 h6 => key _ ?_⟩
  · rw [if_neg (fun h => h h1), if_pos h2]
  · rw [if_neg (fun h => h h1), if_neg (fun h => h h2), if_pos ⟨h3, h3b⟩]
  · rw [if_neg (fun h => h h1), if_neg (fun h => h h2), if_neg (enc h3), if_pos h4]
  · rw [if_neg (fun h => h h1), if_neg (fun h => h h2), if_neg (enc h3), if_neg h4, if_pos h5]
  · rw [if_neg (fun h => h h1), if_neg (fun h => h h2), if_neg (enc h3), if_neg h4, if_neg (fun h => h h5),
      if_pos h6]

/-- both AES OIDs are accepted by `ParsePKCS8EcryptedPrivateKey` and treated alike: the cipher OID is
    only compared, never used - the key always has 32 bytes, so an envelope that names aes128-CBC is
    decrypted with AES-256 all the same -/
theorem enc_oid_not_used (P : Params K) (env : Envelope) (pwd : Bytes) (h : env.encOid = oidAES256CBC) :
    parse P { env with encOid := oidAES128CBC } pwd = parse P env pwd := by
  unfold parse
  simp only [h]
  have a : ¬(oidAES128CBC ≠ oidAES128CBC ∧ oidAES128CBC ≠ oidAES256CBC) := fun hh => hh.1 rfl
  have b : ¬(oidAES256CBC ≠ oidAES128CBC ∧ oidAES256CBC ≠ oidAES256CBC) := fun hh => hh.2 rfl
  rw [if_neg a, if_neg b]

/-- `ParsePKCS8PrivateKey(der, nil)` is `ParsePKCS8UnecryptedPrivateKey(der)` (the envelope decoder is
    not consulted; errors of the inner parser pass through); `MarshalSm2PrivateKey(key, nil)` is
    `MarshalSm2UnecryptedPrivateKey(key)` - no salt, no IV, no encryption. -/
theorem dispatch_nil (P : Params K) (der : Bytes) (k : K) (salt iv : Bytes) :
    parsePrivateKey P der none =
      (match P.parseInner der with
        | none => .error .inner
        | some k => .ok k) ∧
    marshalPrivateKey P k none salt iv = P.marshalInner k := ⟨rfl, rfl⟩

/-- every non-nil password, INCLUDING the empty `[]byte{}`, takes the encrypted path on both sides
    (`pwd == nil` is false for an empty non-nil slice): the key is then encrypted under
    `pbkdf([]byte{}, salt, …)`, and a plain PKCS#8 file read with `[]byte{}` is decoded as an envelope. -/
theorem dispatch_non_nil (P : Params K) (der pwd : Bytes) (k : K) (salt iv : Bytes) :
    parsePrivateKey P der (some pwd) = parseDer P der pwd ∧
    marshalPrivateKey P k (some pwd) salt iv = P.encodeEnv (marshal P k pwd salt iv) ∧
    parsePrivateKey P der (some []) = parseDer P der [] ∧
    marshalPrivateKey P k (some []) salt iv = P.encodeEnv (marshal P k [] salt iv) := ⟨rfl, rfl, rfl, rfl⟩

theorem parseDer_unknown_format (P : Params K) (der pwd : Bytes) (h : P.decodeEnv der = none) :
    parseDer P der pwd = .error .unknownFormat := by
  unfold parseDer; rw [h]

/-- C14 through the dispatching pair: `ParsePKCS8PrivateKey(
    MarshalSm2PrivateKey(key, pwd), pwd) = key` for a nil password, the empty password and every other
    password alike.  Hypotheses: `hED`, `hInner` as in `parse_marshal`, and `hCodec`: encoding/asn1 reads
    back the envelope it wrote (not modelled). -/
theorem private_key_roundtrip (P : Params K) (hED : ∀ k b, P.D k (P.E k b) = b)
    (hInner : InnerIgnoresTrailing P) (k : K) (pwd : Option Bytes) (salt iv : Bytes) (hiv : iv.length = 16)
    (hCodec : ∀ p, P.decodeEnv (P.encodeEnv (marshal P k p salt iv)) = some (marshal P k p salt iv)) :
    parsePrivateKey P (marshalPrivateKey P k pwd salt iv) pwd = .ok k := by
  cases pwd with
  | none =>
    show (match P.parseInner (P.marshalInner k) with
        | none => Except.error Err.inner
        | some k => Except.ok k) = _
    have := hInner k []
    rw [List.append_nil] at this
    rw [this]
  | some p =>
    show parseDer P (P.encodeEnv (marshal P k p salt iv)) p = _
    unfold parseDer
    rw [hCodec p]
    exact parse_marshal P hED hInner k p salt iv hiv

/-- mixing the two forms: a key written WITHOUT password and read WITH one (any, also the empty one) is
    never returned as a key unless the plain PKCS#8 bytes happen to decode as an envelope: if they do
    not (`asn1.Unmarshal` fails), the answer is "x509: unknown format". -/
theorem plain_read_with_password (P : Params K) (k : K) (pwd salt iv : Bytes)
    (h : P.decodeEnv (P.marshalInner k) = none) :
    parsePrivateKey P (marshalPrivateKey P k none salt iv) (some pwd) = .error .unknownFormat :=
  parseDer_unknown_format P _ pwd h

theorem toy_hED : ∀ k b, toy.D k (toy.E k b) = b := by
  intro k b
  apply Subtype.ext
  show xorBytes (xorBytes b.1 k.1) k.1 = b.1
  exact xor_cancel_right _ _ (by rw [b.2, k.2]; omega)

theorem toy_hInner : InnerIgnoresTrailing toy := by
  intro k padding
  rfl

/-- the hypotheses of `parse_marshal` hold for the toy cipher and codec -/
example (k : Byte) (pwd salt iv : Bytes) (hiv : iv.length = 16) :
    parse toy (marshal toy k pwd salt iv) pwd = .ok k :=
  parse_marshal toy toy_hED toy_hInner k pwd salt iv hiv

deriving instance DecidableEq for Except

def exSalt : Bytes := [1, 2, 3, 4, 5, 6, 7, 8]
def exIv : Bytes := [0, 1, 2, 3, 4, 5, 6, 7, 8, 9, 10, 11, 12, 13, 14, 15]

example : parse toy (marshal toy 0x41#8 [0x70, 0x77] exSalt exIv) [0x70, 0x77] = .ok 0x41#8 := by decide
/-- here `hRej` holds: the garbage does not start with 0x30 -/
example : parse toy (marshal toy 0x41#8 [0x70, 0x77] exSalt exIv) [0x71, 0x77] = .error .incorrectPassword := by
  decide
/-- `hRej` is a genuine hypothesis: in the toy instance (whose inner parser checks one byte only) a
    wrong password that leaves that byte intact yields A DIFFERENT KEY, through exactly the door that
    `wrong_password_error_or_inner` names -/
example : parse toy (marshal toy 0x41#8 [0x70, 0x77] exSalt exIv) [0x70, 0x78] = .ok 0x4e#8 := by decide
example : (marshal toy 0x41#8 [0x70, 0x77] exSalt exIv).encryptedData.length = 16 := by decide
example : parse toy { marshal toy 0x41#8 [0x70] exSalt exIv with encryptedData := [1, 2, 3] } [0x70]
    = .error .notMultiple := by decide
example : parse toy { marshal toy 0x41#8 [0x70] exSalt exIv with prfOid := [1, 2, 3] } [0x70]
    = .error .unknownHash := by decide
example : parsePrivateKey toy (marshalPrivateKey toy 0x41#8 (some []) exSalt exIv) (some []) = .ok 0x41#8 := by
  decide
example : parsePrivateKey toy (marshalPrivateKey toy 0x41#8 none exSalt exIv) none = .ok 0x41#8 := by decide

end Gmsm.Props.C14Env
