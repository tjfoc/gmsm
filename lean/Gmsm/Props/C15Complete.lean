/-
C15 / C06 — the converse of `Props.C15.done_only_expected`: the message-acceptance automaton `Model.Handshake`
ACCEPTS everything it should.

Every flight of `expected c` is accepted (`expected_accepted`).  The accepted language, exactly (`accepts_iff`):
a flight of `expected c` with, in front of each message, a stretch of tolerated events that keeps within the
limits `gapOk` spells out — and nothing else.  What an honest endpoint writes (`Model.Handshake.sends`) is
accepted by the honest other end of the same connection, in both directions, for every correctly configured pair
(`honest_pair_completes`), and the one excluded combination really fails (`gm_ocsp_not_accepted`).  Every member
of `expected c` is the flight of some honest server / the honest client (`no_other_completion`,
`server_expected_is_honest`, `client_expected_iff`).

All statements are for ALL configurations `c : Cfg`, every event sequence and every state where one appears.
-/
import Gmsm.Props.C15
import Gmsm.Model.HandshakeSends
namespace Props.C15Complete
open Model.Handshake Props.C15

theorem nil_not_mem_pre (m : Msg) (l : List (List Msg)) : [] ∉ pre m l := by simp [pre]

theorem nil_not_mem_suffixes (c : Cfg) (p : Phase) : [] ∉ suffixes c p := by
  cases p
  case sFinished | cFinished => simp [suffixes, sFinishedL, cFinishedL]
  case cAfterCert | cAfterStatus | cAfterSKX | cDoneNoSKX =>
    simp only [suffixes, cAfterCertL, cAfterStatusL, cAfterSKXL, cDoneNoSKXL]
    (repeat' split) <;> simp [nil_not_mem_pre]
  -- the other phases list `pre m …` by unfolding
  all_goals exact nil_not_mem_pre _ _

/-- from `cAfterStatus` and from `cAfterCert` alike: the two phases differ only in the CertificateStatus the latter
    also accepts -/
theorem suffix_next_afterStatus (c : Cfg) (m : Msg) (r : List Msg) (h : m :: r ∈ cAfterStatusL c) :
    ∃ p', next c .cAfterStatus m = some (some p') ∧ next c .cAfterCert m = some (some p') ∧ r ∈ suffixes c p' := by
  rcases (mem_cAfterStatusL c m r).mp h with ⟨hk, rfl, h1⟩ | ⟨rfl, h1⟩ | ⟨hk, rfl, h1⟩
  · exact ⟨.cAfterSKX, by simp [next, hk], by simp [next, hk], h1⟩
  · exact ⟨.cDoneNoSKX, rfl, rfl, h1⟩
  · refine ⟨afterHelloDone c, by simp [next, hk], by simp [next, hk], ?_⟩
    rw [suffixes_afterHelloDone]; exact h1

/-- Converse of `next_suffix` / `next_last` -/
theorem suffix_next (c : Cfg) (p : Phase) (m : Msg) (r : List Msg) (h : m :: r ∈ suffixes c p) :
    ∃ x, next c p m = some x ∧ match x with | none => r = [] | some p' => r ∈ suffixes c p' := by
  cases p
  case sFinished | cFinished =>
    obtain ⟨rfl, rfl⟩ : m = .finished ∧ r = [] := by simpa [suffixes, sFinishedL, cFinishedL] using h
    exact ⟨none, rfl, rfl⟩
  -- one accepted message, leading to a fixed phase: the listing is `pre m₀ (suffixes c p')` by unfolding
  case sCert | sCertVerify | sNextProto | cSKX | cTicket | cCCS =>
    obtain ⟨rfl, hr⟩ := (mem_pre _ _ _ _).mp h
    exact ⟨some _, rfl, hr⟩
  -- one accepted message, the phase it leads to depends on the configuration
  case sHello | sKeyExchange | sCCS | cHello | cCert | cHelloDone =>
    obtain ⟨rfl, hr⟩ := (mem_pre _ _ _ _).mp h
    refine ⟨some _, rfl, ?_⟩
    simp only [suffixes_ite, suffixes_afterHelloDone]; exact hr
  case cAfterSKX =>
    rcases (mem_cAfterSKXL c m r).mp h with ⟨rfl, h1⟩ | ⟨rfl, h1⟩
    · exact ⟨some _, rfl, h1⟩
    · refine ⟨some _, rfl, ?_⟩
      simp only [suffixes_afterHelloDone]; exact h1
  case cDoneNoSKX =>
    obtain ⟨hk, rfl, h1⟩ := (mem_cDoneNoSKXL c m r).mp h
    refine ⟨some (afterHelloDone c), by simp [next, hk], ?_⟩
    simp only [suffixes_afterHelloDone]; exact h1
  case cAfterStatus =>
    obtain ⟨p', h1, _, h3⟩ := suffix_next_afterStatus c m r h
    exact ⟨some p', h1, h3⟩
  case cAfterCert =>
    rcases (mem_cAfterCertL c m r).mp h with ⟨ho, rfl, h1⟩ | h1
    · exact ⟨some .cAfterStatus, by simp [next, ho], h1⟩
    · obtain ⟨p', _, h2, h3⟩ := suffix_next_afterStatus c m r h1
      exact ⟨some p', h2, h3⟩

theorem suffix_ccs_iff (c : Cfg) (p : Phase) (m : Msg) (r : List Msg) (h : m :: r ∈ suffixes c p) :
    m = .ccs ↔ wantsCCS p = true := by
  obtain ⟨x, hn, _⟩ := suffix_next c p m r h
  exact next_ccs_iff c p m x hn

theorem suffixes_no_tolerated (c : Cfg) (f : List Msg) : ∀ p, f ∈ suffixes c p → ∀ m ∈ f, tolerated m = false := by
  induction f with
  | nil => intro p _ m hm; cases hm
  | cons x xs ih =>
    intro p h m hm
    obtain ⟨y, hn, hr⟩ := suffix_next c p x xs h
    rcases List.mem_cons.mp hm with rfl | hm
    · exact next_not_tolerated c p m y hn
    · cases y with
      | none => subst hr; cases hm
      | some p' => exact ih p' hr m hm

theorem ccs_cont_pend (c : Cfg) (s s' : State) (h : step c s .ccs = .cont s') : s.pend = false := by
  simp only [step] at h
  split at h
  · rename_i hw; simp only [Bool.and_eq_true, Bool.not_eq_true'] at hw; exact hw.2
  · cases h

theorem accepts_append_cont (c : Cfg) (t r : List Msg) : ∀ s s', run c s t = .cont s' →
    accepts c s (t ++ r) = accepts c s' r := by
  induction t with
  | nil => intro s s' h; simp only [run, Result.cont.injEq] at h; subst h; rfl
  | cons x xs ih =>
    intro s s' h
    simp only [run] at h
    simp only [List.cons_append, accepts]
    cases hs : step c s x with
    | cont s1 => rw [hs] at h; exact ih s1 s' h
    | done => rw [hs] at h; cases h
    | error a => rw [hs] at h; cases h

theorem gap_step (c : Cfg) (s : State) (x : Msg) (t : List Msg) (m : Msg) (hx : tolerated x = true)
    (hc : m = .ccs ↔ wantsCCS s.phase = true) :
    gapOkAt s.warn s.pend (x :: t) m = true ↔ ∃ s', step c s x = .cont s' ∧ gapOkAt s'.warn s'.pend t m = true := by
  obtain ⟨p, w, b⟩ := s
  by_cases hm : m = .ccs
  · have hw : wantsCCS p = true := hc.mp hm
    cases x <;> simp only [tolerated, Bool.false_eq_true] at hx <;> simp [gapOkAt, warnAfter, step, hm, hw]
    split <;> simp
  · have hw : wantsCCS p = false := by simpa [hm] using hc
    cases x <;> simp only [tolerated, Bool.false_eq_true] at hx <;> simp [gapOkAt, warnAfter, step, hm, hw, tolerated]
    split <;> simp

/-- nothing in front of `m`: fine, unless `m` is a ChangeCipherSpec and part of a message is buffered -/
theorem gapOkAt_nil (w : Nat) (b : Bool) (m : Msg) : gapOkAt w b [] m = true ↔ (m = .ccs → b = false) := by
  simp only [gapOkAt, warnAfter, Option.isSome_some, List.all_nil, Bool.and_true, Bool.true_and]
  split <;> simp [*]

theorem gapOkAt_tolerated (w : Nat) (b : Bool) (t : List Msg) (m : Msg) (h : gapOkAt w b t m = true) :
    t.all tolerated = true := by
  simp only [gapOkAt, Bool.and_eq_true] at h
  obtain ⟨_, h⟩ := h
  split at h
  · simp only [Bool.and_eq_true, List.all_eq_true, beq_iff_eq] at h ⊢
    intro x hx; rw [h.2 x hx]; rfl
  · exact h

theorem absorb (c : Cfg) (t : List Msg) (m : Msg) : ∀ s : State, gapOkAt s.warn s.pend t m = true →
    (m = .ccs ↔ wantsCCS s.phase = true) →
    ∃ s1, run c s t = .cont s1 ∧ s1.phase = s.phase ∧ (m = .ccs → s1.pend = false) := by
  induction t with
  | nil =>
    intro s hg _
    exact ⟨s, rfl, rfl, (gapOkAt_nil _ _ m).mp hg⟩
  | cons x t ih =>
    intro s hg hc
    have hx : tolerated x = true := by
      have := gapOkAt_tolerated _ _ _ m hg
      rw [List.all_cons, Bool.and_eq_true] at this
      exact this.1
    obtain ⟨s', hs, hg'⟩ := (gap_step c s x t m hx hc).mp hg
    have hp : s'.phase = s.phase := by
      rcases step_cont c s s' x hs with ⟨_, hp⟩ | ⟨hn, _⟩
      · exact hp
      · rw [hx] at hn; cases hn
    obtain ⟨s1, hr, hp1, hpend⟩ := ih s' hg' (hp ▸ hc)
    exact ⟨s1, by simp only [run, hs, hr], hp1.trans hp, hpend⟩

theorem woven_accepts (c : Cfg) (gs : List (List Msg × Msg)) : ∀ (t : List Msg) (m : Msg) (s : State),
    gapOkAt s.warn s.pend t m = true → m :: gs.map (·.2) ∈ suffixes c s.phase →
    (∀ g ∈ gs, gapOk g.1 g.2 = true) → accepts c s (t ++ m :: weave gs) = true := by
  induction gs with
  | nil =>
    intro t m s hg hm _
    obtain ⟨s1, hr, hp, hpend⟩ := absorb c t m s hg (suffix_ccs_iff c s.phase m _ hm)
    rw [accepts_append_cont c t _ s s1 hr]
    obtain ⟨x, hn, hr'⟩ := suffix_next c s.phase m _ hm
    cases x with
    | none =>
      rw [← hp] at hn
      simp only [weave, accepts, step_next c s1 m _ hn hpend, List.isEmpty_nil]
    | some p' => exact absurd hr' (nil_not_mem_suffixes c p')
  | cons g gs ih =>
    intro t m s hg hm hall
    obtain ⟨s1, hr, hp, hpend⟩ := absorb c t m s hg (suffix_ccs_iff c s.phase m _ hm)
    rw [accepts_append_cont c t _ s s1 hr]
    obtain ⟨x, hn, hr'⟩ := suffix_next c s.phase m _ hm
    cases x with
    | none => cases hr'
    | some p' =>
      rw [← hp] at hn
      obtain ⟨t', m'⟩ := g
      obtain ⟨hg', hall⟩ := List.forall_mem_cons.mp hall
      simp only [weave, accepts, step_next c s1 m _ hn hpend]
      exact ih t' m' ⟨p', 0, false⟩ hg' hr' hall

theorem accepts_woven (c : Cfg) (l : List Msg) : ∀ s, accepts c s l = true →
    ∃ t m gs, l = t ++ m :: weave gs ∧ gapOkAt s.warn s.pend t m = true ∧
      m :: gs.map (·.2) ∈ suffixes c s.phase ∧ ∀ g ∈ gs, gapOk g.1 g.2 = true := by
  induction l with
  | nil => intro s h; simp [accepts] at h
  | cons x xs ih =>
    intro s h
    simp only [accepts] at h
    cases hs : step c s x with
    | cont s' =>
      rw [hs] at h
      obtain ⟨t', m', gs', rfl, hg, hmem, hall⟩ := ih s' h
      rcases step_cont c s s' x hs with ⟨ht, hp⟩ | ⟨ht, hn, _⟩
      · rw [hp] at hmem
        exact ⟨x :: t', m', gs', rfl,
          (gap_step c s x t' m' ht (suffix_ccs_iff c s.phase m' _ hmem)).mpr ⟨s', hs, hg⟩, hmem, hall⟩
      · have hpend : x = .ccs → s.pend = false := fun hx => ccs_cont_pend c s s' (hx ▸ hs)
        have hs' := step_next c s x _ hn hpend
        rw [hs] at hs'
        simp only [Result.cont.injEq] at hs'
        rw [hs'] at hg
        exact ⟨[], x, (t', m') :: gs', rfl, (gapOkAt_nil _ _ x).mpr hpend, next_suffix c s.phase s'.phase x hn _ hmem,
          List.forall_mem_cons.mpr ⟨hg, hall⟩⟩
    | done =>
      rw [hs] at h
      obtain ⟨_, hn⟩ := step_done c s x hs
      have : xs = [] := by simpa using h
      subst this
      exact ⟨[], x, [], rfl, (gapOkAt_nil _ _ x).mpr fun hx => absurd (hx ▸ hn) (next_ccs_not_last c s.phase),
        next_last c s.phase x hn, by simp⟩
    | error a => rw [hs] at h; simp at h

/-- The accepted language from ANY state `s` (phase, warning-alert count, buffered bytes): the first stretch of
    tolerated events must be admissible from the state's count and buffer (`gapOkAt`), the others from a fresh
    count (`gapOk`). -/
theorem accepts_iff_woven (c : Cfg) (s : State) (l : List Msg) : accepts c s l = true ↔
    ∃ t m gs, l = t ++ m :: weave gs ∧ gapOkAt s.warn s.pend t m = true ∧
      m :: gs.map (·.2) ∈ suffixes c s.phase ∧ ∀ g ∈ gs, gapOk g.1 g.2 = true := by
  constructor
  · exact accepts_woven c l s
  · rintro ⟨t, m, gs, rfl, hg, hm, hall⟩
    exact woven_accepts c gs t m s hg hm hall

/-- The whole truth about tolerance.  For every role and configuration and EVERY event sequence `l`:
    `Handshake()` completes with the last event of `l` if and only if `l = t₁ ++ [m₁] ++ … ++ tₙ ++ [mₙ]` where
    `[m₁, …, mₙ]` is one of the flights `expected c` and each `tᵢ` is a stretch of events that `gapOk` allows in
    front of `mᵢ`:
      * in front of a handshake message: warning alerts, empty handshake records, first parts of a message
        (`fragment`) and the `trailing` marker in any order and number, provided the count of warning alerts never
        passes `maxWarnAlertCount` = 5, where a `fragment` (a handshake record with data) clears the count and an
        empty record or `trailing` does not;
      * in front of ChangeCipherSpec: at most 5 warning alerts and nothing else (conn.go `readRecord`: a handshake
        record while ChangeCipherSpec is awaited is answered with no_renegotiation — unexpected_message by the
        GMSSL client — and `c.hand.Len() > 0` makes the ChangeCipherSpec an error).
    Nothing depends on whether the version is known yet, and between ChangeCipherSpec and Finished the rule for
    handshake messages applies. -/
theorem accepts_iff (c : Cfg) (l : List Msg) : accepts c (init c) l = true ↔
    ∃ gs, l = weave gs ∧ gs.map (·.2) ∈ expected c ∧ ∀ g ∈ gs, gapOk g.1 g.2 = true := by
  rw [accepts_iff_woven]
  constructor
  · rintro ⟨t, m, gs, rfl, hg, hm, hall⟩
    exact ⟨(t, m) :: gs, rfl, hm, List.forall_mem_cons.mpr ⟨hg, hall⟩⟩
  · rintro ⟨gs, rfl, hm, hall⟩
    cases gs with
    | nil => exact absurd hm (nil_not_mem_suffixes c _)
    | cons g gs =>
      obtain ⟨t, m⟩ := g
      obtain ⟨hg, hall⟩ := List.forall_mem_cons.mp hall
      exact ⟨t, m, gs, rfl, hg, hm, hall⟩

theorem weave_plain (f : List Msg) : weave (f.map fun m => ([], m)) = f := by
  induction f with
  | nil => rfl
  | cons x xs ih => simp only [List.map_cons, weave, List.nil_append, ih]

theorem map_snd_plain (f : List Msg) : (f.map fun m => (([] : List Msg), m)).map (·.2) = f := by
  induction f with
  | nil => rfl
  | cons x xs ih => simp only [List.map_cons, ih]

theorem gapOk_nil (m : Msg) : gapOk [] m = true := (gapOkAt_nil 0 false m).mpr fun _ => rfl

/-- For every role and configuration, every flight listed in `expected c` completes the handshake: the type
    assertions of the four handshake state machines let every message of the flight through and `readRecord`
    takes the ChangeCipherSpec where the flight has it.  Together with `done_only_expected`: the listing
    `expected c` is neither too small nor too large. -/
theorem expected_accepted (c : Cfg) (f : List Msg) (h : f ∈ expected c) : accepts c (init c) f = true := by
  rw [accepts_iff]
  refine ⟨f.map fun m => ([], m), (weave_plain f).symm, ?_, ?_⟩
  · rw [map_snd_plain]; exact h
  · intro g hg
    simp only [List.mem_map] at hg
    obtain ⟨m, _, rfl⟩ := hg
    exact gapOk_nil m

/-- on sequences without warning alerts, empty records and record-boundary artefacts the endpoint completes
    exactly on the flights of `expected c` -/
theorem accepts_iff_expected (c : Cfg) (l : List Msg) (hl : ∀ m ∈ l, tolerated m = false) :
    accepts c (init c) l = true ↔ l ∈ expected c := by
  constructor
  · intro h
    have := done_only_expected c l h
    rwa [List.filter_eq_self.mpr (fun m hm => by simp [hl m hm])] at this
  · exact expected_accepted c l

def acceptsInit (c : Cfg) (l : List Msg) : Bool := accepts c (init c) l

theorem accepts_run_done (c : Cfg) (s : State) (l r : List Msg) (h : accepts c s l = true) :
    run c s (l ++ r) = .done :=
  (run_done_iff c (l ++ r) s).mpr ⟨l, r, rfl, h⟩

/-- the ⇐ half of `accepts_iff` (`gapOk_of_count` and `gapOk_ccs_iff` give the two cases of `gapOk` in plain
    terms); the ⇒ half says the limits are sharp -/
theorem expected_accepted_with_tolerated (c : Cfg) (gs : List (List Msg × Msg)) (hf : gs.map (·.2) ∈ expected c)
    (hg : ∀ g ∈ gs, gapOk g.1 g.2 = true) : accepts c (init c) (weave gs) = true :=
  (accepts_iff c _).mpr ⟨gs, rfl, hf, hg⟩

/-- … and `Handshake()` returns nil whatever the peer sends afterwards (it is not read by the handshake) -/
theorem expected_run_done_with_tolerated (c : Cfg) (gs : List (List Msg × Msg)) (rest : List Msg)
    (hf : gs.map (·.2) ∈ expected c) (hg : ∀ g ∈ gs, gapOk g.1 g.2 = true) :
    run c (init c) (weave gs ++ rest) = .done :=
  accepts_run_done c _ _ rest (expected_accepted_with_tolerated c gs hf hg)

theorem weave_filter (gs : List (List Msg × Msg)) (hm : ∀ g ∈ gs, tolerated g.2 = false)
    (hg : ∀ g ∈ gs, gapOk g.1 g.2 = true) : (weave gs).filter (fun m => !tolerated m) = gs.map (·.2) := by
  induction gs with
  | nil => rfl
  | cons g gs ih =>
    obtain ⟨t, m⟩ := g
    obtain ⟨hm1, hm⟩ := List.forall_mem_cons.mp hm
    obtain ⟨hg1, hg⟩ := List.forall_mem_cons.mp hg
    have ht := gapOkAt_tolerated 0 false t m hg1
    simp only [weave, List.filter_append, List.filter_cons, hm1, Bool.not_false, if_true, List.map_cons]
    rw [ih hm hg]
    have : t.filter (fun m => !tolerated m) = [] := by
      rw [List.filter_eq_nil_iff]
      intro x hx
      simp only [List.all_eq_true] at ht
      simp [ht x hx]
    rw [this]; rfl

/-- erasing the tolerated events from `weave gs` gives the flight back (the erasure `done_only_expected` speaks
    about) -/
theorem weave_is_interleaving (c : Cfg) (gs : List (List Msg × Msg)) (hf : gs.map (·.2) ∈ expected c)
    (hg : ∀ g ∈ gs, gapOk g.1 g.2 = true) : (weave gs).filter (fun m => !tolerated m) = gs.map (·.2) := by
  apply weave_filter gs _ hg
  intro g hg1
  exact suffixes_no_tolerated c _ _ hf g.2 (List.mem_map.mpr ⟨g, hg1, rfl⟩)

theorem warnAfter_le (t : List Msg) : ∀ w, w + t.count .warningAlert ≤ maxWarnAlertCount →
    (warnAfter w t).isSome = true := by
  induction t with
  | nil => intro w _; rfl
  | cons x xs ih =>
    intro w h
    by_cases h1 : x = .warningAlert
    · subst h1
      rw [List.count_cons_self] at h
      rw [warnAfter, if_neg (by omega)]
      exact ih (w + 1) (by omega)
    · rw [List.count_cons_of_ne h1] at h
      by_cases h2 : x = .fragment
      · subst h2; exact ih 0 (by omega)
      · rw [warnAfter.eq_4 _ _ _ h1 h2]; exact ih w h  -- the catch-all row of `warnAfter`

/-- in front of a handshake message: any tolerated events with at most 5 warning alerts among them are fine
    (more are fine too if handshake records with data come in between: `warnAfter`) -/
theorem gapOk_of_count (t : List Msg) (m : Msg) (hm : m ≠ .ccs) (ht : t.all tolerated = true)
    (hc : t.count .warningAlert ≤ maxWarnAlertCount) : gapOk t m = true := by
  simp only [gapOk, gapOkAt, hm, if_false, ht, Bool.and_true]
  exact warnAfter_le t 0 (by omega)

theorem warnAfter_warnings (t : List Msg) : ∀ w, w ≤ maxWarnAlertCount → t.all (· == .warningAlert) = true →
    ((warnAfter w t).isSome = true ↔ w + t.length ≤ maxWarnAlertCount) := by
  induction t with
  | nil => intro w hw _; simpa [warnAfter] using hw
  | cons x xs ih =>
    intro w hw ha
    simp only [List.all_cons, Bool.and_eq_true, beq_iff_eq] at ha
    obtain ⟨rfl, ha⟩ := ha
    simp only [warnAfter, List.length_cons]
    split
    · rename_i h; simp only [Option.isSome_none, Bool.false_eq_true, false_iff]; omega
    · rename_i h
      rw [ih (w + 1) (by omega) ha]
      omega

/-- in front of ChangeCipherSpec: exactly the stretches of at most 5 warning alerts -/
theorem gapOk_ccs_iff (t : List Msg) : gapOk t .ccs = true ↔
    t.all (· == .warningAlert) = true ∧ t.length ≤ maxWarnAlertCount := by
  simp only [gapOk, gapOkAt, if_true, Bool.not_false, Bool.true_and, Bool.and_eq_true]
  rw [and_comm]
  exact and_congr_right fun h => by rw [warnAfter_warnings t 0 (Nat.zero_le _) h, Nat.zero_add]

/-- Sharpness, where a tolerated event is fatal: while the code waits for ChangeCipherSpec (server: after
    ClientKeyExchange / CertificateVerify, or after ClientHello when resuming; client: after ServerHelloDone /
    NewSessionTicket, or after ServerHello when resuming) the only events that do not end the handshake are a
    warning alert and the ChangeCipherSpec itself.  An empty handshake record, the first part of a message, and
    bytes of a further message in the record that completed the previous one — all absorbed anywhere else — are
    fatal here.  (The sixth consecutive warning alert is fatal everywhere: `Props.C15.six_warnings_fatal`.) -/
theorem at_ccs_only_warning_or_ccs (c : Cfg) (s : State) (x : Msg) (ms : List Msg) (h : wantsCCS s.phase = true)
    (hw : x ≠ .warningAlert) (hc : x ≠ .ccs) : accepts c s (x :: ms) = false := by
  cases ha : accepts c s (x :: ms) with
  | false => rfl
  | true =>
    exfalso
    obtain ⟨t, m, gs, e, hg, hm, _⟩ := (accepts_iff_woven c s _).mp ha
    have hmc : m = .ccs := (suffix_ccs_iff c s.phase m _ hm).mpr h
    subst hmc
    simp only [gapOkAt, if_true, Bool.and_eq_true, List.all_eq_true, beq_iff_eq] at hg
    cases t with
    | nil => simp only [List.nil_append, List.cons.injEq] at e; exact hc e.1
    | cons y ys =>
      simp only [List.cons_append, List.cons.injEq] at e
      exact hw (e.1 ▸ hg.2.2 y (by simp))

-- five warning alerts before every message incl. ChangeCipherSpec, empty records, a message in three records
example : acceptsInit (gmServer false false) (weave
    [(List.replicate 5 .warningAlert, .clientHello), ([.emptyHandshake, .fragment, .fragment], .clientKeyExchange),
     (List.replicate 5 .warningAlert, .ccs), ([.warningAlert, .emptyHandshake, .warningAlert], .finished)]) = true :=
  expected_accepted_with_tolerated _ _ (by decide) (by decide)
-- more than five warning alerts in front of one message, a handshake record with data in between
example : runInit (gmServer false false) (List.replicate 5 .warningAlert ++ [.fragment] ++ List.replicate 5 .warningAlert ++
    [.clientHello, .clientKeyExchange, .ccs, .finished]) = .done := by decide
-- an empty record in between does not reset the count
example : runInit (gmServer false false) (List.replicate 5 .warningAlert ++ [.emptyHandshake, .warningAlert]) =
    .error .unexpectedMessage := by decide
-- six in a row: fatal (`six_warnings_fatal`), also right before ChangeCipherSpec
example : acceptsInit (gmServer false false) (List.replicate 6 .warningAlert ++
    [.clientHello, .clientKeyExchange, .ccs, .finished]) = false := by decide
example : runInit (gmServer false false) ([.clientHello, .clientKeyExchange] ++ List.replicate 6 .warningAlert) =
    .error .unexpectedMessage := by decide
-- an empty handshake record is harmless before a message and fatal before ChangeCipherSpec
example : runInit (gmServer false false) [.clientHello, .emptyHandshake, .clientKeyExchange, .ccs, .emptyHandshake, .finished] =
    .done := by decide
example : runInit (gmServer false false) [.clientHello, .clientKeyExchange, .emptyHandshake, .ccs, .finished] =
    .error .noRenegotiation := by decide
example : runInit (gmClient false false)
    [.serverHello, .certificate, .serverKeyExchange, .serverHelloDone, .emptyHandshake, .ccs, .finished] =
    .error .unexpectedMessage := by decide
example : runInit (tlsClient false true) [.serverHello, .trailing, .ccs, .finished] = .error .unexpectedMessage := by decide

theorem peer_peer (c : Cfg) : peer (peer c) = c := by
  cases c; simp [peer]

theorem compatible_peer (c : Cfg) : Compatible (peer c) ↔ Compatible c := Iff.rfl

theorem reachable_compatible (c : Cfg) (h : Reachable c) : Compatible c := by
  intro hg ho
  rw [(h.1 hg).1] at ho
  cases ho

/-- for the servers (GMSSL and TLS alike) `expected c` is a singleton, and its one member is what the honest
    client of the same connection writes, with the optional parts decided by the same facts the server's type
    assertions use -/
theorem server_expected_is_honest (c : Cfg) (h : c.server = true) : expected c = [sends (peer c)] := by
  cases c with
  | mk server gm resume reqCert peerCert ticket ocsp skx npn =>
    subst h
    cases resume <;> cases reqCert <;> cases peerCert <;> cases npn <;> rfl

theorem cPostL_eq (c : Cfg) : cPostL c = [serverFinish c] := by
  unfold cPostL serverFinish optMsg; cases c.ticket <;> rfl

section
attribute [local simp] Compatible sends peer serverSends expected initPhase suffixes cHelloL cPostL_eq serverFinish pre

/-- The flights a client accepts are exactly those an honest server of the same connection writes, where the
    server is free in the two things the client's type assertions leave open: whether it asks for a client
    certificate (`r`), and whether it makes use of a negotiated status_request (`o`; RFC 6066: the server MAY
    send CertificateStatus — a gmtls server always does). -/
theorem client_expected_iff (c : Cfg) (hs : c.server = false) (f : List Msg) :
    f ∈ expected c ↔ ∃ r o : Bool, (o = true → c.ocsp = true) ∧ Compatible { c with reqCert := r, ocsp := o } ∧
      f = sends (peer { c with reqCert := r, ocsp := o }) := by
  obtain ⟨server, gm, resume, reqCert, peerCert, ticket, ocsp, skx, npn⟩ := c
  subst hs
  -- enumerate (o, r) in the order of the listing: CertificateStatus decided first, and "with" before "without"
  have eb : ∀ p : Bool → Prop, (∃ b, p b) ↔ p true ∨ p false := fun p => by rw [Bool.exists_bool]; exact or_comm
  rw [exists_comm]
  simp only [eb]
  cases resume
  · -- full handshake: one flight per admissible (r, o).  The GMSSL client reads ServerKeyExchange whatever `skx`
    -- says and never a CertificateStatus; for the TLS client the listing depends on `ocsp` and `skx`
    cases gm
    · cases ocsp <;> cases skx <;>
        simp [optMsg, cCertL, cAfterCertL, cAfterStatusL, cAfterSKXL, cDoneNoSKXL, cHelloDoneL, or_assoc]
    · simp [optMsg, cCertL, cSKXL, cAfterSKXL, cHelloDoneL]
  · simp
end

theorem client_expected_all_honest (c : Cfg) (hs : c.server = false) (f : List Msg) (hf : f ∈ expected c) :
    ∃ r o : Bool, (o = true → c.ocsp = true) ∧ Compatible { c with reqCert := r, ocsp := o } ∧
      f = sends (peer { c with reqCert := r, ocsp := o }) :=
  (client_expected_iff c hs f).mp hf

/-- the GMSSL client: one accepted flight when resuming, two in a full handshake — the honest GMSSL server's
    flight with and without CertificateRequest (never a CertificateStatus) -/
theorem gmClient_expected (c : Cfg) (hs : c.server = false) (hg : c.gm = true) :
    expected c = if c.resume then [sends (peer c)]
      else [sends (peer { c with reqCert := true, ocsp := false }), sends (peer { c with reqCert := false, ocsp := false })] := by
  cases c with
  | mk server gm resume reqCert peerCert ticket ocsp skx npn =>
    subst hs; subst hg
    cases resume <;> cases ticket <;> rfl

theorem sends_mem_expected (c : Cfg) (h : Compatible c) : sends (peer c) ∈ expected c := by
  cases hs : c.server
  · exact (client_expected_iff c hs _).mpr ⟨c.reqCert, c.ocsp, fun h => h, h, rfl⟩
  · rw [server_expected_is_honest c hs]; simp

/-- The message-order half of "a correctly configured client and server complete the handshake" (C06), for BOTH
    ends: for every combination of code path (GMSSL / TLS), full or resumed handshake, key agreement with or
    without ServerKeyExchange, client-certificate request, client with or without a certificate (it answers with
    an empty Certificate message and no CertificateVerify, as the code does), session ticket, OCSP status and
    NPN — other than a GMSSL full handshake with status_request, see `gm_ocsp_not_accepted`.  `accepts` is about
    one reading direction: how the two directions interleave on the wire (the server's Finished after the
    client's in a full handshake, before it in a resumed one) is irrelevant to it. -/
theorem honest_pair_completes (c : Cfg) (h : Compatible c) :
    accepts c (init c) (sends (peer c)) = true ∧ accepts (peer c) (init (peer c)) (sends c) = true := by
  refine ⟨expected_accepted c _ (sends_mem_expected c h), ?_⟩
  have := expected_accepted (peer c) _ (sends_mem_expected (peer c) ((compatible_peer c).mpr h))
  rwa [peer_peer] at this

/-- … hence `Handshake()` returns nil on both ends -/
theorem honest_pair_both_done (c : Cfg) (h : Compatible c) :
    run c (init c) (sends (peer c)) = .done ∧ run (peer c) (init (peer c)) (sends c) = .done := by
  obtain ⟨h1, h2⟩ := honest_pair_completes c h
  have a := accepts_run_done c _ _ [] h1
  have b := accepts_run_done (peer c) _ _ [] h2
  rw [List.append_nil] at a b
  exact ⟨a, b⟩

/-- … also with warning alerts, empty records and fragmented messages in between, within the limits -/
theorem honest_pair_completes_with_tolerated (c : Cfg) (h : Compatible c) (gs : List (List Msg × Msg))
    (hf : gs.map (·.2) = sends (peer c)) (hg : ∀ g ∈ gs, gapOk g.1 g.2 = true) :
    accepts c (init c) (weave gs) = true :=
  expected_accepted_with_tolerated c gs (hf ▸ sends_mem_expected c h) hg

/-- The excluded combination really fails — a finding about the code, not a gap of the proof: the GMSSL server
    code writes CertificateStatus when the ClientHello carried status_request and the certificate has an OCSP
    staple (gm_handshake_server_double.go `doFullHandshake`), but the GMSSL client code reads ServerKeyExchange
    right after Certificate (gm_handshake_client_double.go `doFullHandshake`) and aborts with unexpected_message.
    gmtls' own GMSSL client never sends status_request (`makeClientHelloGM`), so two gmtls ends do not meet this;
    a foreign GMSSL client that offers status_request to a gmtls server with a staple gets a flight the gmtls
    client itself could not digest. -/
theorem gm_ocsp_not_accepted (c : Cfg) (hs : c.server = false) (hg : c.gm = true) (ho : c.ocsp = true)
    (hr : c.resume = false) : run c (init c) (sends (peer c)) = .error .unexpectedMessage := by
  cases c with
  | mk server gm resume reqCert peerCert ticket ocsp skx npn =>
    subst hs; subst hg; subst ho; subst hr
    rfl

/-- so `Compatible` is exactly the set of field combinations for which both ends complete -/
theorem honest_pair_completes_iff (c : Cfg) :
    (accepts c (init c) (sends (peer c)) = true ∧ accepts (peer c) (init (peer c)) (sends c) = true) ↔ Compatible c := by
  constructor
  · rintro ⟨h1, h2⟩ hg ho
    cases hr : c.resume with
    | true => rfl
    | false =>
      exfalso
      cases hs : c.server with
      | false =>
        have := accepts_run_done c _ _ [] h1
        rw [List.append_nil, gm_ocsp_not_accepted c hs hg ho hr] at this
        cases this
      | true =>
        have := accepts_run_done (peer c) _ _ [] h2
        have e := gm_ocsp_not_accepted (peer c) (by simp [peer, hs]) hg ho hr
        rw [peer_peer] at e
        rw [List.append_nil, e] at this
        cases this
  · exact honest_pair_completes c

/-- For a correctly configured pair: any run of `c` that completes has seen, up to tolerated events, one of
    `expected c`; every one of these is accepted; what the honest peer writes is one of them.  For a server the
    set is that single flight (`server_expected_is_honest`); for a client its other members are the flights of the
    honest servers that differ in requesting a client certificate / sending the OCSP status
    (`client_expected_iff`, `gmClient_expected`). -/
theorem no_other_completion (c : Cfg) (h : Compatible c) :
    (∀ l, accepts c (init c) l = true → l.filter (fun m => !tolerated m) ∈ expected c) ∧
    (∀ l, (∀ m ∈ l, tolerated m = false) → (accepts c (init c) l = true ↔ l ∈ expected c)) ∧
    sends (peer c) ∈ expected c ∧ accepts c (init c) (sends (peer c)) = true :=
  ⟨done_only_expected c, accepts_iff_expected c, sends_mem_expected c h, (honest_pair_completes c h).1⟩

/-- the GMSSL and TLS servers complete on exactly one tolerated-free sequence: the honest client's -/
theorem server_completes_only_on_honest (c : Cfg) (hs : c.server = true) (l : List Msg)
    (hl : ∀ m ∈ l, tolerated m = false) : accepts c (init c) l = true ↔ l = sends (peer c) := by
  rw [accepts_iff_expected c l hl, server_expected_is_honest c hs]; simp

example : sends (peer (gmServer true false)) =
    [.clientHello, .certificate, .clientKeyExchange, .certificateVerify, .ccs, .finished] := by decide
example : sends (gmServer true false) =
    [.serverHello, .certificate, .serverKeyExchange, .certificateRequest, .serverHelloDone, .ccs, .finished] := by decide
example : sends (peer (gmClient true false)) =
    [.serverHello, .certificate, .serverKeyExchange, .serverHelloDone, .newSessionTicket, .ccs, .finished] := by decide
example : sends (peer (tlsClient false true)) = [.serverHello, .ccs, .finished] := by decide
example : sends (peer { tlsClient true false with skx := false, ocsp := true, reqCert := true }) =
    [.serverHello, .certificate, .certificateStatus, .certificateRequest, .serverHelloDone, .newSessionTicket, .ccs, .finished] := by
  decide
example : sends (peer { tlsServer true false with peerCert := false, npn := true }) =
    [.clientHello, .certificate, .clientKeyExchange, .ccs, .nextProtocol, .finished] := by decide
example : ∀ f ∈ expected (gmServer true false), acceptsInit (gmServer true false) f = true :=
  expected_accepted _
example : acceptsInit (gmClient false false)
    [.serverHello, .certificate, .serverKeyExchange, .certificateRequest, .serverHelloDone, .ccs, .finished] = true :=
  expected_accepted _ _ (by decide)
example : acceptsInit (tlsServer true false)
    [.clientHello, .certificate, .clientKeyExchange, .certificateVerify, .ccs, .finished] = true :=
  expected_accepted _ _ (by decide)
example : acceptsInit (tlsClient true false)
    [.serverHello, .certificate, .serverKeyExchange, .serverHelloDone, .newSessionTicket, .ccs, .finished] = true :=
  expected_accepted _ _ (by decide)
example : runInit (gmServer true false) (sends (peer (gmServer true false))) = .done ∧
    runInit (peer (gmServer true false)) (sends (gmServer true false)) = .done :=
  honest_pair_both_done _ (by decide)
example : runInit (gmClient true false) (sends (peer (gmClient true false))) = .done ∧
    runInit (peer (gmClient true false)) (sends (gmClient true false)) = .done :=
  honest_pair_both_done _ (by decide)
example : runInit (tlsServer false true) (sends (peer (tlsServer false true))) = .done ∧
    runInit (peer (tlsServer false true)) (sends (tlsServer false true)) = .done :=
  honest_pair_both_done _ (by decide)
example : runInit (tlsClient false false) (sends (peer (tlsClient false false))) = .done ∧
    runInit (peer (tlsClient false false)) (sends (tlsClient false false)) = .done :=
  honest_pair_both_done _ (by decide)
example : Compatible { gmClient false false with ocsp := true } = False := by simp [Compatible, gmClient]
example : runInit { gmClient false false with ocsp := true } (sends (peer { gmClient false false with ocsp := true })) =
    .error .unexpectedMessage := by decide

end Props.C15Complete
