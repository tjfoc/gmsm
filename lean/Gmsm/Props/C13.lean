/-
C13 — SM2 key exchange gives both parties the same key and the standard's values.

`Spec.SM2.kex` is GM/T 0003.3 (validated on the standard's example: K, S1, S2); the repaired code is
compared with it for both roles on every run.  Theorems: the algebra that makes both parties compute
the same point V over ANY commutative group; both roles derive identical (K, S1, S2) from equal V;
errors for ephemeral values that are off the curve or not reduced.
-/
import Gmsm.Spec.SM2
import Mathlib.Algebra.Module.Basic
import Mathlib.Tactic.Abel
import Mathlib.Tactic.Ring
namespace Props.C13
open Gmsm Spec.SM2

section
variable {Grp : Type} [AddCommGroup Grp] (g : Grp)

/-- With t_A = d_A + x̄₁·r_A and t_B = d_B + x̄₂·r_B,
    [t_A](P_B + [x̄₂]R_B) = [t_B](P_A + [x̄₁]R_A) — both are [t_A·t_B]G — over any commutative group. -/
theorem shared_point_agree (dA dB rA rB x1 x2 : Nat) :
    (dA + x1 * rA) • ((dB • g) + x2 • (rB • g)) = (dB + x2 * rB) • ((dA • g) + x1 • (rA • g)) := by
  have h1 : (dB • g) + x2 • (rB • g) = (dB + x2 * rB) • g := by rw [add_smul, mul_smul]
  have h2 : (dA • g) + x1 • (rA • g) = (dA + x1 * rA) • g := by rw [add_smul, mul_smul]
  rw [h1, h2, ← mul_smul, ← mul_smul, Nat.mul_comm]

/-- reducing t modulo the group order does not change the point -/
theorem reduce_scalar (q : Nat) (hq : q • g = 0) (t : Nat) : (t % q) • g = t • g :=
  (nsmul_eq_mod_nsmul t hq).symm
end

/-- x̄ sets bit 127 and keeps exactly the low 127 bits (`xbar_mod`); that the Go `keXHat` computes x̄ is
    `Props.C14Codec.keXHat_eq` -/
theorem xbar_range (x : Nat) : 2 ^ 127 ≤ xbar x ∧ xbar x < 2 ^ 128 := by
  unfold xbar
  have : x % 2 ^ 127 < 2 ^ 127 := Nat.mod_lt _ (by decide)
  omega

theorem xbar_mod (x : Nat) : xbar x % 2 ^ 127 = x % 2 ^ 127 := by
  unfold xbar
  rw [Nat.add_mod_left, Nat.mod_mod]

/-- a peer ephemeral point that does not satisfy the curve equation yields an error -/
theorem offcurve_rejected (klen : Nat) (ida idb : Bytes) (d r : Nat) (peer eph pa pb ra rb : Nat × Nat)
    (h : onCurve eph.1 eph.2 = false) : kex klen ida idb d r peer eph pa pb ra rb = none := by
  unfold kex
  simp only
  by_cases hr : (decide (eph.1 < p) && decide (eph.2 < p)) = true
  · simp [hr, h]
  · simp [hr]

/-- … and so is a value whose coordinates are not field elements ((x + p, y) is not an alias of (x, y); as repaired) -/
theorem nonreduced_eph_none (klen : Nat) (ida idb : Bytes) (d r : Nat) (peer eph pa pb ra rb : Nat × Nat)
    (h : p ≤ eph.1 ∨ p ≤ eph.2) : kex klen ida idb d r peer eph pa pb ra rb = none := by
  unfold kex
  have : (decide (eph.1 < p) && decide (eph.2 < p)) = false := by
    rcases h with h | h
    · simp [Nat.not_lt.mpr h]
    · simp [Nat.not_lt.mpr h]
  simp [this]

/-- the point at infinity (0,0) is not on the curve, so it is rejected as an ephemeral value -/
theorem infinity_not_on_curve : onCurve 0 0 = false := by decide +kernel

/-- The derived values depend only on V, the identities, the long-term public
    keys and the ephemeral points in protocol order — so two parties holding the same V obtain the
    same key and each side's S1/S2 equal the other's. -/
theorem outputs_from_V (klen : Nat) (ida idb : Bytes) (dA rA dB rB : Nat) (pa pb ra rb : Nat × Nat)
    (hra : onCurve ra.1 ra.2 = true) (hrb : onCurve rb.1 rb.2 = true)
    (hra2 : ra.1 < p ∧ ra.2 < p) (hrb2 : rb.1 < p ∧ rb.2 < p)
    (hV : smul ((dA + xbar (enc (smul rA G)).1 * rA) % n) (padd (dec pb.1 pb.2) (smul (xbar rb.1) (dec rb.1 rb.2))) =
          smul ((dB + xbar (enc (smul rB G)).1 * rB) % n) (padd (dec pa.1 pa.2) (smul (xbar ra.1) (dec ra.1 ra.2)))) :
    kex klen ida idb dA rA pb rb pa pb ra rb = kex klen ida idb dB rB pa ra pa pb ra rb := by
  unfold kex
  simp only [hra, hrb, hra2.1, hra2.2, hrb2.1, hrb2.2, decide_true, Bool.and_self, Bool.not_true, Bool.false_eq_true, if_false]
  rw [hV]

end Props.C13
