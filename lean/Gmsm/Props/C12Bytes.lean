/-
C12 (byte level): the hand-written GCM helpers of sm4/sm4_gcm.go, transcribed on byte slices in
`Model.GCMBytes` exactly as the Go code computes them, equal the SP 800-38D functions of `Spec.GCM`
on the 128-bit values the slices denote (`Spec.GCM.ofBytes`: big-endian, leftmost bit = MSB):
the primitives `findYi_eq`, `addition_eq`, `rightshift_eq`; `multiplication_eq_mulGF` (the 128-iteration loop is
Algorithm 1); `ghashGo_eq_ghash` (`GHASH` with its `m, v` bookkeeping `calculm_v`, for every length of `A` and
`C`); `incr_eq_inc32`, `incr_block` (the counter increment of `incr`).

The byte-level model is compared with the real Go code on every run (ops `gfmulb`, `ghashb`), so the
theorems of `Props.C12` about `Spec.GCM` transfer to what the Go code computes.
-/
import Gmsm.Model.GCMBytes
import Gmsm.Spec.GCM
import Gmsm.Proofs.BytesNat
import Gmsm.Proofs.GCM
namespace Props.C12Bytes
open Gmsm Spec.GCM Model.GCMBytes

/-- with the bit index split as `8 * q + r` the cases are linear arithmetic -/
theorem testBit_os2ip_mul_add (v : Bytes) (q r : Nat) (hr : r < 8) :
    (os2ip v).testBit (8 * q + r) = (decide (q < v.length) && (v.getD (v.length - 1 - q) 0).getLsbD r) := by
  induction v with
  | nil => simp [os2ip_nil]
  | cons b bs ih =>
    have hp : (256 : Nat) ^ bs.length = 2 ^ (8 * bs.length) := (Nat.pow_mul 2 8 _).symm
    rw [os2ip_cons, hp, Nat.mul_comm, Nat.testBit_two_pow_mul_add _ (hp ▸ os2ip_lt bs), List.length_cons,
      Nat.add_sub_cancel]
    rcases Nat.lt_trichotomy q bs.length with h | h | h
    · rw [if_pos (by omega), ih, show bs.length - q = (bs.length - 1 - q) + 1 by omega, List.getD_cons_succ,
        decide_eq_true h, decide_eq_true (Nat.lt_succ_of_lt h)]
    · subst h
      rw [if_neg (by omega), Nat.sub_self, List.getD_cons_zero, decide_eq_true (Nat.lt_succ_self _), Bool.true_and,
        Nat.add_sub_cancel_left]
      rfl
    · rw [if_neg (by omega), decide_eq_false (by omega), Bool.false_and]
      exact Nat.testBit_lt_two_pow (Nat.lt_of_lt_of_le b.isLt (Nat.pow_le_pow_right (by decide) (by omega)))

theorem getLsbD_ofBytes_mul_add (v : Bytes) (hv : v.length = 16) (q r : Nat) (hq : q < 16) (hr : r < 8) :
    (ofBytes v).getLsbD (8 * q + r) = (v.getD (15 - q) 0).getLsbD r := by
  unfold ofBytes
  rw [BitVec.getLsbD_ofNat, testBit_os2ip_mul_add v q r hr, hv]
  have : 8 * q + r < 128 := by omega
  simp [hq, this]

theorem getLsbD_ofBytes (v : Bytes) (hv : v.length = 16) (i : Nat) (hi : i < 128) :
    (ofBytes v).getLsbD i = (v.getD (15 - i / 8) 0).getLsbD (i % 8) := by
  have := getLsbD_ofBytes_mul_add v hv (i / 8) (i % 8) (by omega) (Nat.mod_lt _ (Nat.succ_pos 7))
  rwa [Nat.div_add_mod] at this

theorem addition_length (a b : Bytes) (h : a.length = b.length) : (addition a b).length = a.length := by
  unfold addition
  simp [h]

theorem addition_getD (a b : Bytes) (h : a.length = b.length) (k : Nat) (hk : k < a.length) :
    (addition a b).getD k 0 = a.getD k 0 ^^^ b.getD k 0 := by
  unfold addition
  have hk2 : k < b.length := h ▸ hk
  simp [h, List.getD_eq_getElem?_getD, List.getElem?_zipWith, List.getElem?_eq_getElem hk, List.getElem?_eq_getElem hk2]

theorem addition_eq_xorBytes (a b : Bytes) (h : a.length = b.length) : addition a b = xorBytes a b := by
  unfold addition
  simp only [h, ne_eq, not_true_eq_false, if_false]
  induction a generalizing b with
  | nil => cases b <;> simp [xorBytes]
  | cons x xs ih =>
    cases b with
    | nil => simp at h
    | cons y ys =>
      simp only [List.zipWith_cons_cons, xorBytes]
      rw [ih ys (by simpa using h)]

/-- sm4_gcm.go's `addition(a, b)` (bytewise `a[i] ^ b[i]`) -/
theorem addition_eq (a b : Bytes) (ha : a.length = 16) (hb : b.length = 16) :
    ofBytes (addition a b) = ofBytes a ^^^ ofBytes b := by
  apply BitVec.eq_of_getLsbD_eq
  intro i hi
  have hab : a.length = b.length := by omega
  rw [BitVec.getLsbD_xor, getLsbD_ofBytes _ (by rw [addition_length _ _ hab, ha]) _ hi,
    getLsbD_ofBytes _ ha _ hi, getLsbD_ofBytes _ hb _ hi, addition_getD _ _ hab _ (by omega),
    BitVec.getLsbD_xor]

theorem and_one_eq_one (b : Byte) : (b &&& 0x01 = 1) ↔ b.getLsbD 0 = true := by
  rw [show b &&& 0x01 = _ from BitVec.and_one_eq_setWidth_ofBool_getLsbD]
  cases b.getLsbD 0 <;> decide

theorem and_one_eq_zero (b : Byte) : (b &&& 0x01 = 0) ↔ b.getLsbD 0 = false := by
  rw [show b &&& 0x01 = _ from BitVec.and_one_eq_setWidth_ofBool_getLsbD]
  cases b.getLsbD 0 <;> decide

/-- sm4_gcm.go's `findYi(Y, i)` (`Y[i/8] >> (7 - i%8) & 1`) is bit `i` of `Y` counted from the leftmost
    (most significant) bit — the bit `y_i` of SP 800-38D Algorithm 1 (equivalently `getLsbD (127 - i)`). -/
theorem findYi_eq (y : Bytes) (hy : y.length = 16) (i : Nat) (hi : i < 128) :
    findYi y i = if (ofBytes y).getMsbD i then 1 else 0 := by
  unfold findYi
  rw [BitVec.getMsbD_eq_getLsbD, getLsbD_ofBytes _ hy _ (by omega)]
  have h1 : 15 - (128 - 1 - i) / 8 = i / 8 := by omega
  have h2 : (128 - 1 - i) % 8 = 7 - i % 8 := by omega
  rw [h1, h2]
  simp only [and_one_eq_one, BitVec.getLsbD_ushiftRight, hi, decide_true, Bool.true_and, Nat.add_zero]

/-- `findYi_eq` in least-significant-bit numbering -/
theorem findYi_eq_lsb (y : Bytes) (hy : y.length = 16) (i : Nat) (hi : i < 128) :
    findYi y i = if (ofBytes y).getLsbD (127 - i) then 1 else 0 := by
  rw [findYi_eq y hy i hi, BitVec.getMsbD_eq_getLsbD]
  simp [hi]

/-- the test `V[BlockSize-1]&0x01 == 0` of `multiplication` is the test `LSB_1(V) = 0` of Algorithm 1 -/
theorem lsb_eq (v : Bytes) (hv : v.length = 16) :
    (v.getD (blockSize - 1) 0 &&& 0x01 = 0) ↔ (ofBytes v).getLsbD 0 = false := by
  rw [and_one_eq_zero, getLsbD_ofBytes _ hv 0 (by decide)]
  rfl

theorem getD_set (v : Bytes) (i k : Nat) (a : Byte) :
    (v.set i a).getD k 0 = if k = i ∧ i < v.length then a else v.getD k 0 := by
  simp only [List.getD_eq_getElem?_getD, List.getElem?_set]
  by_cases h : i = k
  · subst h; by_cases h2 : i < v.length <;> simp [h2]
  · simp [h, Ne.symm h]

theorem rightshift_length (v : Bytes) : (rightshift v).length = v.length := by
  unfold rightshift
  suffices h : ∀ n (w : Bytes), (rightshiftLoop n w).length = w.length from h _ _
  intro n
  induction n with
  | zero => intro w; rfl
  | succ n ih => intro w; simp only [rightshiftLoop]; rw [ih]; simp

/-- Byte `k` once the loop of `Rightshift` has visited the indices `n-1 … 0`: the visited bytes are shifted
    and have taken the low bit of their left neighbour, which the loop had not overwritten yet. -/
theorem rightshiftLoop_getD (n : Nat) : ∀ (v : Bytes) (k : Nat), n ≤ v.length →
    (rightshiftLoop n v).getD k 0 =
      if k < n then (if k = 0 then (0 : Byte) else (v.getD (k - 1) 0 &&& 1) <<< 7) ||| (v.getD k 0 >>> 1)
      else v.getD k 0 := by
  induction n with
  | zero => intro v k _; rfl
  | succ i ih =>
    intro v k hn
    rw [rightshiftLoop, ih _ _ (by rw [List.length_set]; omega), getD_set, getD_set]
    by_cases hk : k < i
    · have h1 : ¬ k = i := by omega
      have h2 : ¬ k - 1 = i := by omega
      have h3 : k < i + 1 := by omega
      simp only [hk, h1, h2, h3, false_and, if_true, if_false]
    · by_cases hki : k = i
      · subst hki
        have hv : k < v.length := hn
        simp only [Nat.lt_irrefl, Nat.lt_succ_self, hv, and_self, if_true, if_false]
        by_cases h0 : k = 0
        · simp only [h0, ne_eq, not_true_eq_false, if_true, if_false]
          exact BitVec.zero_or.symm
        · simp only [h0, ne_eq, not_false_eq_true, if_true, if_false]
      · have h3 : ¬ k < i + 1 := by omega
        simp only [hk, hki, h3, false_and, if_false]

theorem rightshift_getD (v : Bytes) (k : Nat) (hk : k < v.length) :
    (rightshift v).getD k 0 =
      (if k = 0 then (0 : Byte) else (v.getD (k - 1) 0 &&& 1) <<< 7) ||| (v.getD k 0 >>> 1) := by
  rw [rightshift, rightshiftLoop_getD _ _ _ (Nat.le_refl _), if_pos hk]

/-- sm4_gcm.go's in-place `Rightshift(V)` (from the last byte down: `V[i] >>= 1`, then or-in
    `(V[i-1] & 1) << 7`) on a 16-byte slice is the logical right shift by one bit of the 128-bit value. -/
theorem rightshift_eq (v : Bytes) (hv : v.length = 16) : ofBytes (rightshift v) = ofBytes v >>> 1 := by
  apply BitVec.eq_of_getLsbD_eq
  intro i hi
  obtain ⟨q, r, hr, rfl⟩ : ∃ q r, r < 8 ∧ i = 8 * q + r :=
    ⟨i / 8, i % 8, Nat.mod_lt _ (Nat.succ_pos 7), (Nat.div_add_mod i 8).symm⟩
  have hq : q < 16 := by omega
  rw [BitVec.getLsbD_ushiftRight, getLsbD_ofBytes_mul_add _ (by rw [rightshift_length, hv]) q r hq hr,
    rightshift_getD _ _ (by omega), BitVec.getLsbD_or, BitVec.getLsbD_ushiftRight]
  by_cases h7 : r = 7
  · subst h7
    -- bit 7 of a byte comes from the low bit of the byte to its left (none at the very top)
    rw [BitVec.getLsbD_of_ge (v.getD (15 - q) 0) (1 + 7) (by decide), Bool.or_false]
    by_cases h0 : q = 15
    · subst h0
      rw [if_pos (Nat.sub_self 15), BitVec.getLsbD_of_ge (ofBytes v) (1 + (8 * 15 + 7)) (by decide)]
      rfl
    · rw [show 1 + (8 * q + 7) = 8 * (q + 1) + 0 by omega, getLsbD_ofBytes_mul_add _ hv (q + 1) 0 (by omega) (by decide),
        if_neg (by omega), show 15 - (q + 1) = 15 - q - 1 by omega]
      simp
  · -- the other bits move down inside their byte
    have hr7 : r < 7 := by omega
    rw [show 1 + (8 * q + r) = 8 * q + (r + 1) by omega, getLsbD_ofBytes_mul_add _ hv q (r + 1) hq (by omega),
      Nat.add_comm 1 r]
    split <;> simp [BitVec.getLsbD_shiftLeft, hr7]

/-- `R[0] = 0xe1` is the constant `R = 11100001 ‖ 0^120` -/
theorem rBytes_eq : ofBytes rBytes = R := by decide

theorem rBytes_length : rBytes.length = 16 := by decide

def Rep (b : Bytes) (B : B128) : Prop := b.length = 16 ∧ ofBytes b = B

theorem rep_zero : Rep (List.replicate blockSize 0) 0 := ⟨rfl, by decide⟩

theorem rep_addition {a b : Bytes} {A B : B128} (ha : Rep a A) (hb : Rep b B) : Rep (addition a b) (A ^^^ B) :=
  ⟨by rw [addition_length _ _ (ha.1.trans hb.1.symm), ha.1], by rw [addition_eq _ _ ha.1 hb.1, ha.2, hb.2]⟩

theorem rep_rightshift {v : Bytes} {V : B128} (hv : Rep v V) : Rep (rightshift v) (V >>> 1) :=
  ⟨by rw [rightshift_length, hv.1], by rw [rightshift_eq v hv.1, hv.2]⟩

theorem rep_mulIter {y z v : Bytes} {Y Z V : B128} (hy : Rep y Y) (hz : Rep z Z) (hv : Rep v V)
    (i : Nat) (hi : i < 128) :
    Rep (mulIter y (z, v) i).1 (mulStep Y (Z, V) i).1 ∧ Rep (mulIter y (z, v) i).2 (mulStep Y (Z, V) i).2 := by
  unfold mulIter mulStep
  simp only [findYi_eq y hy.1 i hi, hy.2, lsb_eq v hv.1, hv.2]
  constructor
  · cases Y.getMsbD i <;> simp [hz, rep_addition hz hv]
  · cases V.getLsbD 0 <;> simp [rep_rightshift hv, rep_addition (rep_rightshift hv) ⟨rBytes_length, rBytes_eq⟩]

theorem rep_foldl_mulIter {y : Bytes} {Y : B128} (hy : Rep y Y) (l : List Nat) (hl : ∀ i ∈ l, i < 128)
    {z v : Bytes} {Z V : B128} (hz : Rep z Z) (hv : Rep v V) :
    Rep (l.foldl (mulIter y) (z, v)).1 (l.foldl (mulStep Y) (Z, V)).1 ∧
      Rep (l.foldl (mulIter y) (z, v)).2 (l.foldl (mulStep Y) (Z, V)).2 := by
  induction l generalizing z v Z V with
  | nil => exact ⟨hz, hv⟩
  | cons i l ih =>
    obtain ⟨h1, h2⟩ := rep_mulIter hy hz hv i (hl i (by simp))
    exact ih (fun j hj => hl j (by simp [hj])) h1 h2

theorem copyN_self (x : Bytes) (n : Nat) (hx : x.length = n) : copyN n x = x := by
  unfold copyN
  simp [← hx]

theorem rep_multiplication {x y : Bytes} {X Y : B128} (hx : Rep x X) (hy : Rep y Y) :
    Rep (multiplication x y) (mulGF X Y) := by
  unfold multiplication mulGF
  rw [copyN_self x blockSize hx.1]
  exact (rep_foldl_mulIter hy (List.range 128) (fun i hi => by simpa using hi) rep_zero hx).1

/-- for all 16-byte `X`, `Y`, sm4_gcm.go's `multiplication(X, Y)` — the loop
    `for i := 0; i <= 127; i++` over the byte slices `Z`, `V` with `findYi`, `addition`, `Rightshift` and the
    reduction by `R = e1 00…00` after the shift when the dropped bit was 1 — computes the product `X • Y` of
    SP 800-38D Algorithm 1 (`Spec.GCM.mulGF`). -/
theorem multiplication_eq_mulGF (x y : Bytes) (hx : x.length = 16) (hy : y.length = 16) :
    ofBytes (multiplication x y) = mulGF (ofBytes x) (ofBytes y) :=
  (rep_multiplication ⟨hx, rfl⟩ ⟨hy, rfl⟩).2

theorem multiplication_length (x y : Bytes) (hx : x.length = 16) (hy : y.length = 16) :
    (multiplication x y).length = 16 :=
  (rep_multiplication (X := ofBytes x) (Y := ofBytes y) ⟨hx, rfl⟩ ⟨hy, rfl⟩).1

/-- the GHASH chain of the specification continued from an accumulator `X` -/
def chain (h : B128) (bs : List B128) (X : B128) : B128 := bs.foldl (fun acc b => mulGF (acc ^^^ b) h) X

theorem blocksZ_nil (n : Nat) : blocksZ n [] = [] := by cases n <;> simp [blocksZ]

theorem padBlocks_nil : padBlocks [] = [] := by simp [padBlocks, blocksZ]

theorem padBlocks_short (d : Bytes) (h0 : 0 < d.length) (h16 : d.length ≤ 16) :
    padBlocks d = [ofBytes (d ++ List.replicate (16 - d.length) 0)] := by
  have hne : d.isEmpty = false := by cases d <;> simp_all
  unfold padBlocks
  simp only [blocksZ, hne, Bool.false_eq_true, if_false]
  rw [List.take_of_length_le h16, List.drop_of_length_le h16, blocksZ_nil]

theorem padBlocks_long (d : Bytes) (h16 : 16 < d.length) :
    padBlocks d = ofBytes (d.take 16) :: padBlocks (d.drop 16) := by
  have hne : d.isEmpty = false := by cases d <;> simp_all
  have e1 : (d.take 16).length = 16 := by rw [List.length_take]; omega
  have e2 : d.length / 16 = (d.drop 16).length / 16 + 1 := by rw [List.length_drop]; omega
  unfold padBlocks
  rw [e2, blocksZ]
  simp only [hne, Bool.false_eq_true, if_false, e1, Nat.sub_self, List.replicate_zero, List.append_nil]

/-- what `calculm_v` computes for a non-empty string: with `k` full blocks before the last one, the number of
    blocks `k + 1` and the bit length of the last block -/
theorem calculm_v_spec (len : Nat) (hl : 0 < len) :
    ∃ k, k * 16 < len ∧ len - k * 16 ≤ 16 ∧
      calculm_v (len / blockSize) (len % blockSize) = (k + 1, 8 * (len - k * 16)) := by
  -- with `len = 16 * m + v` everything is linear in `m` and `v`
  have hlen := Nat.div_add_mod len 16
  have hv16 := Nat.mod_lt len (Nat.succ_pos 15)
  unfold calculm_v blockSize
  generalize len / 16 = m at hlen ⊢
  generalize len % 16 = v at hlen hv16 ⊢
  by_cases hv : v = 0
  · -- whole blocks: `m` of them, the last one full
    have hm : m ≠ 0 := by omega
    refine ⟨m - 1, by omega, by omega, ?_⟩
    rw [if_neg (fun h => h.2 hv), if_pos ⟨hm, hv⟩, Prod.mk.injEq]
    exact ⟨by omega, by omega⟩
  · -- a partial last block of `v` bytes after `m` full ones
    refine ⟨m, by omega, by omega, ?_⟩
    rw [show 8 * (len - m * 16) = v * 8 by omega]
    by_cases hm : m = 0
    · rw [if_pos ⟨hm, hv⟩, hm]
    · rw [if_neg (fun h => hm h.1), if_neg (fun h => hv h.2), if_pos ⟨hm, hv⟩]

theorem calculm_v_zero : calculm_v (0 / blockSize) (0 % blockSize) = (1, 0) := by decide

/-- the body of the full-block loops of `GHASH` -/
def goStep (h d : Bytes) (off : Nat) (x : Bytes) (i : Nat) : Bytes :=
  multiplication (addition x (slice d ((i - off - 1) * blockSize) ((i - off - 1) * blockSize + blockSize))) h

theorem blocksLoop_eq (h d : Bytes) (off cnt : Nat) (x : Bytes) :
    blocksLoop h d off cnt x = (List.range' (off + 1) cnt).foldl (goStep h d off) x := rfl

theorem slice_eq (d : Bytes) (j : Nat) :
    slice d (j * blockSize) (j * blockSize + blockSize) = (d.drop (j * 16)).take 16 := by
  unfold slice blockSize
  congr 1; omega

theorem slice_length (d : Bytes) (j : Nat) (hj : (j + 1) * 16 ≤ d.length) :
    (slice d (j * blockSize) (j * blockSize + blockSize)).length = 16 := by
  rw [slice_eq, List.length_take, List.length_drop]; omega

theorem loop_chain {h : Bytes} {H : B128} (hh : Rep h H) (d : Bytes) (off k : Nat) :
    ∀ (i0 : Nat) {x : Bytes} {X : B128}, Rep x X → (i0 + k) * 16 < d.length →
      ∃ X', Rep ((List.range' (off + i0 + 1) k).foldl (goStep h d off) x) X' ∧
        chain H (padBlocks (d.drop (i0 * 16))) X = chain H (padBlocks (d.drop ((i0 + k) * 16))) X' := by
  induction k with
  | zero => intro i0 x X hx _; exact ⟨X, hx, rfl⟩
  | succ k ih =>
    intro i0 x X hx hlen
    rw [List.range'_succ, List.foldl_cons]
    have hidx : off + i0 + 1 - off - 1 = i0 := by omega
    have hx1 : Rep (goStep h d off x (off + i0 + 1)) (mulGF (X ^^^ ofBytes ((d.drop (i0 * 16)).take 16)) H) := by
      unfold goStep
      rw [hidx]
      exact rep_multiplication (rep_addition hx ⟨slice_length d i0 (by omega), by rw [slice_eq]⟩) hh
    obtain ⟨X', h1, h2⟩ := ih (i0 + 1) hx1 (by omega)
    rw [show i0 + 1 + k = i0 + (k + 1) by omega] at h2
    refine ⟨X', h1, ?_⟩
    -- one step of the specification chain
    have e3 : (d.drop (i0 * 16)).drop 16 = d.drop ((i0 + 1) * 16) := by
      rw [List.drop_drop]; congr 1; omega
    rw [← h2, padBlocks_long _ (by rw [List.length_drop]; omega), e3]
    rfl

/-- the part of `GHASH` that absorbs one string (`A`, then `C`): full-block loop, then the padded last block -/
def goPart (h d : Bytes) (off : Nat) (x : Bytes) : Bytes :=
  let mv := calculm_v (d.length / blockSize) (d.length % blockSize)
  let x := blocksLoop h d off (mv.1 - 1) x
  if d.length = 0 then x else multiplication (addition x (lastBlock d mv.1 mv.2)) h

theorem goPart_eq {h : Bytes} {H : B128} (hh : Rep h H) (d : Bytes) (off : Nat) {x : Bytes} {X : B128}
    (hx : Rep x X) : Rep (goPart h d off x) (chain H (padBlocks d) X) := by
  unfold goPart
  by_cases h0 : d.length = 0
  · have : d = [] := List.eq_nil_of_length_eq_zero h0
    subst this
    simp only [List.length_nil, calculm_v_zero, if_true, blocksLoop_eq, Nat.sub_self, List.range'_zero,
      List.foldl_nil, padBlocks_nil]
    exact hx
  · simp only [h0, if_false]
    obtain ⟨k, hkl, hkr, hc⟩ := calculm_v_spec d.length (by omega)
    rw [hc]
    dsimp only
    rw [blocksLoop_eq, Nat.add_sub_cancel]
    obtain ⟨X1, hx1, hl⟩ := loop_chain hh d off k 0 hx (by omega)
    simp only [Nat.zero_mul, List.drop_zero, Nat.zero_add, Nat.add_zero] at hx1 hl
    rw [hl]
    have hdl : (d.drop (k * 16)).length = d.length - k * 16 := List.length_drop
    have hlast : lastBlock d (k + 1) (8 * (d.length - k * 16)) =
        d.drop (k * 16) ++ List.replicate (16 - (d.drop (k * 16)).length) 0 := by
      unfold lastBlock blockSize
      have a1 : 8 * (d.length - k * 16) / 8 = d.length - k * 16 := by omega
      have a2 : (128 - 8 * (d.length - k * 16)) / 8 = 16 - (d.length - k * 16) := by omega
      rw [a1, a2, Nat.add_sub_cancel, copyN_self _ _ hdl, hdl]
    rw [padBlocks_short _ (by omega) (by omega), hlast]
    exact rep_multiplication (rep_addition hx1 ⟨by rw [List.length_append, List.length_replicate, hdl]; omega, rfl⟩) hh

theorem calculateLenToBytes_length (n : Nat) : (calculateLenToBytes n).length = 8 := rfl

theorem ofNat8_and_ff (x : Nat) : BitVec.ofNat 8 (x &&& 0xff) = BitVec.ofNat 8 x := by
  apply BitVec.eq_of_toNat_eq
  rw [BitVec.toNat_ofNat, BitVec.toNat_ofNat, show (0xff : Nat) = 2 ^ 8 - 1 from rfl,
    Nat.and_two_pow_sub_one_eq_mod, Nat.mod_mod]

theorem calculateLenToBytes_eq (n : Nat) : calculateLenToBytes n = i2ospR 8 n := by
  unfold calculateLenToBytes
  simp only [ofNat8_and_ff, i2ospR, List.nil_append, List.cons_append, Nat.shiftRight_eq_div_pow,
    Nat.div_div_eq_div_mul]
  simp only [Nat.reducePow, Nat.reduceMul, Nat.div_one]

theorem os2ip_calculateLenToBytes (n : Nat) : os2ip (calculateLenToBytes n) = n % 2 ^ 64 := by
  rw [calculateLenToBytes_eq, os2ip_i2ospR]

theorem lenAB_eq (la lc : Nat) :
    ofBytes (calculateLenToBytes (la * 8) ++ calculateLenToBytes (lc * 8)) = lenBlock la lc := by
  apply BitVec.eq_of_toNat_eq
  unfold ofBytes lenBlock
  rw [os2ip_append, calculateLenToBytes_length, os2ip_calculateLenToBytes, os2ip_calculateLenToBytes,
    BitVec.toNat_append, BitVec.toNat_ofNat, BitVec.toNat_ofNat, BitVec.toNat_ofNat,
    ← Nat.shiftLeft_add_eq_or_of_lt (Nat.mod_lt _ (by decide)), Nat.shiftLeft_eq]
  omega

theorem ghashGo_parts (h a c : Bytes) :
    ghashGo h a c =
      multiplication (addition
        (goPart h c (calculm_v (a.length / blockSize) (a.length % blockSize)).1
          (goPart h a 0 (List.replicate blockSize 0)))
        (calculateLenToBytes (a.length * 8) ++ calculateLenToBytes (c.length * 8))) h := rfl

theorem rep_ghashGo {h : Bytes} {H : B128} (hh : Rep h H) (a c : Bytes) : Rep (ghashGo h a c) (ghash H a c) := by
  rw [ghashGo_parts]
  have hc := goPart_eq hh c (calculm_v (a.length / blockSize) (a.length % blockSize)).1 (goPart_eq hh a 0 rep_zero)
  have hlen : Rep (calculateLenToBytes (a.length * 8) ++ calculateLenToBytes (c.length * 8))
      (lenBlock a.length c.length) := ⟨rfl, lenAB_eq _ _⟩
  unfold ghash ghashBlocks
  rw [List.foldl_append, List.foldl_append]
  exact rep_multiplication (rep_addition hc hlen) hh

/-- for every 16-byte hash key `H` and all byte strings `A`, `C` (any lengths: empty,
    ending in a partial block, block-aligned), sm4_gcm.go's `GHASH(H, A, C)` — with its `m, v` / `n, u`
    bookkeeping (`calculm_v`), the two full-block loops, the zero-padded last blocks `Am`, `Cn` (skipped
    for an empty string, as repaired) and the final length block — is
    `GHASH_H(A ‖ 0^v ‖ C ‖ 0^u ‖ [len(A)]_64 ‖ [len(C)]_64)` of SP 800-38D (`Spec.GCM.ghash`). -/
theorem ghashGo_eq_ghash (h a c : Bytes) (hh : h.length = 16) :
    ofBytes (ghashGo h a c) = ghash (ofBytes h) a c := (rep_ghashGo ⟨hh, rfl⟩ a c).2

theorem ghashGo_length (h a c : Bytes) (hh : h.length = 16) : (ghashGo h a c).length = 16 :=
  (rep_ghashGo (H := ofBytes h) ⟨hh, rfl⟩ a c).1

theorem ofBytes_split (p w : Bytes) (hw : w.length = 4) :
    ofBytes (p ++ w) = (BitVec.ofNat 96 (os2ip p) ++ BitVec.ofNat 32 (os2ip w) : BitVec (96 + 32)) := by
  apply BitVec.eq_of_toNat_eq
  unfold ofBytes
  have hlt : os2ip w < 2 ^ 32 := os2ip_lt_of_length hw
  rw [os2ip_append, hw, BitVec.toNat_append, BitVec.toNat_ofNat, BitVec.toNat_ofNat, BitVec.toNat_ofNat,
    Nat.mod_eq_of_lt hlt, ← Nat.shiftLeft_add_eq_or_of_lt hlt, Nat.shiftLeft_eq]
  omega

theorem inc32_append (a : BitVec 96) (b : BitVec 32) :
    inc32 (a ++ b : BitVec (96 + 32)) = (a ++ (b + 1) : BitVec (96 + 32)) := by
  unfold inc32
  rw [BitVec.extractLsb'_append_eq_left, BitVec.extractLsb'_append_eq_right]

/-- add one to a little-endian byte string, dropping the carry out of the last byte -/
def incLE : Bytes → Bytes
  | [] => []
  | b :: r => if b + 1 ≠ 0 then (b + 1) :: r else 0 :: incLE r

theorem incLE_length (r : Bytes) : (incLE r).length = r.length := by
  induction r with
  | nil => rfl
  | cons b r ih => unfold incLE; split <;> simp [ih]

/-- the loop of `addYone`, started at the last byte of the window `w` (given reversed) between `p` and `s` -/
theorem addYoneLoop_eq (p : Bytes) (r : Bytes) : ∀ s : Bytes,
    addYoneLoop r.length (p.length + r.length - 1) (p ++ r.reverse ++ s) = p ++ (incLE r).reverse ++ s := by
  induction r with
  | nil => intro s; rfl
  | cons b r ih =>
    intro s
    have hi : p.length + (r.length + 1) - 1 = (p ++ r.reverse).length := by simp
    have hl : p ++ (b :: r).reverse ++ s = (p ++ r.reverse) ++ b :: s := by simp
    rw [List.length_cons, addYoneLoop, hi, hl]
    have hg : ((p ++ r.reverse) ++ b :: s).getD (p ++ r.reverse).length 0 = b := by
      simp [List.getD_eq_getElem?_getD]
    have hs (c : Byte) : ((p ++ r.reverse) ++ b :: s).set (p ++ r.reverse).length c = (p ++ r.reverse) ++ c :: s := by
      simp
    simp only [hg, hs, incLE]
    split
    · simp
    · rename_i h0
      have h0' : b + 1 = 0 := by simpa using h0
      have := ih (0 :: s)
      have hi2 : (p ++ r.reverse).length - 1 = p.length + r.length - 1 := by simp
      rw [hi2, h0']
      simpa using this

theorem os2ip_concat (x : Bytes) (b : Byte) : os2ip (x ++ [b]) = os2ip x * 256 + b.toNat := by
  rw [os2ip_append, os2ip_cons, os2ip_nil]; simp

theorem os2ip_incLE (r : Bytes) :
    os2ip (incLE r).reverse % 256 ^ r.length = (os2ip r.reverse + 1) % 256 ^ r.length := by
  induction r with
  | nil => simp [incLE, Nat.mod_one]
  | cons b r ih =>
    have hb : (b + 1).toNat = (b.toNat + 1) % 256 := by simp [BitVec.toNat_add]
    have hlt := b.isLt
    unfold incLE
    split
    · rename_i h
      have : (b + 1).toNat = b.toNat + 1 := by
        rw [hb]; apply Nat.mod_eq_of_lt
        apply Nat.lt_of_le_of_ne (by omega)
        intro hc; apply h; apply BitVec.eq_of_toNat_eq; rw [hb, hc]; rfl
      rw [List.reverse_cons, List.reverse_cons, os2ip_concat, os2ip_concat, this, Nat.add_assoc]
    · rename_i h
      have h0 : b + 1 = 0 := by simpa using h
      have h255 : b.toNat = 255 := by
        have := congrArg BitVec.toNat h0
        rw [hb] at this; simp at this; omega
      rw [List.reverse_cons, List.reverse_cons, os2ip_concat, os2ip_concat, h255, List.length_cons,
        Nat.pow_succ 256 r.length]
      have e : os2ip r.reverse * 256 + 255 + 1 = (os2ip r.reverse + 1) * 256 := by omega
      rw [show (0 : Byte).toNat = 0 from rfl, Nat.add_zero, e, Nat.mul_mod_mul_right, Nat.mul_mod_mul_right, ih]

theorem addYone_length (y : Bytes) : (addYone y).length = y.length := by
  unfold addYone
  suffices h : ∀ n i (w : Bytes), (addYoneLoop n i w).length = w.length from h _ _ _
  intro n
  induction n with
  | zero => intro i w; rfl
  | succ n ih =>
    intro i w
    simp only [addYoneLoop]
    split
    · simp
    · rw [ih]; simp

/-- the counter increment of sm4_gcm.go's `incr` (closure `addYone`: starting at the last byte,
    `yii[i]++` and stop at the first byte that does not wrap to 0, visiting at most the last 4 bytes — as
    repaired) on a 16-byte block is `inc_32` of SP 800-38D: the leftmost 96 bits are unchanged, the
    rightmost 32 bits are incremented modulo 2^32. -/
theorem incr_eq_inc32 (y : Bytes) (hy : y.length = 16) : ofBytes (addYone y) = inc32 (ofBytes y) := by
  -- the loop works on the window of the last four bytes
  have hw : (y.drop 12).length = 4 := by rw [List.length_drop, hy]
  have hloop := addYoneLoop_eq (y.take 12) (y.drop 12).reverse []
  rw [List.reverse_reverse, List.append_nil, List.take_append_drop, List.append_nil, List.length_reverse, hw,
    List.length_take, hy] at hloop
  have hval := os2ip_incLE (y.drop 12).reverse
  rw [List.reverse_reverse, List.length_reverse, hw] at hval
  have hy' : addYone y = y.take 12 ++ (incLE (y.drop 12).reverse).reverse := by
    unfold addYone; rw [hy]; exact hloop
  rw [hy', ofBytes_split _ _ (by rw [List.length_reverse, incLE_length, List.length_reverse, hw]),
    ← List.take_append_drop 12 y, ofBytes_split _ _ hw, inc32_append, List.take_append_drop]
  congr 1
  apply BitVec.eq_of_toNat_eq
  rw [BitVec.toNat_add, BitVec.toNat_ofNat, BitVec.toNat_ofNat, Nat.mod_add_mod]
  exact hval

theorem slice_block_zero (a rest : Bytes) (ha : a.length = 16) :
    slice (a ++ rest) (0 * blockSize) (0 * blockSize + blockSize) = a := by
  unfold slice blockSize
  simp [← ha]

theorem slice_block_succ (a rest : Bytes) (ha : a.length = 16) (j : Nat) :
    slice (a ++ rest) ((j + 1) * blockSize) ((j + 1) * blockSize + blockSize) =
      slice rest (j * blockSize) (j * blockSize + blockSize) := by
  unfold slice blockSize
  have e1 : (j + 1) * 16 = a.length + j * 16 := by omega
  have e2 : a.length + j * 16 + 16 - (a.length + j * 16) = j * 16 + 16 - j * 16 := by omega
  rw [e1, e2, ← List.drop_drop, List.drop_left]

theorem incrBlocks_block (k : Nat) : ∀ (cur : Bytes), cur.length = 16 → ∀ j, j < k →
    ofBytes (slice (incrBlocks k cur).flatten (j * blockSize) (j * blockSize + blockSize)) =
      Proofs.GCM.iterInc (j + 1) (ofBytes cur) := by
  induction k with
  | zero => intro _ _ j hj; omega
  | succ k ih =>
    intro cur hcur j hj
    have hlen : (addYone cur).length = 16 := by rw [addYone_length, hcur]
    simp only [incrBlocks, List.flatten_cons]
    cases j with
    | zero =>
      rw [slice_block_zero _ _ hlen, incr_eq_inc32 _ hcur]
      rfl
    | succ j =>
      rw [slice_block_succ _ _ hlen, ih _ hlen j (by omega), incr_eq_inc32 _ hcur]
      rfl

/-- block `i` of `incr(n, Y0)` is `inc32` applied `i` times to `Y0` -/
theorem incr_block (n : Nat) (y : Bytes) (hy : y.length = 16) (i : Nat) (hi : i < n) :
    ofBytes (slice (incr n y) (i * blockSize) (i * blockSize + blockSize)) =
      Proofs.GCM.iterInc i (ofBytes y) := by
  unfold incr
  have hn : ¬ n = 0 := by omega
  simp only [hn, if_false]
  rw [copyN_self y blockSize hy]
  cases i with
  | zero => rw [slice_block_zero _ _ hy]; rfl
  | succ j => rw [slice_block_succ _ _ hy, incrBlocks_block _ _ hy j (by omega)]

theorem incr_length (n : Nat) (y : Bytes) (hy : y.length = 16) : (incr n y).length = 16 * n := by
  unfold incr
  by_cases hn : n = 0
  · simp [hn]
  · simp only [hn, if_false]
    rw [copyN_self y blockSize hy, List.length_append, hy]
    suffices h : ∀ k (cur : Bytes), cur.length = 16 → (incrBlocks k cur).flatten.length = 16 * k by
      rw [h _ _ hy]; omega
    intro k
    induction k with
    | zero => intro _ _; rfl
    | succ k ih =>
      intro cur hcur
      have hlen : (addYone cur).length = 16 := by rw [addYone_length, hcur]
      simp only [incrBlocks, List.flatten_cons, List.length_append, hlen, ih _ hlen]
      omega

theorem toBytes_ofBytes (v : Bytes) (hv : v.length = 16) : toBytes (ofBytes v) = v := by
  have hlt : os2ip v < 2 ^ 128 := os2ip_lt_of_length hv
  unfold toBytes ofBytes i2osp
  rw [BitVec.toNat_ofNat, Nat.mod_eq_of_lt hlt]
  apply List.ext_getElem
  · simp [hv]
  · intro i h1 h2
    have hi : i < 16 := by simpa using h1
    rw [List.getElem_map, List.getElem_range]
    apply BitVec.eq_of_getLsbD_eq
    intro t ht
    -- byte `i` holds the bits `8 * (15 - i) + t` of the number
    rw [BitVec.getLsbD_ofNat, show (256 : Nat) ^ (16 - 1 - i) = 2 ^ (8 * (16 - 1 - i)) from (Nat.pow_mul 2 8 _).symm,
      ← Nat.shiftRight_eq_div_pow, Nat.testBit_shiftRight,
      testBit_os2ip_mul_add _ _ _ ht, hv, show 16 - 1 - (16 - 1 - i) = i by omega, List.getD_eq_getElem?_getD,
      List.getElem?_eq_getElem h2]
    simp [ht, show 16 - 1 - i < 16 by omega]
/-- `multiplication` as bytes: what the driver op `gfmulb` prints is what `gfmul` prints -/
theorem multiplication_bytes (x y : Bytes) (hx : x.length = 16) (hy : y.length = 16) :
    multiplication x y = toBytes (mulGF (ofBytes x) (ofBytes y)) := by
  rw [← multiplication_eq_mulGF x y hx hy, toBytes_ofBytes _ (multiplication_length x y hx hy)]

/-- `GHASH` as bytes: what the driver op `ghashb` prints is what `ghash` prints -/
theorem ghashGo_bytes (h a c : Bytes) (hh : h.length = 16) :
    ghashGo h a c = toBytes (ghash (ofBytes h) a c) := by
  rw [← ghashGo_eq_ghash h a c hh, toBytes_ofBytes _ (ghashGo_length h a c hh)]

/-- values the real Go code printed, evaluated by the kernel on the 128-bit side of `multiplication_bytes` /
    `ghashGo_bytes` -/
example : toHex (multiplication
    [0x48,0xf0,0xd2,0xe1,0xe0,0x6f,0xcf,0x34,0x99,0xa5,0x2c,0xa7,0x0f,0x5f,0xac,0xb8]
    [0xae,0x28,0xaa,0x7c,0x73,0xb0,0xa2,0xc9,0x85,0x6d,0x6c,0x33,0x5a,0x47,0x58,0xd2]) =
    "3d537623b3183b2a6b71419434a073ff" := by rw [multiplication_bytes _ _ rfl rfl]; decide +kernel

example : toHex (ghashGo
    [0x00,0x00,0x00,0x01,0x00,0x00,0x00,0x00,0x00,0x00,0x00,0x00,0x00,0x00,0x00,0x00]
    [0x1b,0x89,0x6b,0x62,0x51,0x00,0xc0,0x9f,0x2a,0x36,0xce,0x6c,0xf1,0x1f,0x75,0xa1,0xeb,0xc9]
    [0x90,0x35,0x40,0x57,0x77,0x5d,0x84]) = "f3c96d8676291766ff9275ac406cdf29" := by
  rw [ghashGo_bytes _ _ _ rfl]; decide +kernel

example : addYone [1,2,3,4,5,6,7,8,9,10,11,12,0xff,0xff,0xff,0xff] = [1,2,3,4,5,6,7,8,9,10,11,12,0,0,0,0] := by
  decide

end Props.C12Bytes
