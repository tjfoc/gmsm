/-
The BUFFERING logic above gmtls' record layer (`Model.ConnRead`: `Conn.Read` with the block `c.input`,
`Conn.readHandshake` with the buffer `c.hand`, both over the records that `Conn.readRecord` hands on; record
protection itself is `Model.Record` / `Props.C07Stream`).

Served property sentences:
  C06 "… deliver every application byte stream in order and unmodified in both directions."
  C07 "… what the application reads is always a prefix of what was written."
  C15 "… with inconsistent length fields … an endpoint aborts … never keeps waiting on input that has ended."
  C19-like: results do not depend on how the caller sizes its reads or how the peer fragments.

`Conn.Read`, for ALL record lists, transport segmentations and buffer-size lists: a record list carries a
byte `stream` and an `ending`; every piece of a Read is a `Step`, which hands out a part of what is owed and
keeps the rest owed (`read_spec` for one Read, `read_stream` for a run).
`Conn.readHandshake`, for ALL message lists and fragmentations: reassembly, the `maxHandshake` limit, a
transport that ends inside a message, empty records, ChangeCipherSpec only on an empty `c.hand`.
-/
import Gmsm.Model.ConnRead
import Gmsm.Proofs.ListLemmas
namespace Props.C06Read
open Gmsm Model.ConnRead

/-! ## `Conn.Read` -/

/-- THE application byte stream carried by a record list, as `readRecord` interprets it (from warning counter
    `wc`): the payloads of the application-data records, in order, up to the first event that ends delivery —
    close_notify, a record on which `readRecord` fails, the 6th warning alert in a row, or the end of the
    transport.  Warning alerts (≤ 5 in a row) are skipped. -/
def stream : Nat → List Item → Bytes
  | _, [] => []
  | wc, it :: rest =>
    match it.kind with
    | .data p => p ++ stream (if p.length > 0 then 0 else wc) rest
    | .closeNotify => []
    | .warning => if wc + 1 > maxWarnAlertCount then [] else stream (wc + 1) rest
    | .fail _ _ => []

/-- the sticky error in which reading this record list ends (`io.EOF` for close_notify and for the end of the
    transport — the code does not tell them apart, conn.go 603-608) -/
def ending : Nat → List Item → Err
  | _, [] => .eof
  | wc, it :: rest =>
    match it.kind with
    | .data p => ending (if p.length > 0 then 0 else wc) rest
    | .closeNotify => .eof
    | .warning => if wc + 1 > maxWarnAlertCount then .tooManyWarn else ending (wc + 1) rest
    | .fail _ e => e

/-- what a reader state still owes the application: the rest of the current record, then the stream of the
    transport — nothing once an error is stored -/
def remaining (r : Reader) : Bytes :=
  r.input.getD [] ++ (if r.err = none then stream r.warnCount r.pending else [])

/-- the sticky error a reader state will end in -/
def endingOf (r : Reader) : Err :=
  match r.err with
  | some e => e
  | none => ending r.warnCount r.pending

/-- `c.in.err != nil → c.input == nil`: holds initially and is preserved (`read_spec`).  It matters: `Conn.Read`
    tests `c.in.err` BEFORE it looks at `c.input` (conn.go 1172-1176), so bytes left in `c.input` while an error is
    stored would be lost. -/
def Inv (r : Reader) : Prop := r.err ≠ none → r.input = none

/-- `stream` and `ending` do not depend on the transport segmentation -/
theorem stream_kinds (l1 l2 : List Item) (wc : Nat) (h : l1.map (·.kind) = l2.map (·.kind)) :
    stream wc l1 = stream wc l2 ∧ ending wc l1 = ending wc l2 := by
  induction l1 generalizing l2 wc with
  | nil => cases l2 with
    | nil => exact ⟨rfl, rfl⟩
    | cons _ _ => simp at h
  | cons a l1 ih => cases l2 with
    | nil => simp at h
    | cons c l2 =>
      simp only [List.map_cons, List.cons.injEq] at h
      obtain ⟨hk, ht⟩ := h
      simp only [stream, ending, ← hk]
      cases a.kind with
      | data p => simp only []; rw [(ih l2 _ ht).1, (ih l2 _ ht).2]; exact ⟨rfl, rfl⟩
      | closeNotify => exact ⟨rfl, rfl⟩
      | warning =>
        simp only []
        by_cases hw : wc + 1 > maxWarnAlertCount
        · simp [hw]
        · simp only [hw, if_false]; exact ih l2 _ ht
      | fail _ _ => exact ⟨rfl, rfl⟩

def dataItems (ps : List (Bool × Bytes)) : List Item := ps.map fun x => ⟨x.1, .data x.2⟩

def Stops : List Item → Prop
  | [] => True
  | it :: _ => it.kind = .closeNotify ∨ ∃ a e, it.kind = .fail a e

theorem stream_dataItems (ps : List (Bool × Bytes)) (tail : List Item) (ht : Stops tail) (wc : Nat) :
    stream wc (dataItems ps ++ tail) = (ps.map (·.2)).flatten ∧
    ending wc (dataItems ps ++ tail) = ending 0 tail := by
  induction ps generalizing wc with
  | nil =>
    cases tail with
    | nil => exact ⟨rfl, rfl⟩
    | cons it tl =>
      rcases ht with h | ⟨a, e, h⟩ <;> simp [dataItems, stream, ending, h]
  | cons x xs ih =>
    simp only [dataItems, List.map_cons, List.cons_append, stream, ending, List.flatten_cons]
    rw [← dataItems, (ih _).1]
    exact ⟨rfl, (ih _).2⟩

theorem readRecordAux_spec (l : List Item) (wc : Nat) :
    ((∃ p, (readRecordAux l wc).input = some p ∧ (readRecordAux l wc).err = none ∧
        stream wc l = p ++ stream (readRecordAux l wc).warnCount (readRecordAux l wc).pending ∧
        ending wc l = ending (readRecordAux l wc).warnCount (readRecordAux l wc).pending) ∨
     (∃ e, (readRecordAux l wc).input = none ∧ (readRecordAux l wc).err = some e ∧
        stream wc l = [] ∧ ending wc l = e)) ∧
    (readRecordAux l wc).pending.length ≤ l.length ∧
    (l ≠ [] → (readRecordAux l wc).pending.length < l.length) := by
  induction l generalizing wc with
  | nil => exact ⟨Or.inr ⟨.eof, rfl, rfl, rfl, rfl⟩, Nat.le_refl _, fun h => absurd rfl h⟩
  | cons it rest ih =>
    cases hk : it.kind with
    | data p =>
      refine ⟨Or.inl ⟨p, ?_, ?_, ?_, ?_⟩, ?_, ?_⟩ <;> simp [readRecordAux, stream, ending, hk]
    | closeNotify =>
      refine ⟨Or.inr ⟨.eof, ?_, ?_, ?_, ?_⟩, ?_, ?_⟩ <;> simp [readRecordAux, stream, ending, hk]
    | warning =>
      by_cases hw : wc + 1 > maxWarnAlertCount
      · refine ⟨Or.inr ⟨.tooManyWarn, ?_, ?_, ?_, ?_⟩, ?_, ?_⟩ <;> simp [readRecordAux, stream, ending, hk, hw]
      · obtain ⟨h1, h2, _⟩ := ih (wc + 1)
        simp only [readRecordAux, stream, ending, hk, hw, if_false, List.length_cons]
        exact ⟨h1, Nat.le_succ_of_le h2, fun _ => Nat.lt_succ_of_le h2⟩
    | fail a e =>
      refine ⟨Or.inr ⟨e, ?_, ?_, ?_, ?_⟩, ?_, ?_⟩ <;> simp [readRecordAux, stream, ending, hk]

/-- Going from `r` to `r'` while handing `out` to the application loses nothing: what `r` owed is `out` and then
    what `r'` owes.  Every piece of `Conn.Read` is such a step, and steps compose. -/
structure Step (r : Reader) (out : Bytes) (r' : Reader) : Prop where
  owed : remaining r = out ++ remaining r'
  ending : endingOf r' = endingOf r
  inv : Inv r → Inv r'
  pending : r'.pending.length ≤ r.pending.length

theorem Step.refl (r : Reader) : Step r [] r := ⟨rfl, rfl, id, Nat.le_refl _⟩

theorem Step.trans {r r1 r2 : Reader} {o1 o2 : Bytes} (h1 : Step r o1 r1) (h2 : Step r1 o2 r2) :
    Step r (o1 ++ o2) r2 :=
  ⟨by rw [h1.owed, h2.owed, List.append_assoc], h2.ending.trans h1.ending, h2.inv ∘ h1.inv,
    Nat.le_trans h2.pending h1.pending⟩

theorem readRecord_spec (r : Reader) (hi : r.input = none) (he : r.err = none) :
    Step r [] (readRecord r) ∧
    ((∃ p, (readRecord r).input = some p ∧ (readRecord r).err = none) ∨
     (∃ e, (readRecord r).input = none ∧ (readRecord r).err = some e)) := by
  obtain ⟨h, hp, _⟩ := readRecordAux_spec r.pending r.warnCount
  rcases h with ⟨p, h1, h2, h3, h4⟩ | ⟨e, h1, h2, h3, h4⟩
  · refine ⟨⟨?_, ?_, fun _ hne => absurd ?_ hne, hp⟩, Or.inl ⟨p, ?_, ?_⟩⟩ <;>
      simp [readRecord, remaining, endingOf, h1, h2, h3, h4, hi, he]
  · refine ⟨⟨?_, ?_, fun _ _ => ?_, hp⟩, Or.inr ⟨e, ?_, ?_⟩⟩ <;>
      simp [readRecord, remaining, endingOf, h1, h2, h3, h4, hi, he]

/-- the inner `for c.input == nil && c.in.err == nil` loop of one iteration -/
def pre (r : Reader) : Reader := if r.input.isNone ∧ r.err.isNone then readRecord r else r

/-- `c.input.Read(b)` and freeing the exhausted block -/
def drain (b : Nat) (r1 : Reader) (rest : Bytes) : Reader :=
  { r1 with input := if (rest.drop b).isEmpty then none else some (rest.drop b) }

theorem readLoop_succ (b k : Nat) (r : Reader) :
    readLoop b (k + 1) r =
      match (pre r).err with
      | some e => (pre r, ([], some e))
      | none =>
        match (pre r).input with
        | none => (pre r, ([], some .nilInput))
        | some rest =>
          if rest.take b ≠ [] ∧ (drain b (pre r) rest).input.isNone ∧
              alertWaiting (drain b (pre r) rest).pending then
            (readRecord (drain b (pre r) rest), (rest.take b, (readRecord (drain b (pre r) rest)).err))
          else if rest.take b ≠ [] then (drain b (pre r) rest, (rest.take b, none))
          else readLoop b k (drain b (pre r) rest) := by
  simp only [ne_eq, ← List.length_eq_zero_iff]
  rfl

theorem pre_spec (r : Reader) :
    Step r [] (pre r) ∧
    ((∃ e, (pre r).err = some e) ∨
     (∃ rest, (pre r).err = none ∧ (pre r).input = some rest ∧
        (pre r).pending.length + 1 ≤ r.pending.length + (if r.input.isSome then 1 else 0))) := by
  unfold pre
  by_cases h : r.input.isNone ∧ r.err.isNone
  · rw [if_pos h]
    have hi : r.input = none := by simpa using h.1
    have he : r.err = none := by simpa using h.2
    obtain ⟨hs, h3⟩ := readRecord_spec r hi he
    refine ⟨hs, ?_⟩
    rcases h3 with ⟨p, h4, h5⟩ | ⟨e, h4, h5⟩
    · refine Or.inr ⟨p, h5, h4, ?_⟩
      by_cases hp : r.pending = []
      · simp [readRecord, readRecordAux, hp] at h5
      · rw [hi]; exact (readRecordAux_spec r.pending r.warnCount).2.2 hp
    · exact Or.inl ⟨e, h5⟩
  · rw [if_neg h]
    refine ⟨Step.refl r, ?_⟩
    cases he : r.err with
    | some e => exact Or.inl ⟨e, rfl⟩
    | none =>
      cases hi : r.input with
      | none => exact absurd ⟨by simp [hi], by simp [he]⟩ h
      | some rest => exact Or.inr ⟨rest, rfl, rfl, Nat.le_refl _⟩

theorem drain_spec (b : Nat) (r1 : Reader) (rest : Bytes) (he : r1.err = none) (hin : r1.input = some rest) :
    Step r1 (rest.take b) (drain b r1 rest) ∧
    (drain b r1 rest).err = none ∧ (drain b r1 rest).pending = r1.pending := by
  refine ⟨⟨?_, ?_, fun _ h => absurd he h, Nat.le_refl _⟩, he, rfl⟩
  · have hd : (drain b r1 rest).input.getD [] = rest.drop b := by
      simp only [drain]
      by_cases h : (rest.drop b).isEmpty
      · rw [if_pos h]; simp at h; simp [h]
      · rw [if_neg h]; rfl
    simp only [remaining, hd, hin, he]
    simp only [drain, he, if_true, Option.getD_some]
    rw [← List.append_assoc, List.take_append_drop]
  · simp [endingOf, drain, he]

theorem readLoop_spec (b : Nat) (hb : 1 ≤ b) (k : Nat) (r : Reader) :
    Step r (readLoop b k r).2.1 (readLoop b k r).1 ∧
    ((readLoop b k r).2.2 = none → (readLoop b k r).2.1 ≠ []) ∧
    (∀ e, (readLoop b k r).2.2 = some e → e ≠ .noProgress → (readLoop b k r).1.err = some e) ∧
    ((readLoop b k r).1.err ≠ none → r.err = none → (readLoop b k r).2.2 = (readLoop b k r).1.err) ∧
    ((readLoop b k r).1.err = none → (readLoop b k r).2.1 = [] →
      (readLoop b k r).1.pending.length + k ≤ r.pending.length + (if r.input.isSome then 1 else 0)) := by
  induction k generalizing r with
  | zero =>
    have h : readLoop b 0 r = (r, ([], some .noProgress)) := rfl
    rw [h]
    refine ⟨Step.refl r, by simp, ?_, ?_, ?_⟩
    · intro e h1 h2; simp at h1; exact absurd h1.symm h2
    · intro h1 h2; exact absurd h2 h1
    · intro _ _; show r.pending.length + 0 ≤ _; omega
  | succ k ih =>
    rw [readLoop_succ]
    obtain ⟨sp, p5⟩ := pre_spec r
    rcases p5 with ⟨e, he⟩ | ⟨rest, he, hin, hlt⟩
    · simp only [he]
      refine ⟨sp, by simp, ?_, ?_, ?_⟩
      · intro e2 h1 _; simp at h1; rw [← h1]
      · intro _ _; simp
      · intro h; exact absurd h (by simp)
    · simp only [he, hin]
      obtain ⟨sd, d3, d4⟩ := drain_spec b (pre r) rest he hin
      have sd := sp.trans sd
      rw [List.nil_append] at sd
      by_cases hL : rest.take b ≠ [] ∧ (drain b (pre r) rest).input.isNone ∧
          alertWaiting (drain b (pre r) rest).pending
      · rw [if_pos hL]
        have hi : (drain b (pre r) rest).input = none := by simpa using hL.2.1
        have sl := sd.trans (readRecord_spec _ hi d3).1
        rw [List.append_nil] at sl
        exact ⟨sl, fun _ => hL.1, fun e h _ => h, fun _ _ => rfl, fun _ h => absurd h hL.1⟩
      · rw [if_neg hL]
        by_cases hM : rest.take b ≠ []
        · rw [if_pos hM]
          exact ⟨sd, fun _ => hM, nofun, fun h => absurd d3 h, fun _ h => absurd h hM⟩
        · rw [if_neg hM]
          have hnil : rest.take b = [] := Decidable.not_not.mp hM
          rw [hnil] at sd
          obtain ⟨si, i4, i5, i6, i7⟩ := ih (drain b (pre r) rest)
          refine ⟨sd.trans si, i4, i5, fun h _ => i6 h d3, ?_⟩
          intro h1 h2
          have hrest : rest = [] := (List.take_eq_nil_iff.mp hnil).resolve_left (by omega)
          have hdi : (drain b (pre r) rest).input = none := by simp [drain, hrest]
          have := i7 h1 h2
          rw [hdi, d4] at this
          simp only [Option.isSome_none, Bool.false_eq_true, if_false] at this
          omega

theorem read_pos (r : Reader) (b : Nat) (hb : 1 ≤ b) :
    read r b = readLoop b (maxConsecutiveEmptyRecords + 1) r := by
  unfold Model.ConnRead.read; rw [if_neg (by omega)]

theorem read_step (r : Reader) (b : Nat) : Step r (read r b).2.1 (read r b).1 := by
  cases b with
  | zero => exact Step.refl r
  | succ b => rw [read_pos _ _ (by omega)]; exact (readLoop_spec _ (by omega) _ r).1

/-- **Conservation law of one `Conn.Read(b)`** (conn.go 1142-1207), for every state and buffer size: what the
    state owed = what this Read returned ++ what the new state owes, whichever way the loop, the block
    bookkeeping and the close_notify look-ahead go; with a non-empty buffer `(0, nil)` is never returned; every
    returned error except `io.ErrNoProgress` is stored (sticky), and the Read that stores the error returns it. -/
theorem read_spec (r : Reader) (b : Nat) :
    remaining r = (read r b).2.1 ++ remaining (read r b).1 ∧
    endingOf (read r b).1 = endingOf r ∧
    (Inv r → Inv (read r b).1) ∧
    (1 ≤ b → (read r b).2.2 = none → (read r b).2.1 ≠ []) ∧
    (∀ e, (read r b).2.2 = some e → e ≠ .noProgress → (read r b).1.err = some e) ∧
    ((read r b).1.err ≠ none → r.err = none → (read r b).2.2 = (read r b).1.err) := by
  refine ⟨(read_step r b).owed, (read_step r b).ending, (read_step r b).inv, ?_⟩
  cases b with
  | zero => exact ⟨fun h => by omega, fun e h => (by cases h), fun h1 h2 => absurd h2 h1⟩
  | succ b =>
    rw [read_pos _ _ (by omega)]
    obtain ⟨_, h4, h5, h6, _⟩ := readLoop_spec (b + 1) (by omega) (maxConsecutiveEmptyRecords + 1) r
    exact ⟨fun _ => h4, h5, h6⟩

theorem run_spec (r : Reader) (sizes : List Nat) : Step r (delivered (run r sizes).2) (run r sizes).1 := by
  induction sizes generalizing r with
  | nil => exact Step.refl r
  | cons b bs ih =>
    simp only [run, delivered, List.map_cons, List.flatten_cons]
    exact (read_step r b).trans (ih _)

theorem remaining_of_err (r : Reader) (hinv : Inv r) (h : r.err ≠ none) : remaining r = [] := by
  have := hinv h
  cases he : r.err with
  | none => exact absurd he h
  | some e => simp [remaining, this, he]

theorem init_remaining (pending : List Item) : remaining (Reader.init pending) = stream 0 pending := by
  simp [remaining, Reader.init]

theorem init_ending (pending : List Item) : endingOf (Reader.init pending) = ending 0 pending := by
  simp [endingOf, Reader.init]

theorem init_inv (pending : List Item) : Inv (Reader.init pending) := fun h => absurd rfl h

/-- **C06 "deliver every application byte stream in order and unmodified" / C07 "what the application reads is
    always a prefix of what was written"**, for the buffering above the record layer: for ALL record lists, ALL
    transport segmentations (`sep` bits) and ALL buffer-size lists (zero sizes included), what the Reads return
    is a prefix of `stream 0 pending`; and once the connection has stored its final error it is EXACTLY
    `stream 0 pending`, the error is `ending 0 pending`, and `c.input` is nil.  In particular the
    look-ahead of conn.go 1193-1199 never loses the rest of a record (the seeded change "look ahead without
    `c.input == nil`" falsifies exactly this: it stores EOF while `c.input` still holds bytes). -/
theorem read_stream (pending : List Item) (sizes : List Nat) :
    delivered (readAll (Reader.init pending) sizes) <+: stream 0 pending ∧
    ((run (Reader.init pending) sizes).1.err ≠ none →
      delivered (readAll (Reader.init pending) sizes) = stream 0 pending ∧
      (run (Reader.init pending) sizes).1.err = some (ending 0 pending) ∧
      (run (Reader.init pending) sizes).1.input = none) := by
  obtain ⟨h1, h2, h3, -⟩ := run_spec (Reader.init pending) sizes
  rw [init_remaining] at h1
  rw [init_ending] at h2
  refine ⟨⟨_, h1.symm⟩, fun he => ?_⟩
  have hinv := h3 (init_inv pending)
  rw [remaining_of_err _ hinv he, List.append_nil] at h1
  refine ⟨h1.symm, ?_, hinv he⟩
  cases hr : (run (Reader.init pending) sizes).1.err with
  | none => exact absurd hr he
  | some e => rw [← h2]; simp [endingOf, hr]

/-- **Chunk independence (C19-like, for the TLS reader)**: two runs over the same records — with DIFFERENT
    transport segmentations and DIFFERENT buffer-size lists — that both reach the end deliver the same total byte
    string and end in the same error.  (`read_terminates`: every long enough list of non-zero sizes reaches
    the end.) -/
theorem read_chunk_independent (p1 p2 : List Item) (s1 s2 : List Nat)
    (hk : p1.map (·.kind) = p2.map (·.kind))
    (h1 : (run (Reader.init p1) s1).1.err ≠ none) (h2 : (run (Reader.init p2) s2).1.err ≠ none) :
    delivered (readAll (Reader.init p1) s1) = delivered (readAll (Reader.init p2) s2) ∧
    (run (Reader.init p1) s1).1.err = (run (Reader.init p2) s2).1.err := by
  obtain ⟨a1, a2, _⟩ := (read_stream p1 s1).2 h1
  obtain ⟨b1, b2, _⟩ := (read_stream p2 s2).2 h2
  obtain ⟨k1, k2⟩ := stream_kinds p1 p2 0 hk
  rw [a1, b1, a2, b2, k1, k2]; exact ⟨rfl, rfl⟩

/-- after a stored error nothing more is delivered and nothing changes: `(0, err)` for ever (conn.go 1159, 1172-1174);
    only `Read(empty buffer)` still answers `(0, nil)` (1146-1150 comes first) -/
theorem read_after_error (r : Reader) (e : Err) (h : r.err = some e) (b : Nat) :
    read r b = (r, ([], if b = 0 then none else some e)) := by
  cases b with
  | zero => rfl
  | succ b =>
    have hp : pre r = r := by simp [pre, h]
    rw [read_pos _ _ (by omega), readLoop_succ, hp, h]; rfl

/-- `len(b) == 0`: `(0, nil)` at once, state untouched — even if an error is stored or data is waiting (conn.go 1146-1150) -/
theorem read_zero_len (r : Reader) : read r 0 = (r, ([], none)) := rfl

/-- **Progress**: a Read with a non-empty buffer returns at least one byte, or `io.ErrNoProgress` (the
    100-empty-records rule, `read_empty_limit_hit`), or an error that is from then on sticky — never `(0, nil)`. -/
theorem read_progress (r : Reader) (b : Nat) (hb : 1 ≤ b) :
    (read r b).2.1 ≠ [] ∨
    ∃ e, (read r b).2.2 = some e ∧ (e = .noProgress ∨ (read r b).1.err = some e) := by
  obtain ⟨_, _, _, h4, h5, _⟩ := read_spec r b
  cases ho : (read r b).2.2 with
  | none => exact Or.inl (h4 hb ho)
  | some e =>
    refine Or.inr ⟨e, rfl, ?_⟩
    by_cases he : e = .noProgress
    · exact Or.inl he
    · exact Or.inr (h5 e ho he)

theorem readLoop_current (b k : Nat) (hb : 1 ≤ b) (r : Reader) (rest : Bytes)
    (hi : r.input = some rest) (hr : rest ≠ []) (he : r.err = none) :
    readLoop b (k + 1) r =
      if b < rest.length then ({ r with input := some (rest.drop b) }, (rest.take b, none))
      else if alertWaiting r.pending then
        (readRecord { r with input := none }, (rest, (readRecord { r with input := none }).err))
      else ({ r with input := none }, (rest, none)) := by
  obtain ⟨inp, pend, err, wc⟩ := r
  simp only at hi he
  subst hi he
  have hp : pre ⟨some rest, pend, none, wc⟩ = ⟨some rest, pend, none, wc⟩ := by simp [pre]
  have hlen : 0 < rest.length := List.length_pos_iff.mpr hr
  rw [readLoop_succ, hp]
  simp only []
  by_cases hlt : b < rest.length
  · have hd : ¬ (rest.drop b).isEmpty = true := by simp; omega
    have hb0 : ¬ b = 0 := by omega
    simp [drain, hd, hlt, hb0, hr]
  · have hd : rest.drop b = [] := List.drop_eq_nil_of_le (by omega)
    have ht : rest.take b = rest := List.take_of_length_le (by omega)
    simp only [drain, hd, ht, hlt, if_false, List.isEmpty_nil, if_true, Option.isNone_none, true_and, ne_eq, hr,
      not_false_eq_true]

/-- **What a Read does with a current record that has unread bytes — exactly** (conn.go 1176-1203):
    `len(b) < rest`: `(len(b), nil)`, the block keeps the rest, NOTHING else is touched (no look-ahead, since
    `c.input != nil`);  `len(b) ≥ rest`: the block is freed and, iff the next record's first byte is already in
    `c.rawInput` and says "alert", ONE more `readRecord` runs and its error (EOF for close_notify) is returned
    together with the bytes. -/
theorem read_current_record (r : Reader) (b : Nat) (hb : 1 ≤ b) (rest : Bytes)
    (hi : r.input = some rest) (hr : rest ≠ []) (he : r.err = none) :
    read r b =
      if b < rest.length then ({ r with input := some (rest.drop b) }, (rest.take b, none))
      else if alertWaiting r.pending then
        (readRecord { r with input := none }, (rest, (readRecord { r with input := none }).err))
      else ({ r with input := none }, (rest, none)) := by
  rw [read_pos _ _ hb]
  exact readLoop_current b maxConsecutiveEmptyRecords hb r rest hi hr he

/-- **close_notify look-ahead**: the Read that drains the last data record returns `(n, io.EOF)` when the
    close_notify record is already buffered (`sep = false`) — the model's exact condition: the current record is
    drained completely (`rest.length ≤ len(b)`, i.e. `c.input == nil` afterwards) -/
theorem read_eof_lookahead (b : Nat) (rest : Bytes) (hr : rest ≠ []) (hb : rest.length ≤ b)
    (tl : List Item) (wc : Nat) :
    read ⟨some rest, ⟨false, .closeNotify⟩ :: tl, none, wc⟩ b =
      (⟨none, tl, some .eof, wc⟩, (rest, some .eof)) := by
  have hlen : 0 < rest.length := List.length_pos_iff.mpr hr
  rw [read_current_record _ b (by omega) rest rfl hr rfl, if_neg (by omega)]
  simp [alertWaiting, Rec.alertTyped, readRecord, readRecordAux]

/-- … and when the next record is not yet in `c.rawInput` (it arrives with a later transport read), the same Read
    returns `(n, nil)` and leaves the transport alone, whatever that record is; EOF comes with the next Read -/
theorem read_eof_not_buffered (b : Nat) (rest : Bytes) (hr : rest ≠ []) (hb : rest.length ≤ b)
    (k : Rec) (tl : List Item) (wc : Nat) :
    read ⟨some rest, ⟨true, k⟩ :: tl, none, wc⟩ b = (⟨none, ⟨true, k⟩ :: tl, none, wc⟩, (rest, none)) := by
  have hlen : 0 < rest.length := List.length_pos_iff.mpr hr
  rw [read_current_record _ b (by omega) rest rfl hr rfl, if_neg (by omega)]
  simp [alertWaiting]

/-- **Safety of the look-ahead**: a Read that does not drain the current record changes nothing but the block
    offset — it cannot store an error, so the rest of the record stays deliverable.  (With `c.input == nil`
    dropped from the look-ahead condition, a partial read in front of a buffered close_notify returns
    `(n, EOF)` and the rest of the record is lost.) -/
theorem read_lookahead_no_drop (r : Reader) (b : Nat) (hb : 1 ≤ b) (rest : Bytes)
    (hi : r.input = some rest) (he : r.err = none) (hlt : b < rest.length) :
    read r b = ({ r with input := some (rest.drop b) }, (rest.take b, none)) := by
  have hr : rest ≠ [] := by intro h; rw [h] at hlt; simp at hlt
  rw [read_current_record r b hb rest hi hr he, if_pos hlt]

theorem readLoop_empty (b k : Nat) (s : Bool) (rest : List Item) (wc : Nat) :
    readLoop b (k + 1) ⟨none, ⟨s, .data []⟩ :: rest, none, wc⟩ = readLoop b k ⟨none, rest, none, wc⟩ := by
  rw [readLoop_succ]
  simp [pre, readRecord, readRecordAux, drain]

def AllEmpty (l : List Item) : Prop := ∀ it ∈ l, it.kind = .data []

theorem readLoop_skip_empties (b k : Nat) (empties rest : List Item) (wc : Nat) (he : AllEmpty empties) :
    readLoop b (k + empties.length) ⟨none, empties ++ rest, none, wc⟩ = readLoop b k ⟨none, rest, none, wc⟩ := by
  induction empties with
  | nil => rfl
  | cons it tl ih =>
    have hk : it.kind = .data [] := he it (by simp)
    have : it = ⟨it.sep, .data []⟩ := by cases it; simp at hk; simp [hk]
    rw [this, List.length_cons, ← Nat.add_assoc, List.cons_append, readLoop_empty]
    exact ih (fun x hx => he x (by simp [hx]))

/-- 101 empty records in a row: `io.ErrNoProgress`, exactly these 101 records are consumed, no error stored -/
theorem read_empty_limit_hit (b : Nat) (hb : 1 ≤ b) (empties rest : List Item) (wc : Nat)
    (he : AllEmpty empties) (hl : empties.length = maxConsecutiveEmptyRecords + 1) :
    read ⟨none, empties ++ rest, none, wc⟩ b = (⟨none, rest, none, wc⟩, ([], some .noProgress)) := by
  have := readLoop_skip_empties b 0 empties rest wc he
  rw [Nat.zero_add, hl] at this
  rw [read_pos _ _ hb, this]; rfl

theorem readLoop_data_head (b k : Nat) (s : Bool) (p : Bytes) (hp : p ≠ []) (rest : List Item) (wc : Nat) :
    readLoop b (k + 1) ⟨none, ⟨s, .data p⟩ :: rest, none, wc⟩ = readLoop b (k + 1) ⟨some p, rest, none, 0⟩ := by
  have hlen : 0 < p.length := List.length_pos_iff.mpr hp
  rw [readLoop_succ, readLoop_succ]
  simp [pre, readRecord, readRecordAux, hlen]

/-- up to 100 empty records in front of a non-empty one are skipped by ONE Read, which then serves that record -/
theorem read_empty_limit_ok (b : Nat) (hb : 1 ≤ b) (empties rest : List Item) (wc : Nat) (s : Bool) (p : Bytes)
    (he : AllEmpty empties) (hl : empties.length ≤ maxConsecutiveEmptyRecords) (hp : p ≠ []) :
    read ⟨none, empties ++ ⟨s, .data p⟩ :: rest, none, wc⟩ b = read ⟨some p, rest, none, 0⟩ b ∧
    (read ⟨some p, rest, none, 0⟩ b).2.1 = p.take b := by
  have hcur := read_current_record ⟨some p, rest, none, 0⟩ b hb p rfl hp rfl
  constructor
  · obtain ⟨j, hj⟩ : ∃ j, maxConsecutiveEmptyRecords + 1 = (j + 1) + empties.length :=
      ⟨maxConsecutiveEmptyRecords - empties.length, by omega⟩
    rw [hcur, read_pos _ _ hb, hj, readLoop_skip_empties b (j + 1) empties _ wc he, readLoop_data_head b j s p hp,
      readLoop_current b j hb _ p rfl hp rfl]
  · rw [hcur]
    by_cases hlt : b < p.length
    · simp [hlt]
    · have ht : p.take b = p := List.take_of_length_le (by omega)
      simp only [hlt, if_false, ht]
      split <;> rfl

/-- the measure that every Read with a non-empty buffer decreases while no error is stored -/
def measure (r : Reader) : Nat :=
  (remaining r).length + r.pending.length + (if r.err = none then 1 else 0)

theorem read_measure (r : Reader) (b : Nat) (hb : 1 ≤ b) (he : r.err = none) :
    measure (read r b).1 < measure r := by
  obtain ⟨hs, -, -, -, h7⟩ := readLoop_spec b hb (maxConsecutiveEmptyRecords + 1) r
  have h1 := hs.owed
  have h8 := hs.pending
  rw [read_pos _ _ hb]
  generalize readLoop b (maxConsecutiveEmptyRecords + 1) r = res at *
  obtain ⟨r', out, oc⟩ := res
  simp only at h1 h7 h8 ⊢
  have hlen : (remaining r).length = out.length + (remaining r').length := by rw [h1]; simp
  unfold measure
  rw [he, if_pos rfl, hlen]
  by_cases ho : out = []
  · cases he' : r'.err with
    | some e => simp; omega
    | none =>
      have := h7 he' ho
      simp only [maxConsecutiveEmptyRecords] at this
      rw [if_pos rfl, ho]
      split at this <;> simp <;> omega
  · have : 0 < out.length := List.length_pos_iff.mpr ho
    split <;> omega

theorem run_after_error (r : Reader) (e : Err) (h : r.err = some e) (sizes : List Nat) :
    (run r sizes).1 = r := by
  induction sizes with
  | nil => rfl
  | cons b bs ih => simp only [run]; rw [read_after_error r e h b]; exact ih

/-- "ran until the end", read off the results alone: some Read returned an error other than `io.ErrNoProgress` -/
theorem run_finished_of_outcome (r : Reader) (sizes : List Nat)
    (h : ∃ o ∈ readAll r sizes, ∃ e, o.2 = some e ∧ e ≠ .noProgress) : (run r sizes).1.err ≠ none := by
  induction sizes generalizing r with
  | nil => simp [readAll, run] at h
  | cons b bs ih =>
    obtain ⟨o, ho, e, he1, he2⟩ := h
    simp only [readAll, run, List.mem_cons] at ho
    simp only [run]
    rcases ho with rfl | ho
    · have := (read_spec r b).2.2.2.2.1 e he1 he2
      rw [run_after_error _ e this bs, this]; simp
    · exact ih (read r b).1 ⟨o, ho, e, he1, he2⟩

theorem read_terminates_from (r : Reader) (sizes : List Nat) (hs : ∀ b ∈ sizes, 1 ≤ b)
    (hl : measure r ≤ sizes.length) : (run r sizes).1.err ≠ none := by
  induction sizes generalizing r with
  | nil =>
    intro h
    simp only [run] at h
    simp [measure, h] at hl
  | cons b bs ih =>
    simp only [run]
    cases he : r.err with
    | some e =>
      rw [read_after_error r e he b, run_after_error r e he bs, he]; simp
    | none =>
      have hm := read_measure r b (hs b (by simp)) he
      exact ih (read r b).1 (fun x hx => hs x (by simp [hx])) (by simp at hl; omega)

/-- **C15 "never keeps waiting on input that has ended"** for `Conn.Read`: on a finite transport, ANY list of
    `|stream| + |records| + 1` or more non-empty Reads reaches the stored final error, having delivered exactly
    the stream.  (Each Read is a total function of the model: the loops of `Conn.Read` are bounded by 101 and by
    the records present.) -/
theorem read_terminates (pending : List Item) (sizes : List Nat) (hs : ∀ b ∈ sizes, 1 ≤ b)
    (hl : (stream 0 pending).length + pending.length + 1 ≤ sizes.length) :
    (run (Reader.init pending) sizes).1.err = some (ending 0 pending) ∧
    delivered (readAll (Reader.init pending) sizes) = stream 0 pending := by
  have h := read_terminates_from (Reader.init pending) sizes hs
    (by simp only [measure, init_remaining]; simp [Reader.init]; omega)
  obtain ⟨h1, h2, _⟩ := (read_stream pending sizes).2 h
  exact ⟨h2, h1⟩

theorem read_error (r : Reader) (b : Nat) (e : Err) (h : (read r b).2.2 = some e) :
    e = .noProgress ∨ endingOf r = e := by
  obtain ⟨-, h2, -, -, h5, -⟩ := read_spec r b
  by_cases hnp : e = .noProgress
  · exact Or.inl hnp
  · right
    rw [← h2]; simp [endingOf, h5 e h hnp]

/-- the model's placeholder for "`c.input.Read` on a nil block" is never returned (unless a `fail` record was
    given that very class as input): after the inner loop either an error is stored or `c.input != nil` -/
theorem read_never_nil (r : Reader) (b : Nat) (h : endingOf r ≠ .nilInput) :
    (read r b).2.2 ≠ some .nilInput :=
  fun ho => (read_error r b _ ho).elim nofun h

example : readAll (Reader.init [⟨false, .data [1, 2, 3]⟩, ⟨false, .closeNotify⟩]) [2, 2, 2]
    = [([1, 2], none), ([3], some .eof), ([], some .eof)] := by decide
example : readAll (Reader.init [⟨false, .data [1, 2, 3]⟩, ⟨true, .closeNotify⟩]) [3, 2]
    = [([1, 2, 3], none), ([], some .eof)] := by decide
example : readAll (Reader.init (List.replicate 101 ⟨false, .data []⟩ ++ [⟨false, .data [7]⟩])) [5, 5, 5]
    = [([], some .noProgress), ([7], none), ([], some .eof)] := by decide
example : readAll (Reader.init (List.replicate 100 ⟨false, .data []⟩ ++ [⟨false, .data [7]⟩])) [5, 5]
    = [([7], none), ([], some .eof)] := by decide

/-! ## `readHandshake` -/

/-- enough bytes are in `c.hand`: nothing is read and `c.in.err` is not looked at -/
theorem fill_done (need : Nat) (s : HsBuf) (h : need ≤ s.hand.length) : fill need s = (s, none) := by
  unfold fill; exact if_pos h

theorem fill_eq_fillGo (need : Nat) (hand : Bytes) (pending : List HRec) (wc : Nat) :
    fill need ⟨hand, pending, none, wc⟩ = fillGo need hand wc pending := by
  unfold fill fillGo
  split <;> rfl

theorem fill_hs (need : Nat) (hand : Bytes) (wc : Nat) (p : Bytes) (rest : List HRec) (h : ¬ need ≤ hand.length) :
    fill need ⟨hand, .hs p :: rest, none, wc⟩ = fill need ⟨hand ++ p, rest, none, if p.length > 0 then 0 else wc⟩ := by
  rw [fill_eq_fillGo, fill_eq_fillGo, fillGo, if_neg h]

theorem fill_nil (need : Nat) (hand : Bytes) (wc : Nat) (h : ¬ need ≤ hand.length) :
    fill need ⟨hand, [], none, wc⟩ = (⟨hand, [], some .eof, wc⟩, some .eof) := by
  rw [fill_eq_fillGo, fillGo, if_neg h]

theorem fill_ok (need : Nat) (frags : List Bytes) (tail : List HRec) (hand : Bytes) (wc : Nat)
    (h : need ≤ hand.length + frags.flatten.length) :
    ∃ f1 f2 wc2, frags = f1 ++ f2 ∧
      fill need ⟨hand, frags.map .hs ++ tail, none, wc⟩ = (⟨hand ++ f1.flatten, f2.map .hs ++ tail, none, wc2⟩, none) ∧
      need ≤ (hand ++ f1.flatten).length ∧
      (f1 ≠ [] → (hand ++ f1.dropLast.flatten).length < need) := by
  induction frags generalizing hand wc with
  | nil =>
    refine ⟨[], [], wc, rfl, ?_, by simpa using h, fun h => absurd rfl h⟩
    rw [fill_done _ _ (by simpa using h)]; simp
  | cons p fs ih =>
    by_cases hd : need ≤ hand.length
    · refine ⟨[], p :: fs, wc, rfl, ?_, by simpa using hd, fun h => absurd rfl h⟩
      rw [fill_done _ _ hd]; simp
    · obtain ⟨f1, f2, wc2, e1, e2, e3, e4⟩ := ih (hand ++ p) (if p.length > 0 then 0 else wc)
        (by simp at h ⊢; omega)
      refine ⟨p :: f1, f2, wc2, by simp [e1], ?_, by simpa [List.append_assoc] using e3, fun _ => ?_⟩
      · rw [List.map_cons, List.cons_append, fill_hs _ _ _ _ _ hd, e2]; simp [List.append_assoc]
      · cases f1 with
        | nil => simp; omega
        | cons q qs =>
          have := e4 (by simp)
          rw [List.dropLast_cons_cons] <;> simpa [List.append_assoc] using this

theorem fill_short (need : Nat) (frags : List Bytes) (hand : Bytes) (wc : Nat)
    (h : hand.length + frags.flatten.length < need) :
    ∃ wc2, fill need ⟨hand, frags.map .hs, none, wc⟩ = (⟨hand ++ frags.flatten, [], some .eof, wc2⟩, some .eof) := by
  induction frags generalizing hand wc with
  | nil => exact ⟨wc, by rw [List.map_nil, fill_nil _ _ _ (by simp at h; omega)]; simp⟩
  | cons p fs ih =>
    obtain ⟨wc2, e⟩ := ih (hand ++ p) (if p.length > 0 then 0 else wc) (by simp at h ⊢; omega)
    exact ⟨wc2, by rw [List.map_cons, fill_hs _ _ _ _ _ (by simp at h; omega), e]; simp [List.append_assoc]⟩

theorem readHandshake_of_header_err (accept : Bytes → Bool) (s s1 : HsBuf) (e : Err)
    (h : fill 4 s = (s1, some e)) : readHandshake accept s = (s1, .error e) := by
  unfold readHandshake; rw [h]

theorem readHandshake_of_tooLong (accept : Bytes → Bool) (s s1 : HsBuf)
    (h : fill 4 s = (s1, none)) (hn : maxHandshake < len24 s1.hand) :
    readHandshake accept s = ({ s1 with err := some .tooLong }, .error .tooLong) := by
  unfold readHandshake; rw [h]; exact if_pos hn

theorem readHandshake_of_body_err (accept : Bytes → Bool) (s s1 s2 : HsBuf) (e : Err)
    (h : fill 4 s = (s1, none)) (hn : len24 s1.hand ≤ maxHandshake)
    (h2 : fill (4 + len24 s1.hand) s1 = (s2, some e)) : readHandshake accept s = (s2, .error e) := by
  unfold readHandshake; rw [h]; simp only; rw [if_neg (Nat.not_lt.mpr hn), h2]

theorem readHandshake_of_body (accept : Bytes → Bool) (s s1 s2 : HsBuf)
    (h : fill 4 s = (s1, none)) (hn : len24 s1.hand ≤ maxHandshake)
    (h2 : fill (4 + len24 s1.hand) s1 = (s2, none)) :
    readHandshake accept s =
      if accept (s2.hand.take (4 + len24 s1.hand)) then
        ({ s2 with hand := s2.hand.drop (4 + len24 s1.hand) }, .msg (s2.hand.take (4 + len24 s1.hand)))
      else ({ s2 with hand := s2.hand.drop (4 + len24 s1.hand), err := some .unexpectedMessage },
        .error .unexpectedMessage) := by
  unfold readHandshake; rw [h]; simp only; rw [if_neg (Nat.not_lt.mpr hn), h2]

/-- a handshake message: 4-byte header whose 24-bit length is the length of the body, at most `maxHandshake` -/
def WellFormed (m : Bytes) : Prop := m.length = 4 + len24 m ∧ len24 m ≤ maxHandshake

theorem len24_append (a b : Bytes) (h : 4 ≤ a.length) : len24 (a ++ b) = len24 a := by
  unfold len24
  rw [getD_append_left _ _ _ (by omega), getD_append_left _ _ _ (by omega), getD_append_left _ _ _ (by omega)]

theorem readHandshake_msg (accept : Bytes → Bool) (frags : List Bytes) (tail : List HRec) (hand : Bytes) (wc : Nat)
    (m rest : Bytes) (hm : WellFormed m) (ha : accept m = true) (hs : hand ++ frags.flatten = m ++ rest) :
    ∃ (hand2 : Bytes) (frags2 : List Bytes) (wc2 : Nat),
      readHandshake accept ⟨hand, frags.map .hs ++ tail, none, wc⟩ =
        (⟨hand2, frags2.map .hs ++ tail, none, wc2⟩, .msg m) ∧
      hand2 ++ frags2.flatten = rest := by
  obtain ⟨hm1, hm2⟩ := hm
  obtain ⟨f1, f2, wc2, rfl, e2, e3, _⟩ := fill_ok 4 frags tail hand wc
    (by have := congrArg List.length hs; simp only [List.length_append] at this; omega)
  rw [List.flatten_append, ← List.append_assoc] at hs
  have hlen := congrArg List.length hs
  rw [List.length_append, List.length_append (as := m)] at hlen
  have hn : len24 (hand ++ f1.flatten) = len24 m := by
    rw [← len24_append _ f2.flatten e3, hs, len24_append _ _ (by omega)]
  obtain ⟨g1, g2, wc3, rfl, k2, k3, _⟩ := fill_ok (4 + len24 m) f2 tail (hand ++ f1.flatten) wc2 (by omega)
  rw [List.flatten_append, ← List.append_assoc] at hs
  rw [← hm1] at k3
  -- the buffer holds at least `m` of the stream `m ‖ rest`: `c.hand.Next(len m)` is `m`
  obtain ⟨htake, hdrop⟩ := split_of_append_eq _ _ _ _ hs k3
  refine ⟨_, g2, wc3, ?_, hdrop⟩
  rw [← hn] at k2
  rw [readHandshake_of_body accept _ _ _ e2 (by rw [hn]; exact hm2) k2]
  simp only [hn, ← hm1, htake, ha, if_true]

/-- the transport ends inside a message: fewer than 4 header bytes, or an admissible header with too few body bytes
    (`[]`, the end exactly behind a message, is the case `length < 4`) -/
def Incomplete (p : Bytes) : Prop := p.length < 4 ∨ (len24 p ≤ maxHandshake ∧ p.length < 4 + len24 p)

/-- a complete header that announces more than `maxHandshake` bytes -/
def TooLong (p : Bytes) : Prop := 4 ≤ p.length ∧ maxHandshake < len24 p

theorem readHandshake_incomplete (accept : Bytes → Bool) (frags : List Bytes) (hand : Bytes) (wc : Nat)
    (hp : Incomplete (hand ++ frags.flatten)) :
    ∃ wc2, readHandshake accept ⟨hand, frags.map .hs, none, wc⟩ =
      (⟨hand ++ frags.flatten, [], some .eof, wc2⟩, .error .eof) := by
  by_cases h4 : hand.length + frags.flatten.length < 4
  · obtain ⟨wc2, e⟩ := fill_short 4 frags hand wc h4
    exact ⟨wc2, readHandshake_of_header_err accept _ _ _ e⟩
  · obtain ⟨hp1, hp2⟩ := hp.resolve_left (by rw [List.length_append]; exact h4)
    obtain ⟨f1, f2, wc2, rfl, e2, e3, _⟩ := fill_ok 4 frags [] hand wc (by omega)
    simp only [List.append_nil] at e2
    rw [List.flatten_append, ← List.append_assoc] at hp1 hp2 ⊢
    rw [len24_append _ _ e3] at hp1 hp2
    rw [List.length_append] at hp2
    obtain ⟨wc3, k⟩ := fill_short (4 + len24 (hand ++ f1.flatten)) f2 (hand ++ f1.flatten) wc2 hp2
    exact ⟨wc3, readHandshake_of_body_err accept _ _ _ _ e2 hp1 k⟩

/-- a header that announces more than 65536 bytes is refused as soon as its 4 bytes are there: the records read
    are the shortest prefix `f1` of the handshake records that completes the header; what follows (`f2`, `tail`:
    anything) is not looked at -/
theorem readHandshake_tooLong (accept : Bytes → Bool) (frags : List Bytes) (tail : List HRec) (hand : Bytes) (wc : Nat)
    (hp : TooLong (hand ++ frags.flatten)) :
    ∃ (f1 f2 : List Bytes) (wc2 : Nat), frags = f1 ++ f2 ∧
      (f1 ≠ [] → (hand ++ f1.dropLast.flatten).length < 4) ∧
      readHandshake accept ⟨hand, frags.map .hs ++ tail, none, wc⟩ =
        (⟨hand ++ f1.flatten, f2.map .hs ++ tail, some .tooLong, wc2⟩, .error .tooLong) := by
  obtain ⟨f1, f2, wc2, rfl, e2, e3, e4⟩ := fill_ok 4 frags tail hand wc
    (by have := hp.1; rw [List.length_append] at this; exact this)
  refine ⟨f1, f2, wc2, rfl, e4, readHandshake_of_tooLong accept _ _ e2 ?_⟩
  have := hp.2
  rwa [List.flatten_append, ← List.append_assoc, len24_append _ _ e3] at this

/-- successive `readHandshake` calls return the messages in front and then the error `e` that a call returns on
    what is left, `part`, however that is spread over `c.hand` and records -/
theorem messagesFrom_spec (accept : Bytes → Bool) (msgs : List Bytes)
    (hw : ∀ m ∈ msgs, WellFormed m ∧ accept m = true) (part : Bytes) (tail : List HRec) (e : Err)
    (hend : ∀ (hand : Bytes) (frags : List Bytes) wc, hand ++ frags.flatten = part →
      ∃ s, readHandshake accept ⟨hand, frags.map .hs ++ tail, none, wc⟩ = (s, .error e))
    (fuel : Nat) (frags : List Bytes) (hand : Bytes) (wc : Nat)
    (hf : msgs.length ≤ fuel) (hs : hand ++ frags.flatten = msgs.flatten ++ part) :
    messagesFrom accept (fuel + 1) ⟨hand, frags.map .hs ++ tail, none, wc⟩ = (msgs, some e) := by
  induction msgs generalizing fuel frags hand wc with
  | nil =>
    obtain ⟨s, h⟩ := hend hand frags wc hs
    simp [messagesFrom, h]
  | cons m ms ih =>
    cases fuel with
    | zero => exact absurd hf (Nat.not_succ_le_zero _)
    | succ k =>
      obtain ⟨hm, ha⟩ := hw m (by simp)
      rw [List.flatten_cons, List.append_assoc] at hs
      obtain ⟨hand2, frags2, wc2, h, hs2⟩ := readHandshake_msg accept frags tail hand wc m _ hm ha hs
      rw [messagesFrom, h]
      simp only []
      rw [ih (fun x hx => hw x (by simp [hx])) k frags2 hand2 wc2 (Nat.le_of_succ_le_succ hf) hs2]

theorem totalLen_hs (frags : List Bytes) (tail : List HRec) :
    totalLen (frags.map .hs ++ tail) = frags.flatten.length + totalLen tail := by
  induction frags with
  | nil => simp
  | cons p fs ih => simp [totalLen, ih, Nat.add_assoc]

theorem flatten_len_ge (msgs : List Bytes) (hw : ∀ m ∈ msgs, WellFormed m) :
    4 * msgs.length ≤ msgs.flatten.length := by
  induction msgs with
  | nil => simp
  | cons m ms ih =>
    have := (hw m (by simp)).1
    have := ih (fun x hx => hw x (by simp [hx]))
    simp only [List.length_cons, List.flatten_cons, List.length_append]; omega

theorem messages_fuel (msgs : List Bytes) (hw : ∀ m ∈ msgs, WellFormed m) (part : Bytes) (frags : List Bytes)
    (tail : List HRec) (hs : frags.flatten = msgs.flatten ++ part) :
    msgs.length ≤ totalLen (frags.map .hs ++ tail) / 4 := by
  have h1 := flatten_len_ge msgs hw
  have h2 : frags.flatten.length = msgs.flatten.length + part.length := by rw [hs]; simp
  rw [totalLen_hs]
  exact (Nat.le_div_iff_mul_le (by decide)).mpr (by omega)

/-- **Handshake reassembly (C06/C15)**, conn.go 959-985 + 731-737: for EVERY list of well-formed, accepted
    messages, EVERY admissible unfinished rest `part` (`[]` included) and EVERY way `frags` of cutting
    `msgs ‖ part` into handshake-record payloads — cuts inside the 4-byte header, 1-byte records, several
    messages per record, EMPTY records anywhere — successive `readHandshake` calls return exactly `msgs`, in
    order, and then fail with `io.EOF`: the end of the transport is an error, never a message. -/
theorem hs_reassembly (accept : Bytes → Bool) (msgs : List Bytes)
    (hw : ∀ m ∈ msgs, WellFormed m ∧ accept m = true) (part : Bytes) (hp : Incomplete part)
    (frags : List Bytes) (hs : frags.flatten = msgs.flatten ++ part) :
    messages accept (frags.map .hs) = (msgs, some .eof) := by
  have hf := messages_fuel msgs (fun m hm => (hw m hm).1) part frags [] hs
  have := messagesFrom_spec accept msgs hw part [] .eof
    (fun h f w hh => by
      obtain ⟨wc2, e⟩ := readHandshake_incomplete accept f h w (hh ▸ hp)
      exact ⟨_, by rw [List.append_nil, e]⟩)
    _ frags [] 0 hf (by simpa using hs)
  simpa [messages, HsBuf.init] using this

/-- **Fragmentation independence**: any two ways of cutting the same message stream into records give the same
    messages (namely the ones that were sent) and the same end -/
theorem hs_fragmentation_independent (accept : Bytes → Bool) (msgs : List Bytes)
    (hw : ∀ m ∈ msgs, WellFormed m ∧ accept m = true) (frags1 frags2 : List Bytes)
    (h1 : frags1.flatten = msgs.flatten) (h2 : frags2.flatten = msgs.flatten) :
    messages accept (frags1.map .hs) = (msgs, some .eof) ∧
    messages accept (frags2.map .hs) = messages accept (frags1.map .hs) := by
  have hp : Incomplete [] := Or.inl (by decide)
  have a := hs_reassembly accept msgs hw [] hp frags1 (by simpa using h1)
  have b := hs_reassembly accept msgs hw [] hp frags2 (by simpa using h2)
  exact ⟨a, by rw [a, b]⟩

/-- **`n > maxHandshake` (conn.go 970-976)**: after the well-formed messages, a complete header announcing more
    than 65536 bytes ends the handshake with the "exceeds maximum" error, whatever follows it (more handshake
    bytes, other records `tail`, or nothing) and however the header was cut.  `readHandshake_tooLong`: no record
    beyond the one that completed the header is read. -/
theorem hs_too_long (accept : Bytes → Bool) (msgs : List Bytes)
    (hw : ∀ m ∈ msgs, WellFormed m ∧ accept m = true) (part : Bytes) (hp : TooLong part)
    (frags : List Bytes) (tail : List HRec) (hs : frags.flatten = msgs.flatten ++ part) :
    messages accept (frags.map .hs ++ tail) = (msgs, some .tooLong) := by
  have hf := messages_fuel msgs (fun m hm => (hw m hm).1) part frags tail hs
  have := messagesFrom_spec accept msgs hw part tail .tooLong
    (fun h f w hh => by
      obtain ⟨_, _, _, _, _, e⟩ := readHandshake_tooLong accept f tail h w (hh ▸ hp)
      exact ⟨_, e⟩)
    _ frags [] 0 hf (by simpa using hs)
  simpa [messages, HsBuf.init] using this

theorem incomplete_of_proper_prefix (m part : Bytes) (hm : WellFormed m) (hpre : part <+: m)
    (hlt : part.length < m.length) : Incomplete part := by
  by_cases h4 : part.length < 4
  · exact Or.inl h4
  · obtain ⟨t, ht⟩ := hpre
    have : len24 part = len24 m := by rw [← ht, len24_append _ _ (by omega)]
    exact Or.inr ⟨by rw [this]; exact hm.2, by rw [this, ← hm.1]; exact hlt⟩

/-- **C15 "inconsistent length fields … never keeps waiting on input that has ended"**: a transport that ends
    inside a message (any proper prefix `part` of a well-formed message `m`, e.g. its length field promises more
    than is there) yields the complete messages before it and then an ERROR — the unfinished message is never
    returned, and the call returns (the model's loop is bounded by the records present). -/
theorem hs_truncated_is_error (accept : Bytes → Bool) (msgs : List Bytes)
    (hw : ∀ m ∈ msgs, WellFormed m ∧ accept m = true) (m part : Bytes) (hm : WellFormed m)
    (hpre : part <+: m) (hlt : part.length < m.length)
    (frags : List Bytes) (hs : frags.flatten = msgs.flatten ++ part) :
    messages accept (frags.map .hs) = (msgs, some .eof) :=
  hs_reassembly accept msgs hw part (incomplete_of_proper_prefix m part hm hpre hlt) frags hs

theorem fill_empties (need : Nat) (hand : Bytes) (wc k : Nat) (rest : List HRec) (h : ¬ need ≤ hand.length) :
    fill need ⟨hand, List.replicate k (.hs []) ++ rest, none, wc⟩ = fill need ⟨hand, rest, none, wc⟩ := by
  induction k with
  | zero => rfl
  | succ k ih =>
    rw [List.replicate_succ, List.cons_append, fill_hs _ _ _ _ _ h]
    simpa using ih

/-- **Empty handshake records are skipped without limit** (what the code does: `c.hand.Write(data)` with
    `len(data) == 0`, conn.go 731-737, inside the unbounded `for c.hand.Len() < 4` loop — unlike `Conn.Read`
    there is no counter): ANY number `k` of them in front of `rest` is consumed by ONE `readHandshake` call,
    which then behaves exactly as on `rest`. -/
theorem hs_empty_records (accept : Bytes → Bool) (k : Nat) (hand : Bytes) (rest : List HRec) (wc : Nat)
    (h : hand.length < 4) :
    readHandshake accept ⟨hand, List.replicate k (.hs []) ++ rest, none, wc⟩ =
    readHandshake accept ⟨hand, rest, none, wc⟩ := by
  unfold readHandshake; rw [fill_empties 4 hand wc k rest (by omega)]

theorem recvCCSGo_ok (hand : Bytes) (wc : Nat) (pending : List HRec)
    (h : (recvCCSGo hand wc pending).2 = none) :
    hand = [] ∧ (recvCCSGo hand wc pending).1.hand = [] ∧
    ∃ ws rest, pending = ws ++ .ccs :: rest ∧ (∀ x ∈ ws, x = .warning) ∧ (recvCCSGo hand wc pending).1.pending = rest := by
  induction pending generalizing wc with
  | nil => simp [recvCCSGo] at h
  | cons x rest ih =>
    cases x with
    | ccs =>
      by_cases hh : hand.length > 0
      · simp [recvCCSGo, hh] at h
      · have : hand = [] := by cases hand with | nil => rfl | cons _ _ => simp at hh
        subst this
        exact ⟨rfl, by simp [recvCCSGo], [], rest, rfl, by simp, by simp [recvCCSGo]⟩
    | warning =>
      by_cases hw : wc + 1 > maxWarnAlertCount
      · simp [recvCCSGo, hw] at h
      · simp only [recvCCSGo, hw, if_false] at h ⊢
        obtain ⟨a, b, ws, r2, e1, e2, e3⟩ := ih (wc + 1) h
        exact ⟨a, b, .warning :: ws, r2, by simp [e1], by simpa using e2, e3⟩
    | hs p => simp [recvCCSGo] at h
    | appData => simp [recvCCSGo] at h
    | closeNotify => simp [recvCCSGo] at h
    | fail e => simp [recvCCSGo] at h
    | trunc b => simp [recvCCSGo] at h

/-- **"Handshake messages are not allowed to fragment across the CCS"** (conn.go 713-717):
    `readRecord(recordTypeChangeCipherSpec)` succeeds only if `c.hand` is empty (and no error was stored) -/
theorem ccs_requires_empty_hand (s : HsBuf) (h : (recvCCS s).2 = none) :
    s.hand = [] ∧ s.err = none ∧ (recvCCS s).1.hand = [] := by
  unfold recvCCS at h ⊢
  cases hr : recvCCSGo s.hand s.warnCount s.pending with
  | mk s1 o =>
    rw [hr] at h
    cases o with
    | some e => simp at h
    | none =>
      simp only at h ⊢
      have := recvCCSGo_ok s.hand s.warnCount s.pending (by rw [hr])
      rw [hr] at this
      exact ⟨this.1, h, this.2.1⟩

/-- `typ ‖ uint24(len(body)) ‖ body` -/
def mkMsg (typ : Byte) (body : Bytes) : Bytes :=
  typ :: BitVec.ofNat 8 (body.length / 65536) :: BitVec.ofNat 8 (body.length / 256) :: BitVec.ofNat 8 body.length :: body

theorem wellFormed_mkMsg (typ : Byte) (body : Bytes) (h : body.length ≤ maxHandshake) : WellFormed (mkMsg typ body) := by
  have h2 : body.length ≤ 65536 := h
  have hl : len24 (mkMsg typ body) = body.length := by
    simp only [len24, mkMsg, List.getD_cons_succ, List.getD_cons_zero, BitVec.toNat_ofNat]
    omega
  exact ⟨by rw [hl, Nat.add_comm]; rfl, by rw [hl]; exact h⟩

example : messages (fun _ => true) [.hs [20, 0, 0], .hs [], .hs [1, 7, 20], .hs [0, 0, 0]]
    = ([[20, 0, 0, 1, 7], [20, 0, 0, 0]], some .eof) := by decide
example : messages (fun _ => true) [.hs [20, 0, 0, 1, 7, 20, 0, 0]] = ([[20, 0, 0, 1, 7]], some .eof) := by decide
example : messages (fun _ => true) [.hs [20, 1], .hs [0, 1], .hs [9, 9, 9]] = ([], some .tooLong) := by decide
example : (recvCCS ⟨[20], [.ccs], none, 0⟩).2 = some .unexpectedMessage := by decide
example : (recvCCS ⟨[], [.warning, .ccs], none, 0⟩).2 = none := by decide

example : WellFormed [20, 0, 0, 1, 7] := by unfold WellFormed; decide
example : Incomplete [20, 0, 0, 2, 7] := by unfold Incomplete; decide
example : TooLong [20, 1, 0, 1] := by unfold TooLong; decide
/-- the hypotheses of `hs_reassembly` are satisfiable: two messages cut inside both headers, with an empty record -/
example : messages (fun _ => true) ([[20, 0], [0, 1, 7, 20, 0, 0], [], [0]].map .hs)
    = ([[20, 0, 0, 1, 7], [20, 0, 0, 0]], some .eof) :=
  hs_reassembly (fun _ => true) [[20, 0, 0, 1, 7], [20, 0, 0, 0]]
    (by intro m hm; simp at hm; rcases hm with rfl | rfl <;> exact ⟨by unfold WellFormed; decide, rfl⟩)
    [] (Or.inl (by decide)) _ (by decide)
end Props.C06Read
