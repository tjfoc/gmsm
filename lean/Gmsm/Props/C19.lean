/-
C19 — Streaming PKCS#7 padding is independent of how reads and writes are chunked.
The reader invariant and the writer's normal form are in Gmsm/Proofs/Padding.lean; here the specification
`unpadStream` of the writer and the property theorems.  `Model.Padding` mirrors the repaired sm4/padding package.
-/
import Gmsm.Proofs.Padding
import Gmsm.Proofs.BytesNat
import Gmsm.Proofs.ListLemmas
namespace Props.C19
open Gmsm Model.Padding Proofs.Padding

def IsPrefix (a b : Bytes) : Prop := ∃ t, a ++ t = b

theorem readAll_spec (data : Bytes) (bs : Nat) (reqs : List Nat) (r : Reader) (acc : Bytes)
    (h : RInv data bs r acc) :
    IsPrefix (acc ++ (readAll r reqs).1) (padStream bs data) ∧
    ((readAll r reqs).2 = true → acc ++ (readAll r reqs).1 = padStream bs data) := by
  induction reqs generalizing r acc with
  | nil => exact ⟨by rw [readAll, List.append_nil]; exact rinv_prefix h, nofun⟩
  | cons L Ls ih =>
    obtain ⟨hinv, heof⟩ := rinv_read data bs r acc L h
    unfold readAll
    dsimp only
    split
    · next hE => exact ⟨⟨[], (List.append_nil _).trans (heof hE)⟩, fun _ => heof hE⟩
    · rw [← List.append_assoc]; exact ih _ _ hinv

/-- C19, reader: for every source behaviour `script` (any sequence of short reads, zero-byte reads, data returned
    together with EOF) and every sequence of caller buffer sizes `reqs`, what the padding reader has delivered is
    always a prefix of `data ‖ pad`, and once it returns io.EOF it has delivered exactly `data ‖ pad`. -/
theorem reader_stream (data : Bytes) (bs : Nat) (hbs : 0 < bs) (script : List (Nat × Bool)) (reqs : List Nat) :
    IsPrefix (readAll (newReader ⟨data, script⟩ bs) reqs).1 (padStream bs data) ∧
    ((readAll (newReader ⟨data, script⟩ bs) reqs).2 = true →
      (readAll (newReader ⟨data, script⟩ bs) reqs).1 = padStream bs data) :=
  readAll_spec data bs reqs _ [] (rinv_init data bs script)

/-- what un-padding a whole stream means: the stream must be whole blocks (its length a multiple of
    `bs`) and its last block must end in `k` bytes of value `k`, `1 ≤ k ≤ bs`; the result is the stream
    without them.  (`bs = 0` is the degenerate pass-through of the Go code: nothing is cached.) -/
def unpadStream (bs : Nat) (total : Bytes) : Option Bytes :=
  if total.length < bs then none
  else
    let b := total.drop (total.length - bs)
    if b.length = 0 then some total
    else if total.length % bs ≠ 0 then none
    else
      let k := (b.getLastD 0).toNat
      if k > bs ∨ k = 0 then none
      else if (b.drop (b.length - k)).all (fun c => c.toNat == k) then some (total.take (total.length - k)) else none

theorem final_after (bs : Nat) (total : Bytes) : (writerAfter bs total).final = unpadStream bs total := by
  rw [Writer.final, unpadStream, writerAfter]
  by_cases hlt : total.length < bs
  · rw [if_pos hlt, if_pos]
    rw [List.length_drop, Nat.sub_eq_zero_of_le (Nat.le_of_lt hlt)]; exact Nat.ne_of_lt hlt
  · have hcl : (total.drop (total.length - bs)).length = bs := by
      rw [List.length_drop, Nat.sub_sub_self (Nat.le_of_not_lt hlt)]
    rw [if_neg hlt]
    dsimp only
    rw [hcl, if_neg (fun h => h rfl)]
    by_cases h0 : bs = 0
    · rw [if_pos h0, if_pos h0, h0, Nat.sub_zero, List.take_length]
    · rw [if_neg h0, if_neg h0]
      generalize ((total.drop (total.length - bs)).getLastD 0).toNat = k
      by_cases hK : k > bs ∨ k = 0
      · rw [if_pos hK, if_pos hK]
      · rw [← List.take_add, Nat.sub_add_sub_cancel (Nat.le_of_not_lt hlt) (Nat.le_of_not_lt fun h => hK (Or.inl h))]

/-- C19, writer: for every chunking `ws` (empty writes included) the bytes forwarded plus what `Final` emits are
    exactly the un-padded stream, and `Final` reports an error exactly when the stream does not end in a valid pad. -/
theorem writer_stream (bs : Nat) (ws : List Bytes) : writeAll bs ws = unpadStream bs ws.flatten := by
  rw [writeAll, foldl_write, final_after]

theorem unpadStream_append_pad (bs k : Nat) (d : Bytes) (hk : 0 < k) (hkb : k ≤ bs) (h255 : k ≤ 255)
    (hmod : (d.length + k) % bs = 0) :
    unpadStream bs (d ++ List.replicate k (BitVec.ofNat 8 k)) = some d := by
  have hge : bs ≤ d.length + k := Nat.le_of_dvd (Nat.add_pos_right _ hk) (Nat.dvd_of_mod_eq_zero hmod)
  have hdl : d.length + k - bs ≤ d.length := Nat.sub_le_of_le_add (Nat.add_le_add_left hkb _)
  have hl : (d.drop (d.length + k - bs)).length + k = bs := by
    rw [List.length_drop, ← Nat.sub_add_comm hdl, Nat.sub_sub_self hge]
  have hlen : (d ++ List.replicate k (BitVec.ofNat 8 k)).length = d.length + k := by
    rw [List.length_append, List.length_replicate]
  rw [unpadStream, hlen, if_neg (Nat.not_lt.mpr hge)]
  dsimp only
  rw [List.drop_append_of_le_length hdl]
  generalize d.drop (d.length + k - bs) = d' at hl
  rw [List.length_append, List.length_replicate, hl, if_neg (Nat.ne_of_gt (Nat.lt_of_lt_of_le hk hkb)),
    if_neg (fun h => h hmod), getLastD_append_replicate _ _ _ _ hk, toNat_ofNat8 k (Nat.lt_succ_of_le h255),
    if_neg (fun h => h.elim (Nat.not_lt.mpr hkb) (Nat.ne_of_gt hk)), List.drop_left' (Nat.eq_sub_of_add_eq hl),
    Nat.add_sub_cancel, List.take_left' rfl, if_pos]
  rw [List.all_replicate, toNat_ofNat8 k (Nat.lt_succ_of_le h255), beq_self_eq_true, ite_self]

theorem unpad_padStream (bs : Nat) (h1 : 0 < bs) (h2 : bs ≤ 255) (data : Bytes) :
    unpadStream bs (padStream bs data) = some data :=
  unpadStream_append_pad bs _ data (pad_pos bs _ h1) (Nat.sub_le _ _) (by omega) (add_pad_mod bs _ h1)

/-- feeding `data ‖ pad` to the writer in any chunking returns `data` -/
theorem writer_inverse (bs : Nat) (h1 : 0 < bs) (h2 : bs ≤ 255) (data : Bytes) (ws : List Bytes)
    (h : ws.flatten = padStream bs data) : writeAll bs ws = some data := by
  rw [writer_stream, h, unpad_padStream bs h1 h2 data]

/-- The repaired behaviour (false for the code as found, see `old_writer_accepts_misaligned`): whatever the bytes
    are, in particular when the last `bs` bytes of the stream look like a valid pad, if the total number of bytes
    written is not a multiple of the block size then `Final` reports an error: the final block of such a stream is a
    partial block and can never be a valid pad. -/
theorem writer_rejects_misaligned (bs : Nat) (hbs : 0 < bs) (ws : List Bytes)
    (h : ws.flatten.length % bs ≠ 0) : writeAll bs ws = none := by
  rw [writer_stream]
  generalize ws.flatten = total at h
  unfold unpadStream
  by_cases hlt : total.length < bs
  · simp only [hlt, if_true]
  · have hdl : (total.drop (total.length - bs)).length ≠ 0 := by
      rw [List.length_drop]; omega
    simp only [hlt, if_false, hdl, h, ne_eq, not_false_eq_true, if_true]

/-- whenever `Final` succeeds, the stream was whole blocks -/
theorem writer_ok_aligned (bs : Nat) (hbs : 0 < bs) (ws : List Bytes) (d : Bytes)
    (h : writeAll bs ws = some d) : ws.flatten.length % bs = 0 :=
  Decidable.byContradiction fun hm => nomatch (writer_rejects_misaligned bs hbs ws hm).symm.trans h

/-- the byte counter of the model is the number of bytes written, for every chunking -/
theorem written_eq_total (bs : Nat) (ws : List Bytes) :
    (ws.foldl Writer.write (newWriter bs)).written = ws.flatten.length := by
  rw [foldl_write]; rfl

/-- The code as found: `Final` looked only at the sliding window of the last `bs` bytes.  Witness: 17 bytes at block
    size 16 ending in 0x01 — a stream whose final block is ONE byte — were accepted and 16 bytes emitted, in one
    write as well as in several; the repaired writer refuses the same input. -/
theorem old_writer_accepts_misaligned :
    writeAllOld 16 [List.replicate 16 0xAA ++ [0x01]] = some (List.replicate 16 0xAA) ∧
    writeAllOld 16 [List.replicate 5 0xAA, [], List.replicate 11 0xAA, [0x01]] = some (List.replicate 16 0xAA) ∧
    writeAllOld 8 [List.replicate 9 0xAA ++ [0x02, 0x02]] = some (List.replicate 9 0xAA) ∧
    writeAll 16 [List.replicate 16 0xAA ++ [0x01]] = none ∧
    writeAll 16 [List.replicate 5 0xAA, [], List.replicate 11 0xAA, [0x01]] = none ∧
    writeAll 8 [List.replicate 9 0xAA ++ [0x02, 0x02]] = none := by decide +kernel

/-- on whole-block streams the repair changes nothing: old and new `Final` agree -/
theorem final_eq_old_of_aligned (w : Writer) (h : w.written % w.blockSize = 0) : w.final = w.finalOld := by
  simp only [Writer.final, Writer.finalOld, h, ne_eq, not_true_eq_false, if_false]

/-- `writer_rejects_misaligned` applies: a 17-byte stream in three writes whose tail is a valid-looking pad -/
example : writeAll 16 [List.replicate 7 0x41, List.replicate 9 0x41, [0x01]] = none :=
  writer_rejects_misaligned 16 (by decide) _ (by decide)

/-- … and the aligned neighbours are still accepted: 32 bytes ending in 0x01, 16 bytes of 0x10 -/
example : writeAll 16 [List.replicate 7 0x41, List.replicate 24 0x41, [0x01]] = some (List.replicate 31 0x41) := by decide +kernel
example : writeAll 16 [List.replicate 16 0x10] = some [] := by decide +kernel

/-- the writer never caches more than one block (so the forwarding loop is bounded) -/
theorem cache_le_block (bs : Nat) (ws : List Bytes) :
    (ws.foldl Writer.write (newWriter bs)).cache.length ≤ bs := by
  rw [foldl_write, writerAfter, List.length_drop]; omega

/-- The code as found: a read shorter than the buffer — with no EOF — made the old reader emit pad
    bytes in the middle of the data.  Witness: block size 16, 3 of 8 requested bytes returned. -/
theorem oldReader_short_read_witness : oldReadShort 16 0 3 8 ≠ [] := by decide +kernel

/-- a 20-byte stream read 3 bytes at a time from a source that returns 1, 0
    and 7 bytes and its last bytes together with EOF. -/
example : (readAll (newReader ⟨List.replicate 20 0x41, [(1, false), (0, false), (7, true), (100, true)]⟩ 16)
    (List.replicate 20 3)) = (padStream 16 (List.replicate 20 0x41), true) := by decide +kernel

end Props.C19
