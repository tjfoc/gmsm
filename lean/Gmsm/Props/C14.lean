/-
C14 — Keys, signatures and ciphertexts survive every offered serialization unchanged.

The byte-level codecs the library itself implements are specified in Lean (`toHex/ofHex`, fixed
32-byte big-endian integers, DER of signatures) and proved to round-trip for every value; the real
code is compared with these specs and checked for read-back equality on every run (hexpriv, hexpub,
compress/decompress, sigasn1, cipherasn1, pkcs8 with and without password incl. wrong passwords,
pubpem, the key-pair loaders with matching / different / negated keys).
-/
import Gmsm.Spec.SM2
import Gmsm.Proofs.BytesNat
import Gmsm.Props.C01
namespace Props.C14
open Gmsm

theorem hexVal_hexDigit (n : Nat) (h : n < 16) : hexVal (hexDigit n) = some n := by
  have : ∀ m : Fin 16, hexVal (hexDigit m.val) = some m.val := by decide
  exact this ⟨n, h⟩

theorem ofHexAux_toHex (bs acc : Bytes) :
    ofHexAux (bs.flatMap (fun b => [hexDigit (b.toNat / 16), hexDigit (b.toNat % 16)])) acc =
      some (acc.reverse ++ bs) := by
  induction bs generalizing acc with
  | nil => simp [ofHexAux]
  | cons b bs ih =>
    simp only [List.flatMap_cons, List.cons_append, List.nil_append]
    unfold ofHexAux
    have hb : b.toNat < 256 := b.isLt
    rw [hexVal_hexDigit _ (by omega), hexVal_hexDigit _ (by omega)]
    simp only
    rw [ih]
    have : BitVec.ofNat 8 (b.toNat / 16 * 16 + b.toNat % 16) = b := by
      have : b.toNat / 16 * 16 + b.toNat % 16 = b.toNat := by omega
      rw [this]; simp
    rw [this]; simp

theorem hex_roundtrip (bs : Bytes) (h : bs ≠ []) : ofHex (toHex bs) = some bs := by
  unfold ofHex toHex
  have hne : String.ofList (bs.flatMap fun b => [hexDigit (b.toNat / 16), hexDigit (b.toNat % 16)]) ≠ "-" := by
    cases bs with
    | nil => exact absurd rfl h
    | cons b bs =>
      intro hc
      have := congrArg String.toList hc
      simp at this
  simp only [hne, if_false, String.toList_ofList]
  have := ofHexAux_toHex bs []
  simpa using this

theorem b32_length (v : Nat) : (Spec.SM2.b32 v).length = 32 := i2ospR_length 32 v

/-- C14: for every private key value d < 2^256 the 64-digit hexadecimal export
    reads back as d (including values with leading zero nibbles or bytes). -/
theorem hex_priv_roundtrip (d : Nat) (h : d < 256 ^ 32) :
    (ofHex (toHex (Spec.SM2.b32 d))).map os2ip = some d := by
  have hne : Spec.SM2.b32 d ≠ [] := by
    intro hc; have := b32_length d; rw [hc] at this; simp at this
  rw [hex_roundtrip _ hne]
  simp only [Option.map_some, Spec.SM2.b32]
  rw [os2ip_i2ospR_of_lt 32 d h]

/-- x ‖ y with 32-byte coordinates (what follows the 04 of the encoding) determines (x, y) -/
theorem pub_encoding_roundtrip (x y : Nat) (hx : x < 256 ^ 32) (hy : y < 256 ^ 32) :
    let enc := Spec.SM2.b32 x ++ Spec.SM2.b32 y
    os2ip (enc.take 32) = x ∧ os2ip (enc.drop 32) = y := by
  intro enc
  have l := b32_length x
  constructor
  · simp only [enc]
    rw [List.take_left' l]
    exact os2ip_i2ospR_of_lt 32 x hx
  · simp only [enc]
    rw [List.drop_left' l]
    exact os2ip_i2ospR_of_lt 32 y hy

/-- the ASN.1 signature form round-trips for all (r, s) below 2^256 (C01) -/
theorem sig_asn1_roundtrip (r s : Nat) (hr : r < 256 ^ 32) (hs : s < 256 ^ 32) :
    Spec.DER.decSig (Spec.DER.encSig r s) = some ((r : Int), (s : Int)) := Props.C01.der_roundtrip r s hr hs

/-- compressed form: the parity byte is 0 or 1 and the x coordinate is recovered exactly -/
theorem compress_x_roundtrip (x y : Nat) (hx : x < 256 ^ 32) :
    let c := BitVec.ofNat 8 (y % 2) :: Spec.SM2.b32 x
    c.length = 33 ∧ os2ip c.tail = x ∧ (c.headD 0).toNat = y % 2 := by
  intro c
  refine ⟨by simp [c, b32_length], ?_, ?_⟩
  · simp only [c, List.tail_cons]; exact os2ip_i2ospR_of_lt 32 x hx
  · simp only [c, List.headD_cons, BitVec.toNat_ofNat]; omega

/-- Decision logic only: a key-pair loader's decision is "the public point
    derived from the private key equals the certificate's public point" — in particular a key with the
    same x but the opposite y (d ↦ n − d) is a different key. -/
def loaderAccepts (certPub keyPub : Nat × Nat) : Bool := certPub.1 == keyPub.1 && certPub.2 == keyPub.2

theorem loader_accepts_iff (c k : Nat × Nat) : loaderAccepts c k = true ↔ c = k := by
  unfold loaderAccepts
  constructor
  · intro h
    simp only [Bool.and_eq_true, beq_iff_eq] at h
    exact Prod.ext h.1 h.2
  · intro h; subst h; simp

end Props.C14
