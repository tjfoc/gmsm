/-
C10 (continued) — DNS name constraints and the FORM of the requested host.

As found, `isValid` (x509/verify.go) compared the permitted DNS domains of every certificate of a path with
the raw text of `VerifyOptions.DNSName`: a host written with a trailing dot, an IP address (plain or in
brackets) and "no host at all" were all refused by every name-constrained CA, although `VerifyHostname`
reads the same text as a host (drops the dot, matches IP addresses against IP SANs) and accepts it.  The
repaired rule (`Model.X509.constraintName`, `permittedOK`): the permitted domains are compared with the
requested DNS name without its trailing dot, and not at all when no name or an IP address is requested.

`verify_name_constraints_respected`: nothing is widened, every issuer of every returned chain permits a requested
name.  `verify_without_dns_name`: for an IP host, or no host, the verdict is that of the same PKI with all permitted
domains deleted.  `verify_dns_host_form`: the verdict depends on the text of the host only through what
`VerifyHostname` makes of it and through the name without its trailing dot.
-/
import Gmsm.Props.C10Complete
import Gmsm.Props.C10Host
namespace Props.C10
open Model.X509

/-- certificate `c` permits the DNS name `name`: it has no permitted DNS domains, or one of them matches -/
def Permits (c : Cert) (name : String) : Prop :=
  c.permitted = [] ∨ ∃ p ∈ c.permitted, matchNameConstraint name p = true

/-- CANotAuthorizedForThisName is the answer of the permitted-domains clause only -/
theorem isValid_nameRefusal {c : Cert} {kind : Kind} {chain : List Cert} {o : Opts}
    (h : isValid c kind chain o = some .notAuthorizedForName) : kind ≠ .leaf ∧ permittedOK c o = false := by
  by_cases hc : (kind != .leaf && !permittedOK c o) = true
  · simpa using hc
  · unfold isValid at h
    rw [if_neg hc] at h
    exact absurd h (ite_ne_of_ne nofun (ite_ne_of_ne nofun (ite_ne_of_ne nofun (ite_ne_of_ne nofun nofun))))

theorem permittedOK_eq {o : Opts} {name : String} (hn : constraintName o = some name) (c : Cert) :
    permittedOK c o = (c.permitted.isEmpty || c.permitted.any (matchNameConstraint name)) := by
  unfold permittedOK
  rw [hn]

theorem permits_of_permittedOK (c : Cert) (o : Opts) (name : String) (hn : constraintName o = some name)
    (h : permittedOK c o = true) : Permits c name := by
  rw [permittedOK_eq hn] at h
  simpa only [Permits, Bool.or_eq_true, List.isEmpty_iff, List.any_eq_true] using h

/-- when no DNS name is requested (no host, or an IP address, plain or in brackets), `isValid` never answers
    CANotAuthorizedForThisName, whatever the permitted domains of the certificate -/
theorem isValid_no_name_refusal (c : Cert) (kind : Kind) (chain : List Cert) (o : Opts)
    (hn : constraintName o = none) : isValid c kind chain o ≠ some .notAuthorizedForName := by
  intro h
  have := (isValid_nameRefusal h).2
  unfold permittedOK at this
  rw [hn] at this
  cases this

theorem constraintName_none_iff (o : Opts) :
    constraintName o = none ↔ (o.dnsName.length = 0 ∨ o.hostIsIP = true) := by
  unfold constraintName
  split <;> simp_all

theorem isValid_congr (c : Cert) (kind : Kind) (chain : List Cert) (o o2 : Opts)
    (hnow : o.now = o2.now) (hn : constraintName o = constraintName o2) :
    isValid c kind chain o = isValid c kind chain o2 := by
  unfold isValid permittedOK
  rw [hnow, hn]

/-- whenever `Verify` succeeds for a requested DNS name (`name` = the host without its trailing dot; the host is
    not an IP address), every issuer of every returned chain - the intermediates and the root, `chain.tail` -
    permits `name`.  Nothing is widened: it is the requested name itself, normalised the way `VerifyHostname`
    normalises it, that is confined to the permitted subtrees.  The verified certificate is not among them: its
    permitted domains constrain what is issued below it, and `∀ c ∈ chain` would be false
    (`Props.C10.ex_leaf_own_constraints_accepted` in C10Leaf.lean). -/
theorem verify_name_constraints_respected (roots inters : List Cert) (leaf : Cert) (o : Opts)
    (chains : List (List Nat)) (name : String)
    (h : verify roots inters leaf o = .ok chains) (hn : constraintName o = some name) :
    ∀ ids ∈ chains, ∃ chain : List Cert, ids = chain.map (·.id) ∧ GoodPath roots inters o leaf chain ∧
      ∀ c ∈ chain.tail, Permits c name := by
  intro ids hids
  obtain ⟨chain, hch, hg, _⟩ := (verify_only_if_good_path h).2 ids hids
  exact ⟨chain, hch, hg, (goodPath_issuers (fun chain kind p hk _ hu =>
    permits_of_permittedOK p o name hn (((isValid_eq_none_iff p kind chain o).mp (usable_iff.mp hu).1).2.2.1 hk)) hg).2⟩

/-- the options enter the verdict only through time, usages, the DNS name that constraints are compared with and
    the answer of `VerifyHostname` for the leaf, where it is consulted -/
theorem verify_congr_host (roots inters : List Cert) (leaf : Cert) (o o2 : Opts)
    (hnow : o.now = o2.now) (hus : o.usages = o2.usages)
    (hn : constraintName o = constraintName o2)
    (hh : (decide (o.dnsName.length > 0) && !verifyHostname leaf o) = (decide (o2.dnsName.length > 0) && !verifyHostname leaf o2)) :
    verify roots inters leaf o = verify roots inters leaf o2 := by
  have hv : ∀ c kind chain, isValid c kind chain o = isValid c kind chain o2 :=
    fun c kind chain => isValid_congr c kind chain o o2 hnow hn
  refine verify_map id rfl (hv ..) hh rfl rfl ?_ (funext fun ch => ?_) (fun _ => rfl)
  · exact buildChains_map id id rfl (fun _ _ _ => rfl)
      (fun _ c hc => ⟨c, hc, (List.map_id _).symm, (List.map_id _).symm⟩)
      (fun kind chain p => by simp only [usable, hv, id]) _ _ _
  · simp only [Function.comp, usageOK, reqUsages, hus, id]

theorem matchHostnames_host_congr (pattern h1 h2 : String) (h : trimDot h1 = trimDot h2) :
    matchHostnames pattern h1 = matchHostnames pattern h2 := by
  rw [matchHostnames_eq, matchHostnames_eq, h]

/-- two non-empty hosts that are not IP addresses and differ at most by the trailing dot (`www.example.com.` and
    `www.example.com`) get the same verdict from `Verify` for every PKI: the same chains or the same error.
    As found, the first was refused by every name-constrained CA. -/
theorem verify_dns_host_form (roots inters : List Cert) (leaf : Cert) (o o2 : Opts)
    (hnow : o.now = o2.now) (hus : o.usages = o2.usages)
    (hip : o.hostIsIP = false) (hip2 : o2.hostIsIP = false)
    (hne : o.dnsName.length > 0) (hne2 : o2.dnsName.length > 0)
    (ht : trimDot o.dnsName = trimDot o2.dnsName)
    (htl : trimDot (lowerASCII o.dnsName) = trimDot (lowerASCII o2.dnsName)) :
    verify roots inters leaf o = verify roots inters leaf o2 := by
  apply verify_congr_host roots inters leaf o o2 hnow hus
  · simp [constraintName, Nat.ne_of_gt hne, Nat.ne_of_gt hne2, hip, hip2, ht]
  · simp [verifyHostname, hne, hne2, hip, hip2, matchHostnames_host_congr _ _ _ htl]

/-- the same certificate without its permitted DNS domains -/
def dropPermitted (c : Cert) : Cert := { c with permitted := [] }

theorem findVerifiedParents_dropPermitted (pool : List Cert) (c : Cert) :
    findVerifiedParents (pool.map dropPermitted) (dropPermitted c) = (findVerifiedParents pool c).map dropPermitted := by
  unfold findVerifiedParents
  simp only [List.filter_map, ← List.map_append]
  rfl

theorem isValid_dropPermitted (c : Cert) (kind : Kind) (chain : List Cert) (o : Opts) (hn : constraintName o = none) :
    isValid (dropPermitted c) kind (chain.map dropPermitted) o = isValid c kind chain o := by
  unfold isValid permittedOK
  rw [hn]
  simp only [List.getLast?_map, List.length_map]
  cases chain.getLast? <;> rfl

theorem any_id_dropPermitted (chain : List Cert) (r : Cert) :
    (chain.map dropPermitted).any (·.id == (dropPermitted r).id) = chain.any (·.id == r.id) := by
  rw [List.any_map]; rfl

theorem buildChains_dropPermitted (roots inters : List Cert) (o : Opts) (hn : constraintName o = none)
    (fuel steps : Nat) (chain : List Cert) :
    buildChains (roots.map dropPermitted) (inters.map dropPermitted) o fuel steps (chain.map dropPermitted) =
      Prod.map (List.map (List.map dropPermitted)) id (buildChains roots inters o fuel steps chain) :=
  buildChains_map dropPermitted (List.map dropPermitted) rfl (fun _ _ _ => List.map_append)
    (fun chain c hc => ⟨dropPermitted c, by rw [List.getLast?_map, hc]; rfl,
      findVerifiedParents_dropPermitted roots c, findVerifiedParents_dropPermitted inters c⟩)
    (fun kind chain p => by simp only [usable, any_id_dropPermitted, isValid_dropPermitted _ _ _ _ hn])
    fuel steps chain

theorem checkChainForKeyUsage_dropPermitted (chain : List Cert) (us : List Nat) :
    checkChainForKeyUsage (chain.map dropPermitted) us = checkChainForKeyUsage chain us := by
  unfold checkChainForKeyUsage
  simp only [List.isEmpty_map, ← List.map_reverse, List.foldl_map]
  rfl

/-- when no DNS name is requested - the host is empty (what the gmtls server passes when it verifies a client
    certificate) or an IP address, plain or in brackets - `Verify` gives, for every PKI, the verdict it gives for
    the same PKI with the permitted DNS domains of all certificates deleted: the same chains (as certificate
    identities) or the same error class.  As found, every path through a certificate with permitted DNS domains
    was refused for such a host. -/
theorem verify_without_dns_name (roots inters : List Cert) (leaf : Cert) (o : Opts)
    (hn : o.dnsName.length = 0 ∨ o.hostIsIP = true) :
    verify roots inters leaf o =
      verify (roots.map dropPermitted) (inters.map dropPermitted) (dropPermitted leaf) o := by
  have hn := (constraintName_none_iff o).mpr hn
  symm
  refine verify_map (List.map dropPermitted) rfl (isValid_dropPermitted leaf .leaf [] o hn) rfl
    (any_id_dropPermitted roots leaf) rfl ?_ (funext fun ch => ?_) (fun ch => ?_)
  · rw [List.length_map, List.length_map]
    exact buildChains_dropPermitted roots inters o hn _ _ [leaf]
  · simp only [Function.comp, usageOK, checkChainForKeyUsage_dropPermitted]
  · rw [List.map_map]
    rfl

/-- root ← intermediate (permitted DNS domains: example.com) ← leaf (DNS www.example.com, IP 10.1.2.3) -/
def ncInt : Cert := { exInt with permitted := ["example.com"] }
def ncLeaf : Cert := { exLeaf with ips := ["10.1.2.3"] }
def ipOpts : Opts := ⟨0, "10.1.2.3", true, "10.1.2.3", []⟩
def bracketOpts : Opts := ⟨0, "[10.1.2.3]", true, "10.1.2.3", []⟩
def dotOpts : Opts := ⟨0, "www.example.com.", false, "", []⟩
def plainOpts : Opts := ⟨0, "www.example.com", false, "", []⟩

/-- the hosts that were refused as found: the IP address of the leaf, the same in brackets, no host -/
example : (match verify [exRoot] [ncInt] ncLeaf ipOpts with | .ok cs => cs | _ => []) = [[3, 2, 1]] := by decide
example : (match verify [exRoot] [ncInt] ncLeaf bracketOpts with | .ok cs => cs | _ => []) = [[3, 2, 1]] := by decide
example : (match verify [exRoot] [ncInt] ncLeaf exOpts with | .ok cs => cs | _ => []) = [[3, 2, 1]] := by decide
/-- an IP address the leaf does not carry is still refused (by `VerifyHostname`) -/
example : (match verify [exRoot] [ncInt] ncLeaf ⟨0, "::1", true, "::1", []⟩ with | .hostname => true | _ => false) = true := by
  decide
example : verify [exRoot] [ncInt] ncLeaf bracketOpts = verify [exRoot] [exInt] ncLeaf bracketOpts :=
  verify_without_dns_name [exRoot] [ncInt] ncLeaf bracketOpts (Or.inr rfl)

/-- for the instances of `verify_dns_host_form` below.  The lower-cased hosts are evaluated to literals first:
    inside `trimDot` the kernel would evaluate an unevaluated `lowerASCII _` again at every use. -/
theorem trimDot_abcn : trimDot "a.b.cn." = trimDot "a.b.cn" := by decide +kernel

example (roots inters : List Cert) (leaf : Cert) :
    verify roots inters leaf ⟨0, "a.b.cn.", false, "", []⟩ = verify roots inters leaf ⟨0, "a.b.cn", false, "", []⟩ :=
  have l1 : lowerASCII "a.b.cn." = "a.b.cn." := by decide +kernel
  have l2 : lowerASCII "a.b.cn" = "a.b.cn" := by decide +kernel
  verify_dns_host_form roots inters leaf _ _ rfl rfl rfl rfl (by decide +kernel) (by decide +kernel)
    trimDot_abcn (by rw [l1, l2]; exact trimDot_abcn)
example (roots inters : List Cert) (leaf : Cert) :
    verify roots inters leaf ⟨0, "A.b.cn.", false, "", []⟩ = verify roots inters leaf ⟨0, "A.b.cn", false, "", []⟩ :=
  have l1 : lowerASCII "A.b.cn." = "a.b.cn." := by decide +kernel
  have l2 : lowerASCII "A.b.cn" = "a.b.cn" := by decide +kernel
  verify_dns_host_form roots inters leaf _ _ rfl rfl rfl rfl (by decide +kernel) (by decide +kernel)
    (by decide +kernel) (by rw [l1, l2]; exact trimDot_abcn)

theorem constraintName_dotOpts : constraintName dotOpts = some "www.example.com" := by decide +kernel
theorem ncInt_permits :
    (ncInt.permitted.isEmpty || ncInt.permitted.any (matchNameConstraint "www.example.com")) = true := by
  decide +kernel

example : constraintName dotOpts = some "www.example.com" := constraintName_dotOpts
example : permittedOK ncInt dotOpts = true := (permittedOK_eq constraintName_dotOpts _).trans ncInt_permits
example : permittedOK ncInt plainOpts = true := (permittedOK_eq (by decide +kernel) _).trans ncInt_permits
example : permittedOK { exInt with permitted := ["other.org"] } dotOpts = false :=
  (permittedOK_eq constraintName_dotOpts _).trans (by decide +kernel)
example : permittedOK { exInt with permitted := ["other.org"] } bracketOpts = true := by decide +kernel

/- end to end on the compiled model (`String.splitOn` does not reduce in the kernel; the same evaluations are
    compared with the real `Verify` by the `chain` ops of harness/c10nc.go): trailing dot and upper case are
    accepted, a name outside the permitted domains is still refused for every spelling -/
#guard trimDot dotOpts.dnsName == trimDot plainOpts.dnsName && trimDot (lowerASCII "WWW.Example.COM.") == trimDot (lowerASCII plainOpts.dnsName)
#guard (match verify [exRoot] [ncInt] ncLeaf dotOpts with | .ok cs => cs | _ => []) = [[3, 2, 1]]
#guard (match verify [exRoot] [ncInt] ncLeaf ⟨0, "WWW.Example.COM.", false, "", []⟩ with | .ok cs => cs | _ => []) = [[3, 2, 1]]
#guard (match verify [exRoot] [{ exInt with permitted := ["other.org"] }] ncLeaf dotOpts with | .noChain => true | _ => false)
#guard (match verify [exRoot] [{ exInt with permitted := ["other.org"] }] ncLeaf plainOpts with | .noChain => true | _ => false)

end Props.C10
