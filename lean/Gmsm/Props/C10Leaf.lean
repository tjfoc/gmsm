/-
C10 (continued) — the verified certificate's OWN permitted DNS domains play no part.

As found, `Certificate.Verify` (x509/verify.go) called `c.isValid(leafCertificate, nil, &opts)` and `isValid` made
the permitted-DNS-domains test for every certificate type: the permitted domains of the certificate BEING VERIFIED
(which, RFC 5280 4.2.1.10, constrain the names in certificates issued below it) were compared with
`VerifyOptions.DNSName`.  A leaf (SAN foo.org, permitted: example.com) directly under an unconstrained, valid root
was refused for host foo.org with CANotAuthorizedForThisName.  Property C10 asks for the constraints of the ISSUERS.
The repaired rule (`Model.X509.isValid`: `kind != .leaf && !permittedOK c o`): issuers only.

The clause (`isValid_leaf_permitted_irrelevant`) is carried through the search (`buildChains_leaf_permitted`: it reads
the permitted domains of pool members only) to the verdict of `Verify` (`verify_leaf_permitted_irrelevant`);
`ex_leaf_own_constraints_accepted` is the leaf described above, accepted.
-/
import Gmsm.Props.C10Names
namespace Props.C10
open Model.X509

/-- the same certificate (same identity, names, keys, signature, …) carrying other permitted DNS domains -/
def withPermitted (c : Cert) (l : List String) : Cert := { c with permitted := l }

def swapP (l : List String) : List Cert → List Cert
  | [] => []
  | x :: t => withPermitted x l :: t

/-- The repaired clause, for the certificate being verified (`certType == leafCertificate`).  False as found: there
    `isValid` answered CANotAuthorizedForThisName for a leaf whose permitted domains do not match the requested host. -/
theorem isValid_leaf_permitted_irrelevant (c : Cert) (l : List String) (chain : List Cert) (o : Opts) :
    isValid (withPermitted c l) .leaf chain o = isValid c .leaf chain o := by
  unfold isValid
  have hk : (Kind.leaf != Kind.leaf) = false := by decide
  simp only [hk, Bool.false_and, Bool.false_eq_true, if_false]
  rfl

theorem isValid_leaf_no_name_refusal (c : Cert) (chain : List Cert) (o : Opts) :
    isValid c .leaf chain o ≠ some .notAuthorizedForName :=
  fun h => (isValid_nameRefusal h).1 rfl

/-- `Verify` never reports CANotAuthorizedForThisName about the verified certificate itself -/
theorem verify_never_leaf_name_refusal (roots inters : List Cert) (leaf : Cert) (o : Opts) :
    verify roots inters leaf o ≠ .leafInvalid .notAuthorizedForName := by
  rw [verify_eq]
  refine ite_ne_of_ne nofun ?_
  split
  · next r hr =>
    intro h
    cases h
    exact isValid_leaf_no_name_refusal leaf [] o hr
  · rw [verdict_eq]
    exact ite_ne_of_ne nofun (ite_ne_of_ne nofun (ite_ne_of_ne nofun nofun))

/-- what `buildChains` reads of the certificates already on the chain (identity, issuer name, AuthorityKeyId,
    signature) does not include their permitted DNS domains -/
theorem findVerifiedParents_withPermitted (pool : List Cert) (c : Cert) (l : List String) :
    findVerifiedParents pool (withPermitted c l) = findVerifiedParents pool c := rfl

theorem isValid_swapP (i : Cert) (kind : Kind) (l : List String) (x : Cert) (rest : List Cert) (o : Opts) :
    isValid i kind (withPermitted x l :: rest) o = isValid i kind (x :: rest) o := by
  cases rest with
  | nil => rfl
  | cons r rs =>
    unfold isValid
    simp only [List.getLast?_cons_cons, List.length_cons]

theorem any_id_swapP (l : List String) (x : Cert) (rest : List Cert) (r : Cert) :
    (withPermitted x l :: rest).any (·.id == r.id) = (x :: rest).any (·.id == r.id) := rfl

/-- the same chains (except for that field of the first certificate) with the same work -/
theorem buildChains_leaf_permitted (roots inters : List Cert) (o : Opts) (l : List String) (x : Cert)
    (fuel steps : Nat) (rest : List Cert) :
    buildChains roots inters o fuel steps (withPermitted x l :: rest) =
      Prod.map (List.map (swapP l)) id (buildChains roots inters o fuel steps (x :: rest)) := by
  refine buildChains_map id (swapP l) rfl ?_ ?_ ?_ fuel steps (x :: rest)
  · rintro (_ | ⟨x, t⟩) i hne
    · exact absurd rfl hne
    · rfl
  · -- the last certificate of both chains, and what is read of it
    rintro (_ | ⟨x, _ | ⟨r, rs⟩⟩) c hc
    · cases hc
    · cases hc
      exact ⟨withPermitted x l, rfl, (List.map_id _).symm, (List.map_id _).symm⟩
    · exact ⟨c, hc, (List.map_id _).symm, (List.map_id _).symm⟩
  · rintro kind (_ | ⟨x, t⟩) p
    · rfl
    · simp only [usable, swapP, any_id_swapP, isValid_swapP, id]

theorem map_ids_swapP (l : List String) (ch : List Cert) : (swapP l ch).map (·.id) = ch.map (·.id) := by
  cases ch <;> rfl

theorem checkChainForKeyUsage_swapP (l : List String) (ch : List Cert) (us : List Nat) :
    checkChainForKeyUsage (swapP l ch) us = checkChainForKeyUsage ch us := by
  cases ch with
  | nil => rfl
  | cons x t =>
    unfold checkChainForKeyUsage
    simp only [swapP, List.isEmpty_cons, List.reverse_cons, List.foldl_append, List.foldl_cons, List.foldl_nil]
    rfl

/-- C10, the repaired behaviour: `Verify` gives the same verdict - the same chains (as certificate identities) or the
    same error class - whatever permitted DNS domains `l` the verified certificate itself carries.  Its own name
    constraints speak about what it may issue, not about itself.
    False as found (`ex_leaf_own_constraints_accepted` below was refused). -/
theorem verify_leaf_permitted_irrelevant (roots inters : List Cert) (leaf : Cert) (o : Opts) (l : List String) :
    verify roots inters (withPermitted leaf l) o = verify roots inters leaf o := by
  refine verify_map (swapP l) rfl (isValid_leaf_permitted_irrelevant leaf l [] o) rfl rfl rfl
    (buildChains_leaf_permitted roots inters o l leaf _ _ []) (funext fun ch => ?_) (map_ids_swapP l)
  simp only [Function.comp, usageOK, checkChainForKeyUsage_swapP]

/-- with permitted domains `l` the verdict is the one with none -/
theorem verify_leaf_permitted_nil (roots inters : List Cert) (leaf : Cert) (o : Opts) (l : List String) :
    verify roots inters { leaf with permitted := l } o = verify roots inters { leaf with permitted := [] } o := by
  have h1 := verify_leaf_permitted_irrelevant roots inters leaf o l
  have h2 := verify_leaf_permitted_irrelevant roots inters leaf o []
  unfold withPermitted at h1 h2
  rw [h1, h2]

/-- root R (no constraints) ← L (SAN foo.org, itself a CA, permitted DNS domains: example.com) -/
def ownRoot : Cert := exRoot
def ownLeaf : Cert := { exLeaf with iss := 10, signer := 10, bcValid := true, isCA := true, keyUsage := 0,
                                    dns := ["foo.org"], permitted := ["example.com"] }
def fooOpts : Opts := ⟨0, "foo.org", false, "", []⟩

/-- the leaf's own permitted domains do not cover the requested name … -/
example : permittedOK ownLeaf fooOpts = false := by decide +kernel
/-- … and `isValid` of the verified certificate passes all the same (as found: `some .notAuthorizedForName`) -/
example : isValid ownLeaf .leaf [] fooOpts = none := by decide +kernel
/-- the same certificate in the position of an ISSUER is still refused for that name: nothing is widened there -/
example : isValid ownLeaf .intermediate [] fooOpts = some .notAuthorizedForName := by decide +kernel
example : isValid ownLeaf .root [] fooOpts = some .notAuthorizedForName := by decide +kernel

example : verify [ownRoot] [] ownLeaf fooOpts = verify [ownRoot] [] { ownLeaf with permitted := [] } fooOpts :=
  verify_leaf_permitted_nil [ownRoot] [] ownLeaf fooOpts ["example.com"]

/- end to end on the compiled model (`String.splitOn` in `matchHostnames` does not reduce in the kernel; the same
   evaluations are compared with the real `Verify` by the `chain` ops of harness/c10leafnc.go) -/
/-- The leaf is accepted with the chain L, R (refused as found).  Kernel-checked except for the host-name match of
    the leaf, `foo.org` against its SAN `foo.org`, which is the hypothesis `hh`; it and the whole verdict are
    evaluated by the `#guard`s. -/
theorem ex_leaf_own_constraints_accepted (hh : verifyHostname ownLeaf fooOpts = true) :
    verify [ownRoot] [] ownLeaf fooOpts = .ok [[3, 1]] :=
  verify_ok_iff.mpr
    ⟨by decide, by decide +kernel, fun _ => hh, by decide +kernel, by decide +kernel⟩
#guard verifyHostname ownLeaf fooOpts
#guard (match verify [ownRoot] [] ownLeaf fooOpts with | .ok cs => cs == [[3, 1]] | _ => false)
#guard (match verify [ownRoot] [] { ownLeaf with permitted := [] } fooOpts with | .ok cs => cs == [[3, 1]] | _ => false)
-- upper case / trailing dot; the leaf also in the root pool; under an intermediate
#guard (match verify [ownRoot] [] ownLeaf ⟨0, "FOO.org.", false, "", []⟩ with | .ok cs => cs == [[3, 1]] | _ => false)
#guard (match verify [ownRoot, ownLeaf] [] ownLeaf fooOpts with | .ok cs => cs == [[3]] | _ => false)
#guard (match verify [exRoot] [exInt] { ownLeaf with iss := 20, signer := 20 } fooOpts with | .ok cs => cs == [[3, 2, 1]] | _ => false)
-- an ISSUER whose permitted domains do not cover the name still blocks the path; one that covers it does not
#guard (match verify [exRoot] [{ exInt with permitted := ["example.com"] }] { ownLeaf with iss := 20, signer := 20 } fooOpts with
  | .noChain => true | _ => false)
#guard (match verify [exRoot] [{ exInt with permitted := ["foo.org"] }] { ownLeaf with iss := 20, signer := 20 } fooOpts with
  | .ok cs => cs == [[3, 2, 1]] | _ => false)
-- and the host name still has to match the leaf
#guard (match verify [ownRoot] [] ownLeaf ⟨0, "example.com", false, "", []⟩ with | .hostname => true | _ => false)

end Props.C10
