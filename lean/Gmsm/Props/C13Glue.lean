/-
C13 (glue) — the byte-level glue of sm2/sm2.go around the curve operations is GM/T 0003's.

`Model.KexGlue` transcribes `intToBytes`, `BytesCombine`, `kdf`, `ZA`, `msgHash`, `Sm3Digest`, the
`to32` closure and the assembly of k / hash / S1 / S2 inside `keyExchange` over the SM3 hash object
(`Model.SM3`).  Here they are shown equal to the functions of `Spec.SM2` (`kdf`, `za`, `msgE`, the tail of
`kex`): `kdf_eq`, `msgHash_eq` for all inputs; `za_eq`, `sm3Digest_eq`, `glue_eq` for identities shorter
than 8192 bytes (`za_err` otherwise) and coordinates below 2^256.
The only facts about SM3 used are the streaming laws (`Proofs.SM3.inv_write`, `finish_eq_hash`,
`Props.C04.sm3Sum_spec`, `hash_length`).
-/
import Gmsm.Model.KexGlue
import Gmsm.Spec.SM2
import Gmsm.Proofs.BytesNat
import Gmsm.Props.C04
import Gmsm.Proofs.SM3Eval
import Gmsm.Props.C02
namespace Props.C13Glue
open Gmsm Model.SM3 Model.KexGlue
open Proofs.SM3 (inv_write sum_nil)

/-- `intToBytes(x)` (`PutUint32(buf, uint32(x))`) is the 4-byte big-endian counter of the standard,
    for every x (both reduce modulo 2^32). -/
theorem intToBytes_eq (x : Nat) : intToBytes x = i2ospR 4 x := by
  have e : x >>> 24 = x / 256 / 256 / 256 ∧ x >>> 16 = x / 256 / 256 ∧ x >>> 8 = x / 256 := by
    simp [Nat.shiftRight_eq_div_pow, Nat.div_div_eq_div_mul]
  rw [intToBytes, Proofs.SM3.w32bytes_ofNat, e.1, e.2.1, e.2.2]
  rfl

/-- `ZA`'s two ENTL bytes `byte((Entla>>8)&0xFF)`, `byte(Entla&0xFF)` with `Entla = uint16(8*uidLen)`
    are the 2-byte big-endian encoding of the bit length (both sides reduce modulo 2^16; below 8192 bytes,
    the only lengths `ZA` accepts, nothing wraps: 8·8191 = 65528). -/
theorem entl_eq (n : Nat) :
    [(((BitVec.ofNat 16 (8 * n)) >>> 8) &&& 0xFF).setWidth 8, ((BitVec.ofNat 16 (8 * n)) &&& 0xFF).setWidth 8]
      = i2ospR 2 (8 * n) := by
  simp only [i2ospR, List.nil_append, List.cons_append]
  have e : (255 : Nat) = 2 ^ 8 - 1 := rfl
  congr 1
  · apply BitVec.eq_of_toNat_eq
    simp [BitVec.toNat_and, Nat.shiftRight_eq_div_pow]
    rw [e, Nat.and_two_pow_sub_one_eq_mod]; omega
  congr 1
  · apply BitVec.eq_of_toNat_eq
    simp [BitVec.toNat_and]
    rw [e, Nat.and_two_pow_sub_one_eq_mod]; omega

/-- the 16-bit wrap that the `uidLen >= 8192` test excludes: at 8192 the ENTL bytes would be 00 00 -/
example : (BitVec.ofNat 16 (8 * 8192)) = 0 := by decide

theorem bytesCombine_eq (ps : List Bytes) : bytesCombine ps = ps.flatten := by
  induction ps with
  | nil => rfl
  | cons p ps ih => simp [bytesCombine, List.flatten_cons] at ih ⊢; rw [ih]

/-- `v.Bytes()` left-padded with `zeroByteSlice()[:32-n]` (in `ZA` and `to32`) is the 32-byte field
    element encoding for every v < 2^256. -/
theorem to32_eq (v : Nat) (h : v < 2 ^ 256) : to32 v = Spec.SM2.b32 v := by
  have h : v < 256 ^ 32 := Nat.lt_of_lt_of_eq h (by decide)
  have hl : (natBytes v).length ≤ 32 := natBytes_length_le _ 32 h
  have hp : pad32 (natBytes v) = List.replicate (32 - (natBytes v).length) (0 : Byte) ++ natBytes v := by
    unfold pad32 zeroByteSlice
    split
    · rw [List.take_replicate, Nat.min_eq_left (by omega)]
    · have : 32 - (natBytes v).length = 0 := by omega
      rw [this]; rfl
  unfold to32 Spec.SM2.b32
  rw [hp]
  exact eq_of_os2ip_eq _ _ (by rw [List.length_append, List.length_replicate, i2ospR_length]; omega)
    (by rw [os2ip_replicate_zero_append, os2ip_natBytes, os2ip_i2ospR_of_lt 32 v h])

/-- the minimal encodings `a.Bytes()`, `B.Bytes()`, `Gx.Bytes()`, `Gy.Bytes()` that `ZA` writes WITHOUT
    padding are exactly the 32-byte encodings of the standard's a, b, xG, yG. -/
theorem params_bytes :
    natBytes Gen.SM2.paramA = Spec.SM2.b32 Spec.SM2.a ∧ natBytes Gen.SM2.paramB = Spec.SM2.b32 Spec.SM2.b ∧
    natBytes Gen.SM2.paramGx = Spec.SM2.b32 Spec.SM2.gx ∧ natBytes Gen.SM2.paramGy = Spec.SM2.b32 Spec.SM2.gy := by
  decide +kernel

theorem take32_hash (m : Bytes) : (Spec.SM3.hash m).take 32 = Spec.SM3.hash m :=
  List.take_of_length_le (Nat.le_of_eq (Props.C04.hash_length m))

def blk (z : Bytes) (i : Nat) : Bytes := Spec.SM3.hash (z ++ i2ospR 4 (i + 1))
def blks (z : Bytes) (k : Nat) : Bytes := (List.range k).flatMap (blk z)

theorem blks_succ (z : Bytes) (k : Nat) : blks z (k + 1) = blks z k ++ blk z k := by
  simp [blks, List.range_succ, List.flatMap_append]

theorem blks_length (z : Bytes) (k : Nat) : (blks z k).length = k * 32 :=
  Proofs.SM3.length_flatMap_range _ 32 (fun _ => Props.C04.hash_length _) k

theorem spec_kdf_eq (z : Bytes) (klen : Nat) : Spec.SM2.kdf z klen = (blks z ((klen + 31) / 32)).take klen := rfl

/-- one pass of the loop body: Reset, Write every part, Write the counter, Sum(nil) -/
theorem block_hash (x : List Bytes) (ct : Nat) :
    finish (write (x.foldl write init) (intToBytes ct)) = Spec.SM3.hash (x.flatten ++ i2ospR 4 ct) := by
  have := Proofs.SM3.finish_foldl_write (x ++ [intToBytes ct])
  rw [List.foldl_append, List.flatten_append, List.flatten_singleton] at this
  rw [← intToBytes_eq]; exact this

/-- loop invariant: with `i` passes done and `n` to go, `c` holds the first `i` blocks, cut to `length`
    (which only bites after the last pass) -/
theorem kdfLoop_spec (length j : Nat) (x : List Bytes) (hlo : 32 * j < length + 32) (hhi : length ≤ 32 * j)
    (n : Nat) :
    ∀ (i : Nat) (h : State), i + n = j →
      kdfLoop length j x n (i + 1) h ((blks x.flatten i).take length) = (blks x.flatten j).take length := by
  induction n with
  | zero => intro i h hj; rw [← hj]; rfl
  | succ n ih =>
    intro i h hj
    have hi : j - (n + 1) = i := by omega
    have hlen := blks_length x.flatten i
    have hb : (blk x.flatten i).length = 32 := Props.C04.hash_length _
    have hle : (blks x.flatten i).length ≤ length := by omega
    -- whether or not this is the last, cut pass, `length - 32 i` bytes of the block are wanted
    have ht : (if i + 1 = j ∧ length % 32 ≠ 0 then blks x.flatten i ++ (blk x.flatten i).take (length % 32)
        else blks x.flatten i ++ blk x.flatten i) = (blks x.flatten (i + 1)).take length := by
      rw [blks_succ, List.take_append, List.take_of_length_le hle, hlen]
      split
      · rw [show length - i * 32 = length % 32 by omega]
      · rw [List.take_of_length_le (by omega)]
    rw [kdfLoop]
    simp only [sum_nil, block_hash, hi]
    rw [List.take_of_length_le hle]
    exact ht ▸ ih (i + 1) _ (by omega)

theorem kdfLoop_eq (length : Nat) (x : List Bytes) :
    kdfLoop length ((length + 31) / 32) x ((length + 31) / 32) 1 init [] = Spec.SM2.kdf x.flatten length := by
  have := kdfLoop_spec length ((length + 31) / 32) x (by omega) (by omega) _ 0 init (Nat.zero_add _)
  rwa [show blks x.flatten 0 = [] from rfl, List.take_nil, ← spec_kdf_eq] at this

theorem scan_eq (n : Nat) (c : Bytes) (h : n ≤ c.length) :
    scanNonZero n c = some ((c.take n).any (· != 0)) := by
  induction n generalizing c with
  | zero => simp [scanNonZero]
  | succ n ih =>
    cases c with
    | nil => simp at h
    | cons b t =>
      simp only [scanNonZero, List.take_succ_cons, List.any_cons]
      by_cases hb : b = 0
      · subst hb; simp [ih t (by simpa using h)]
      · have hb2 : (b != 0) = true := by simpa using hb
        rw [if_pos hb, hb2]; rfl

/-- `kdf(length, x...)`: for every list of parts and every length the loop over the hash object (Reset,
    Write each part, Write the 4-byte counter from 1, Sum, the last block cut to `length % 32` bytes when
    that is non-zero) returns the standard's KDF(x₁‖…‖xₙ, length), and the boolean is "some byte of the
    key is non-zero"; the final scan `c[i]` never indexes past `c`. -/
theorem kdf_eq (length : Nat) (x : List Bytes) :
    kdf length x = some (Spec.SM2.kdf x.flatten length, (Spec.SM2.kdf x.flatten length).any (· != 0)) := by
  unfold kdf
  simp only [kdfLoop_eq]
  rw [scan_eq _ _ (by rw [Props.C02.kdf_length]; exact Nat.le_refl _)]
  rw [List.take_of_length_le (by rw [Props.C02.kdf_length]; exact Nat.le_refl _)]
  rfl

/-- the flag is the negation of the "all zero" test of GM/T 0003.4 step A5 as `Spec.SM2.encryptWith` states it -/
theorem kdf_flag (length : Nat) (x : List Bytes) :
    (kdf length x).map (·.2) = some (!(Spec.SM2.kdf x.flatten length).all (· == 0)) := by
  rw [kdf_eq, Option.map_some, List.not_all_eq_any_not]
  rfl

/-- length = 0: no iteration, `c` stays nil, the flag is false (the caller `Encrypt` then retries
    forever on an empty message — `Props.C02.encrypt_empty_none`). -/
theorem kdf_zero (x : List Bytes) : kdf 0 x = some ([], false) := by
  rw [kdf_eq]; rfl

/-- `if uidLen > 0 { za.Write(uid) }`: skipping the write of an empty slice changes nothing -/
theorem inv_write_nonempty {s : State} {M : Bytes} (h : Proofs.SM3.Inv s M) (p : Bytes) :
    Proofs.SM3.Inv (if p.length > 0 then write s p else s) (M ++ p) := by
  split
  · exact inv_write h p
  · rw [List.eq_nil_of_length_eq_zero (by omega : p.length = 0), List.append_nil]; exact h

/-- `ZA(pub, uid)`, uid shorter than 8192 bytes, coordinates below 2^256: the eight or nine `Write`s
    (ENTL as two bytes, uid unless empty, the unpadded `Bytes()` of a, b, Gx, Gy, X and Y left-padded
    to 32) and `Sum(nil)[:32]` give Z_A of GM/T 0003.2 §5.5. -/
theorem za_eq (uid : Bytes) (x y : Nat) (hu : uid.length < 8192) (hx : x < 2 ^ 256) (hy : y < 2 ^ 256) :
    za x y uid = .ok (Spec.SM2.za uid x y) := by
  obtain ⟨pa, pb, pgx, pgy⟩ := params_bytes
  have hxb := to32_eq x hx
  have hyb := to32_eq y hy
  unfold to32 at hxb hyb
  have I := inv_write (Proofs.SM3.inv_init_write [(((BitVec.ofNat 16 (8 * uid.length)) >>> 8) &&& 0xFF).setWidth 8])
    [((BitVec.ofNat 16 (8 * uid.length)) &&& 0xFF).setWidth 8]
  have I := inv_write (inv_write (inv_write (inv_write (inv_write (inv_write (inv_write_nonempty I uid)
    (natBytes Gen.SM2.paramA)) (natBytes Gen.SM2.paramB)) (natBytes Gen.SM2.paramGx)) (natBytes Gen.SM2.paramGy))
    (pad32 (natBytes x))) (pad32 (natBytes y))
  unfold za
  rw [if_neg (by omega)]
  simp only [sum_nil, Proofs.SM3.finish_eq_hash I]
  rw [take32_hash, List.singleton_append, entl_eq uid.length, pa, pb, pgx, pgy, hxb, hyb,
    Spec.SM2.za]

/-- `ZA` refuses a uid of 8192 bytes or more (whose bit length does not fit ENTL's 16 bits) -/
theorem za_err (uid : Bytes) (x y : Nat) (hu : uid.length ≥ 8192) :
    za x y uid = .error "SM2: uid too large" := by
  unfold za; rw [if_pos hu]

/-- `msgHash(za, msg)`: two `Write`s and `SetBytes(Sum(nil)[:32])` = the integer of SM3(za ‖ msg) -/
theorem msgHash_hash (z msg : Bytes) : msgHash z msg = os2ip (Spec.SM3.hash (z ++ msg)) := by
  have I := inv_write (Proofs.SM3.inv_init_write z) msg
  unfold msgHash
  simp only [sum_nil, Proofs.SM3.finish_eq_hash I]
  rw [take32_hash]

/-- `msgHash(ZA(pub, uid), msg)` = e = Hv(Z_A ‖ M) of GM/T 0003.2 -/
theorem msgHash_eq (uid msg : Bytes) (x y : Nat) :
    msgHash (Spec.SM2.za uid x y) msg = Spec.SM2.msgE uid x y msg := msgHash_hash _ _

/-- `pub.Sm3Digest(msg, uid)`: the default uid replaces an empty one, and the result is the minimal
    big-endian encoding `e.Bytes()` of the standard's e (so it may be shorter than 32 bytes). -/
theorem sm3Digest_eq (uid msg : Bytes) (x y : Nat) (hu : uid.length < 8192) (hx : x < 2 ^ 256) (hy : y < 2 ^ 256) :
    sm3Digest x y msg uid
      = .ok (natBytes (Spec.SM2.msgE (if uid.length = 0 then Spec.SM2.defaultUid else uid) x y msg)) := by
  unfold sm3Digest
  have hu2 : (if uid.length = 0 then defaultUid else uid).length < 8192 := by
    split
    · decide
    · exact hu
  simp only [za_eq _ x y hu2 hx hy, msgHash_eq]
  rfl

theorem sm3Digest_os2ip (uid msg : Bytes) (x y : Nat) (hu : uid.length < 8192) (hx : x < 2 ^ 256) (hy : y < 2 ^ 256) :
    (sm3Digest x y msg uid).toOption.map os2ip
      = some (Spec.SM2.msgE (if uid.length = 0 then Spec.SM2.defaultUid else uid) x y msg) := by
  rw [sm3Digest_eq uid msg x y hu hx hy]
  simp [Except.toOption, os2ip_natBytes]

/-- the part of `Spec.SM2.kex` after the shared point V = (vx, vy) has been computed -/
def kexTail (klen : Nat) (ida idb : Bytes) (pa pb ra rb : Nat × Nat) (vx vy : Nat) : Option Spec.SM2.KexOut :=
  if vx = 0 ∧ vy = 0 then none else
  let zA := Spec.SM2.za ida pa.1 pa.2
  let zB := Spec.SM2.za idb pb.1 pb.2
  let k := Spec.SM2.kdf (Spec.SM2.b32 vx ++ Spec.SM2.b32 vy ++ zA ++ zB) klen
  let h := Spec.SM3.hash (Spec.SM2.b32 vx ++ zA ++ zB ++ Spec.SM2.b32 ra.1 ++ Spec.SM2.b32 ra.2 ++ Spec.SM2.b32 rb.1 ++ Spec.SM2.b32 rb.2)
  some ⟨k, Spec.SM3.hash (0x02 :: (Spec.SM2.b32 vy ++ h)), Spec.SM3.hash (0x03 :: (Spec.SM2.b32 vy ++ h))⟩

open Spec.SM2 in
/-- `kexTail` IS that part of the specification (definitional unfolding of `Spec.SM2.kex`). -/
theorem kex_tail (klen : Nat) (ida idb : Bytes) (dSelf rSelf : Nat) (peer peerEph pa pb ra rb : Nat × Nat) :
    kex klen ida idb dSelf rSelf peer peerEph pa pb ra rb =
      if !(decide (peerEph.1 < p) && decide (peerEph.2 < p)) then none
      else if !onCurve peerEph.1 peerEph.2 then none
      else match smul ((dSelf + xbar (enc (smul rSelf G)).1 * rSelf) % n)
                 (padd (dec peer.1 peer.2) (smul (xbar peerEph.1) (dec peerEph.1 peerEph.2))) with
           | none => none
           | some (vx, vy) => kexTail klen ida idb pa pb ra rb vx vy := by
  unfold kex kexTail
  rfl

/-- who is A: `pza`/`pzb` and `ra`/`rb` of `keyExchange` in protocol order -/
def protoOrder (thisIsA : Bool) (own peer : Nat × Nat) : (Nat × Nat) × (Nat × Nat) :=
  if thisIsA then (own, peer) else (peer, own)

/-- `glue_eq` for party A; B's call is A's with own and peer exchanged (`glue_roles_agree`) -/
theorem glue_eq_A (klen : Nat) (ida idb : Bytes) (pa pb ra rb v : Nat × Nat)
    (ha : ida.length < 8192) (hb : idb.length < 8192)
    (hpa : pa.1 < 2 ^ 256 ∧ pa.2 < 2 ^ 256) (hpb : pb.1 < 2 ^ 256 ∧ pb.2 < 2 ^ 256)
    (hra : ra.1 < 2 ^ 256 ∧ ra.2 < 2 ^ 256) (hrb : rb.1 < 2 ^ 256 ∧ rb.2 < 2 ^ 256)
    (hv : v.1 < 2 ^ 256 ∧ v.2 < 2 ^ 256) :
    glue klen ida idb true pa pb ra rb v =
      match kexTail klen ida idb pa pb ra rb v.1 v.2 with
      | some o => .ok (o.k, o.s1, o.s2)
      | none => .error "V is infinite" := by
  unfold glue kexTail
  simp only [if_true, Bool.not_true, Bool.false_eq_true, if_false]
  rw [za_eq ida pa.1 pa.2 ha hpa.1 hpa.2]
  simp only []
  by_cases hz : v.1 = 0 ∧ v.2 = 0
  · rw [if_pos hz, if_pos hz]
  · rw [if_neg hz, if_neg hz, za_eq idb pb.1 pb.2 hb hpb.1 hpb.2]
    simp only [kdf_eq, bytesCombine_eq, Props.C04.sm3Sum_spec, to32_eq _ hv.1, to32_eq _ hv.2,
      to32_eq _ hra.1, to32_eq _ hra.2, to32_eq _ hrb.1, to32_eq _ hrb.2]
    simp [List.flatten_cons, List.append_assoc]

/-- `keyExchange` after the shared point: for either role the Go assembly (ZA of A's key with ida — the "V is infinite" test — ZA
    of B's key with idb, `to32` of vx, vy and the four ephemeral coordinates, `kdf(klen, vx, vy, ZA, ZB)`,
    `hash = SM3(vx‖ZA‖ZB‖x1‖y1‖x2‖y2)`, `S1 = SM3(02‖vy‖hash)`, `S2 = SM3(03‖vy‖hash)`) is the tail of
    the specification's `kex` with the long-term and ephemeral points in protocol order. -/
theorem glue_eq (klen : Nat) (ida idb : Bytes) (thisIsA : Bool) (own peer ownEph peerEph v : Nat × Nat)
    (ha : ida.length < 8192) (hb : idb.length < 8192)
    (ho : own.1 < 2 ^ 256 ∧ own.2 < 2 ^ 256) (hp : peer.1 < 2 ^ 256 ∧ peer.2 < 2 ^ 256)
    (hoe : ownEph.1 < 2 ^ 256 ∧ ownEph.2 < 2 ^ 256) (hpe : peerEph.1 < 2 ^ 256 ∧ peerEph.2 < 2 ^ 256)
    (hv : v.1 < 2 ^ 256 ∧ v.2 < 2 ^ 256) :
    glue klen ida idb thisIsA own peer ownEph peerEph v =
      match kexTail klen ida idb (protoOrder thisIsA own peer).1 (protoOrder thisIsA own peer).2
              (protoOrder thisIsA ownEph peerEph).1 (protoOrder thisIsA ownEph peerEph).2 v.1 v.2 with
      | some o => .ok (o.k, o.s1, o.s2)
      | none => .error "V is infinite" := by
  cases thisIsA
  · exact glue_eq_A klen ida idb peer own peerEph ownEph v ha hb hp ho hpe hoe hv
  · exact glue_eq_A klen ida idb own peer ownEph peerEph v ha hb ho hp hoe hpe hv

/-- the errors of `keyExchange`'s glue and their order: ida too long (first `ZA`) comes before
    "V is infinite", which comes before idb too long (second `ZA`). -/
theorem glue_err_ida (klen : Nat) (ida idb : Bytes) (thisIsA : Bool) (own peer ownEph peerEph v : Nat × Nat)
    (ha : ida.length ≥ 8192) :
    glue klen ida idb thisIsA own peer ownEph peerEph v = .error "SM2: uid too large" := by
  unfold glue; simp only [za_err ida _ _ ha]

theorem glue_err_idb (klen : Nat) (ida idb : Bytes) (thisIsA : Bool) (own peer ownEph peerEph v : Nat × Nat)
    (ha : ida.length < 8192) (hb : idb.length ≥ 8192) (hv : ¬ (v.1 = 0 ∧ v.2 = 0))
    (ho : own.1 < 2 ^ 256 ∧ own.2 < 2 ^ 256) (hp : peer.1 < 2 ^ 256 ∧ peer.2 < 2 ^ 256) :
    glue klen ida idb thisIsA own peer ownEph peerEph v = .error "SM2: uid too large" := by
  have A : ∀ pa pb ra rb : Nat × Nat, pa.1 < 2 ^ 256 ∧ pa.2 < 2 ^ 256 →
      glue klen ida idb true pa pb ra rb v = .error "SM2: uid too large" := by
    intro pa pb ra rb hpa
    unfold glue
    simp only [if_true]
    rw [za_eq ida pa.1 pa.2 ha hpa.1 hpa.2]
    simp only [if_neg hv, za_err idb _ _ hb]
  cases thisIsA
  · exact A peer own peerEph ownEph hp
  · exact A own peer ownEph peerEph ho

/-- A's call (thisIsA = true, own = P_A, peer = P_B, own ephemeral R_A, peer's R_B) and B's call
    (thisIsA = false, own = P_B, …) return the same (k, S1, S2) — or the same error — from the same
    shared point.  (That the two shared points are equal is `Props.C13.shared_point_agree`.) -/
theorem glue_roles_agree (klen : Nat) (ida idb : Bytes) (pA pB rA rB v : Nat × Nat) :
    glue klen ida idb true pA pB rA rB v = glue klen ida idb false pB pA rB rA v := rfl

/-- a 33-byte key from two parts: two loop passes, the second cut to one byte -/
example : (kdf 33 [[1, 2], [3]]).map (fun r => (r.1.length, r.2)) = some (33, true) := by
  rw [kdf_eq, Option.map_some, Props.C02.kdf_length]
  simp only [Spec.SM2.kdf, Proofs.SM3.hash_eq_fast]
  decide +kernel
example : (za 1 2 (List.replicate 8192 0)).toOption = none := by
  rw [za_err _ _ _ (Nat.le_of_eq (List.length_replicate ..).symm)]; rfl
example : ((za 1 2 [0x31]).toOption.map List.length) = some 32 := by decide +kernel
/-- the hypotheses of `glue_eq` are satisfiable and its right-hand side is a `some` -/
example : (kexTail 16 [0x41] [0x42] (1, 2) (3, 4) (5, 6) (7, 8) 9 10).isSome = true := rfl
example : (match glue 1 [0x41] [0x42] true (1, 2) (3, 4) (5, 6) (7, 8) (9, 10) with
    | .ok (k, s1, s2) => k.length == 1 && s1.length == 32 && s2.length == 32 && s1 != s2
    | .error _ => false) = true := by
  -- after `glue_eq_A` only S1 ≠ S2 needs digests, and those are evaluated on the specification side
  rw [glue_eq_A 1 [0x41] [0x42] (1, 2) (3, 4) (5, 6) (7, 8) (9, 10) (by decide) (by decide) (by decide) (by decide)
    (by decide) (by decide) (by decide), kexTail, if_neg (by decide)]
  simp only [Props.C02.kdf_length, Spec.SM2.za, Proofs.SM3.hash_eq_fast]
  decide +kernel

end Props.C13Glue
