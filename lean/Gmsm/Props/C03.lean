/-
C03 — The SM2 curve object implements the group law; generated keys lie on it.

This file: the parameter facts (regenerated from sm2/p256.go on every run), primality of p and n
(Pratt certificates, `Gmsm/Proofs/SM2Prime.lean`), G on the curve and of order n, the comb table in the
source decoded from Montgomery limbs equals the multiples of G it is meant to hold, and the key
generation range.  [n]G and the table are evaluated in Jacobian coordinates with the model's point
operations, proved to be the group law in `Gmsm/Proofs/SM2JacobianLaw.lean`.  The scalar-multiplication
algorithms are in `Props/C03Alg.lean`.
-/
import Gmsm.Spec.SM2
import Gmsm.Gen.SM2Params
import Gmsm.Proofs.SM2Prime
import Gmsm.Proofs.SM2JacobianLaw
namespace Props.C03
open Spec.SM2 Proofs.SM2Affine Proofs.SM2Jacobian

/-- the constants in `initP256Sm2` are the GM/T 0003.5 recommended parameters -/
theorem params_eq_std :
    Gen.SM2.paramP = p ∧ Gen.SM2.paramA = a ∧ Gen.SM2.paramB = b ∧ Gen.SM2.paramN = n ∧
    Gen.SM2.paramGx = gx ∧ Gen.SM2.paramGy = gy := by decide +kernel

/-- the Montgomery constant: RInverse · 2^257 ≡ 1 (mod p) -/
theorem rinverse_ok : Gen.SM2.paramRInverse * 2 ^ 257 % p = 1 := by decide +kernel

theorem p_prime : Nat.Prime p := Proofs.SM2Prime.p_prime
theorem n_prime : Nat.Prime n := Proofs.SM2Prime.n_prime

/-- a = −3 (mod p): the doubling formula may use the a = −3 shortcut or the general one -/
theorem a_eq_neg3 : (a + 3) % p = 0 := by decide +kernel

theorem G_on_curve : onCurve gx gy = true := by decide +kernel
theorem nG_zero : smul n G = none := by
  -- n·G in Jacobian coordinates (no inversions) has Z = 0
  obtain ⟨v, e⟩ := fromAffine_valid (x := gx) (y := gy) valid_G
  have hz : (jmul n (Model.SM2Curve.fromAffine gx gy)).z.v = 0 := by decide +kernel
  apply smul_eq_none_of valid_G n_lt
  rw [show pt G = jpt (Model.SM2Curve.fromAffine gx gy) from e.symm, ← (jmul_correct v n_lt).2,
    jpt_of_z0 hz]
theorem G_ne_zero : smul 1 G = some (gx, gy) := by decide +kernel

/-- value of a 9-limb field element (limbs of 29, 28, 29, … bits), little endian -/
def limbsVal (l : List Nat) : Nat :=
  (l.zipIdx.map fun (v, i) => v * 2 ^ (29 * ((i + 1) / 2) + 28 * (i / 2))).sum

/-- affine coordinates stored at entry `idx` (1..15) of table `j` (0 or 1) of `sm2P256Precomputed`,
    converted out of Montgomery form -/
def tableEntry (j idx : Nat) : Nat × Nat :=
  let base := j * 270 + (idx - 1) * 18
  let limb (k : Nat) := (Gen.SM2.precomputed.toList.getD (base + k) 0).toNat
  let x := limbsVal ((List.range 9).map limb)
  let y := limbsVal ((List.range 9).map fun k => limb (9 + k))
  (x * Gen.SM2.paramRInverse % p, y * Gen.SM2.paramRInverse % p)

/-- the affine point held by the first 18 limbs of `L`, out of Montgomery form -/
def entryAt (L : List (BitVec 32)) : Nat × Nat :=
  let limb (k : Nat) := (L.getD k 0).toNat
  (limbsVal ((List.range 9).map limb) * Gen.SM2.paramRInverse % p,
   limbsVal ((List.range 9).map fun k => limb (9 + k)) * Gen.SM2.paramRInverse % p)

theorem tableEntry_eq (j idx : Nat) :
    tableEntry j idx = entryAt (Gen.SM2.precomputed.toList.drop (j * 270 + (idx - 1) * 18)) := by
  simp only [tableEntry, entryAt, List.getD_eq_getElem?_getD, List.getElem?_drop]

/-- the multiple of G an entry is meant to hold: bit i of `idx` selects 2^(64·i + 32·j) -/
def tableScalar (j idx : Nat) : Nat :=
  ((List.range 4).map fun i => (idx / 2 ^ i % 2) * 2 ^ (64 * i + 32 * j)).sum

theorem tableScalar_range : ∀ j : Fin 2, ∀ idx : Fin 15,
    0 < tableScalar j.val (idx.val + 1) ∧ tableScalar j.val (idx.val + 1) < n := by decide

/-- 2^(32·m)·G in Jacobian coordinates, each from the one before by 32 doublings -/
def pow32G : Nat → Model.SM2Curve.J
  | 0 => Model.SM2Curve.fromAffine gx gy
  | m + 1 => dbls 32 (pow32G m)

theorem pow32G_correct (m : Nat) : JValid (pow32G m) ∧ jpt (pow32G m) = 2 ^ (32 * m) • pt G := by
  induction m with
  | zero =>
    obtain ⟨v, e⟩ := fromAffine_valid (x := gx) (y := gy) valid_G
    exact ⟨v, by rw [Nat.mul_zero, pow_zero, one_nsmul]; exact e⟩
  | succ m ih =>
    obtain ⟨v, e⟩ := dbls_correct ih.1 32
    refine ⟨v, ?_⟩
    rw [pow32G, e, ih.2, Nat.mul_succ, pow_add, mul_nsmul,
      ← natCast_zsmul (2 ^ (32 * m) • pt G) (2 ^ 32), Nat.cast_pow, Nat.cast_ofNat]

/-- the first `r` terms of the sum `tableScalar j idx`, times G, by complete Jacobian additions -/
def jEntry (j idx : Nat) : Nat → Model.SM2Curve.J
  | 0 => Model.SM2Curve.inf
  | i + 1 =>
    if idx / 2 ^ i % 2 = 1 then Model.SM2Curve.pointAdd (jEntry j idx i) (pow32G (2 * i + j))
    else jEntry j idx i

theorem jEntry_correct (j idx r : Nat) : JValid (jEntry j idx r) ∧ jpt (jEntry j idx r) =
    ((List.range r).map fun i => (idx / 2 ^ i % 2) * 2 ^ (64 * i + 32 * j)).sum • pt G := by
  induction r with
  | zero => exact ⟨jvalid_inf, jpt_inf.trans (zero_nsmul _).symm⟩
  | succ i ih =>
    rw [List.range_succ, List.map_append, List.sum_append, List.map_singleton, List.sum_singleton,
      add_nsmul, jEntry]
    by_cases hb : idx / 2 ^ i % 2 = 1
    · obtain ⟨vp, ep⟩ := pow32G_correct (2 * i + j)
      obtain ⟨v, e⟩ := pointAdd_correct ih.1 vp
      rw [if_pos hb, hb, Nat.one_mul, e, ih.2, ep, show 32 * (2 * i + j) = 64 * i + 32 * j by omega]
      exact ⟨v, rfl⟩
    · rw [if_neg hb, show idx / 2 ^ i % 2 = 0 by omega, Nat.zero_mul, zero_nsmul, add_zero]
      exact ih

/-- all 30 entries of the comb table in the source are the affine coordinates of the
    multiples of G the comb needs.  Kernel-evaluated, without inversions: a chain of 224 Jacobian
    doublings of G (`pow32G`), each entry the sum of at most four of its members (`jEntry`), compared
    with the stored (x, y) by X = x·Z², Y = y·Z³. -/
theorem table_ok : ∀ j : Fin 2, ∀ idx : Fin 15,
    enc (smul (tableScalar j.val (idx.val + 1)) G) = tableEntry j.val (idx.val + 1) := by
  -- the table is walked once per entry (`drop`), not once per limb
  have key : ∀ j : Fin 2, ∀ idx : Fin 15,
      let A := jEntry j.val (idx.val + 1) 4
      let e := entryAt (Gen.SM2.precomputed.toList.drop (j.val * 270 + (idx.val + 1 - 1) * 18))
      A.z.v ≠ 0 ∧ A.x = ⟨e.1⟩ * (A.z * A.z) ∧ A.y = ⟨e.2⟩ * (A.z * A.z * A.z) := by
    decide +kernel
  intro j idx
  obtain ⟨hz, ex, ey⟩ := key j idx
  have hk := lt_of_lt_n (tableScalar_range j idx).2
  obtain ⟨v, e⟩ := jEntry_correct j.val (idx.val + 1) 4
  rw [tableEntry_eq, ← toAffine_eq_enc v (smul_valid valid_G hk) (by rw [e, pt_smul valid_G hk]; rfl)]
  exact toAffine_eq_of_cross v (Nat.mod_lt _ p_pos) (Nat.mod_lt _ p_pos) hz ex ey

/-- `GenerateKey` (sm2/sm2.go): the private key derived from 40 random bytes is in [1, n−2] -/
theorem keygen_range (r : Nat) : 1 ≤ r % (n - 2) + 1 ∧ r % (n - 2) + 1 ≤ n - 2 := by
  have : r % (n - 2) < n - 2 := Nat.mod_lt _ (by decide)
  omega

/-- `randFieldElement`: the signing / encryption nonce derived from 40 random bytes is in [1, n−1] -/
theorem nonce_range (r : Nat) : 1 ≤ r % (n - 1) + 1 ∧ r % (n - 1) + 1 ≤ n - 1 := by
  have : r % (n - 1) < n - 1 := Nat.mod_lt _ (by decide)
  omega

end Props.C03
