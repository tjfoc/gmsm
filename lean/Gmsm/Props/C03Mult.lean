/-
C03 (curve arithmetic, end to end) — the MODEL of the curve object of sm2/p256.go (`Gmsm.Model.SM2Curve`:
Jacobian coordinates over naturals mod p, `sm2P256PointAdd` with its special cases, the width-4 wNAF
window loop of `ScalarMult`, the comb of `ScalarBaseMult` over the table regenerated from the source)
computes the group law of the specification (`Spec.SM2.padd` / `smul`), which `Proofs.SM2Affine` proves to
be Mathlib's group of points of y² = x³ + a x + b over `ZMod p`.

This file states the results; proofs are in `Gmsm/Proofs/SM2JacobianLaw.lean` (point operations, `jpt`,
`JValid`), `Gmsm/Proofs/SM2Cubic.lean` (`cubic_no_root`) and `Gmsm/Proofs/SM2Jacobian.lean` (group order,
scalar multiplications).

`group_order : Nat.card W.Point = n` (so every point other than O has order n): n | #E because G has
order n, #E ≤ 2p + 1 < 3n, and #E ≠ 2n because x³ + a x + b has no root mod p (`cubic_no_root`, by a
verified square-and-multiply computation of x^p modulo the cubic and elimination).
-/
import Gmsm.Proofs.SM2Jacobian

set_option exponentiation.threshold 700
namespace Props.C03Mult
open Spec.SM2 Model.SM2Curve Model.SM2Jac Proofs.SM2Affine Proofs.SM2Jacobian

theorem jvalid_def (A : J) : JValid A ↔
    (A.x.v < p ∧ A.y.v < p ∧ A.z.v < p) ∧
    (A.z.v ≠ 0 → (A.y.v ^ 2) % p = (A.x.v ^ 3 + a * A.x.v * A.z.v ^ 4 + b * A.z.v ^ 6) % p) := Iff.rfl

theorem jpt_inf_of_z0 {A : J} (h : A.z.v = 0) : jpt A = 0 := jpt_of_z0 h

theorem jpt_affine {A : J} (hA : JValid A) (hz : A.z.v ≠ 0) :
    ∃ h : W.Nonsingular ((A.x.v : F) / (A.z.v : F) ^ 2) ((A.y.v : F) / (A.z.v : F) ^ 3),
      jpt A = WeierstrassCurve.Affine.Point.some _ _ h := by
  have hz' := (mapJ_z_ne hA.red).mpr hz
  exact ⟨hA.on hz', jp_some hz' (hA.on hz')⟩

/-- `sm2P256PointAdd` (as repaired in the Go code; the model mirrors its case analysis): for ALL pairs
    of valid inputs — either at infinity, A = B (↦ doubling), A = −B (↦ Z = 0), generic — the result is
    valid and stands for the sum in the group. -/
theorem pointAdd_correct {A B : J} (hA : JValid A) (hB : JValid B) :
    JValid (pointAdd A B) ∧ jpt (pointAdd A B) = jpt A + jpt B :=
  Proofs.SM2Jacobian.pointAdd_correct hA hB

/-- `sm2P256PointDouble`: all valid inputs (infinity and Y = 0 included) -/
theorem double_correct_J {A : J} (hA : JValid A) :
    JValid (double fa A) ∧ jpt (double fa A) = jpt A + jpt A :=
  Proofs.SM2Jacobian.double_correct_J hA

/-- `sm2P256PointSub` -/
theorem pointSub_correct {A B : J} (hA : JValid A) (hB : JValid B) :
    JValid (pointSub A B) ∧ jpt (pointSub A B) = jpt A - jpt B :=
  Proofs.SM2Jacobian.pointSub_correct hA hB

/-- `sm2P256ToAffine`: the returned pair is the library encoding ((0,0) for infinity) of the valid spec
    point `jspec A`, whose group element is `jpt A` -/
theorem toAffine_correct {A : J} (hA : JValid A) :
    Valid (jspec A) ∧ pt (jspec A) = jpt A ∧ toAffine A = enc (jspec A) :=
  Proofs.SM2Jacobian.toAffine_correct hA

theorem toAffine_eq_enc {A : J} {P : Pt} (hA : JValid A) (hP : Valid P) (h : jpt A = pt P) :
    toAffine A = enc P :=
  Proofs.SM2Jacobian.toAffine_eq_enc hA hP h

/-- the conversion at the API boundary ((0,0) is the point at infinity, `zForAffine`) -/
theorem fromAffine_valid {x y : Nat} (h : Valid (dec x y)) :
    JValid (fromAffine x y) ∧ jpt (fromAffine x y) = pt (dec x y) :=
  Proofs.SM2Jacobian.fromAffine_valid h

/-- `Curve.IsOnCurve(x, y)` (as repaired) accepts exactly the pairs of field elements that satisfy the
    spec's curve equation -/
theorem isOnCurve_iff (x y : Nat) : isOnCurve x y = true ↔ x < p ∧ y < p ∧ onCurve x y = true := by
  rw [isOnCurve_eq]
  simp [Bool.and_eq_true, and_assoc]

theorem isOnCurve_reduced (x y : Nat) (hx : x < p) (hy : y < p) : isOnCurve x y = onCurve x y := by
  rw [isOnCurve_eq]; simp [hx, hy]

/-- `Curve.Add`: every pair of valid inputs (on the curve with reduced coordinates, or (0,0)): the result
    is the encoding of the spec's `padd` — equal, opposite and infinite inputs included -/
theorem apiAdd_correct {x1 y1 x2 y2 : Nat} (h1 : Valid (dec x1 y1)) (h2 : Valid (dec x2 y2)) :
    apiAdd x1 y1 x2 y2 = enc (padd (dec x1 y1) (dec x2 y2)) :=
  Proofs.SM2Jacobian.apiAdd_correct h1 h2

/-- `Curve.Double` -/
theorem apiDouble_correct {x y : Nat} (h : Valid (dec x y)) :
    apiDouble x y = enc (padd (dec x y) (dec x y)) :=
  Proofs.SM2Jacobian.apiDouble_correct h

/-- x³ + a·x + b has no root modulo p: the curve has no point of order 2 -/
theorem cubic_no_root (r : F) : r ^ 3 + (a : F) * r + (b : F) ≠ 0 :=
  Proofs.SM2Jacobian.cubic_no_root r

theorem group_order : Nat.card W.Point = n := card_eq

theorem every_point_order_n (Q : W.Point) : n • Q = 0 ∧ (Q ≠ 0 → addOrderOf Q = n) :=
  ⟨n_nsmul Q, addOrderOf_eq_n⟩

theorem smul_n_eq_none {P : Pt} (hP : Valid P) : smul n P = none :=
  smul_eq_none_of hP n_lt (n_nsmul _)

/-- the dense wNAF digit array returned by `WNafReversed` represents the scalar, with digits |d| ≤ 7 -/
theorem wnafReversed_correct (k : Nat) :
    Props.C03Alg.msbVal (wnafReversed k) = k ∧ ∀ d ∈ wnafReversed k, d.natAbs ≤ 7 :=
  Proofs.SM2Jacobian.wnafReversed_correct k

/-- the window loop (table 1P..7P by `double`/`addMixed`, pending doublings, add/subtract a table entry
    with the complete `pointAdd`) computes (value of the digits)·P for every digit string with |d| ≤ 7 -/
theorem scalarMultDigits_correct {x y : Nat} (h : Valid (some (x, y))) (digits : List Int)
    (hd : ∀ d ∈ digits, d.natAbs ≤ 7) :
    JValid (scalarMultDigits x y digits) ∧
    jpt (scalarMultDigits x y digits) = Props.C03Alg.msbVal digits • pt (some (x, y)) :=
  Proofs.SM2Jacobian.scalarMultDigits_correct h digits hd

/-- `Curve.ScalarMult(x, y, k)`: for EVERY point (x, y) on the curve with reduced coordinates and EVERY
    scalar k (the code reduces it modulo n), the result is the encoding of the spec's [k mod n](x, y).
    No side condition on the point remains: the table construction by `addMixed` needs 2P, 4P, 6P ≠ O
    and 3P, 5P ≠ O, which holds because every point has order n (`group_order`). -/
theorem scalarMult_correct {x y : Nat} (hx : x < p) (hy : y < p) (hc : onCurve x y = true) (k : Nat) :
    apiScalarMult x y k = enc (smul (k % n) (some (x, y))) :=
  Proofs.SM2Jacobian.scalarMult_correct ⟨hx, hy, hc⟩ k

theorem scalarMult_correct_k {x y : Nat} (hx : x < p) (hy : y < p) (hc : onCurve x y = true)
    {k : Nat} (hk : k < 2 ^ 600) :
    apiScalarMult x y k = enc (smul k (some (x, y))) := by
  have hv : Valid (some (x, y)) := ⟨hx, hy, hc⟩
  rw [scalarMult_correct hx hy hc, smul_mod_n hv hk]

/-- the comb loop on a reduced scalar: a valid point standing for k·G.  The mixed addition used by the
    comb has no case for "accumulator = table point" or "accumulator at infinity after the first
    addition"; for k < n these never occur (`Proofs.SM2Jacobian.row_arith`: in each row the table point
    has a bit at a position where the accumulator's scalar has none, and all partial scalars are < n). -/
theorem scalarBaseMult_correct_J (k : Nat) (hk : k < n) :
    JValid (scalarBaseMult k) ∧ jpt (scalarBaseMult k) = k • pt G :=
  Proofs.SM2Jacobian.scalarBaseMult_correct_J k hk

/-- `Curve.ScalarBaseMult(k)`: for EVERY scalar k the result is the encoding of [k mod n]G -/
theorem scalarBaseMult_correct (k : Nat) : apiScalarBaseMult k = enc (smul (k % n) G) :=
  Proofs.SM2Jacobian.scalarBaseMult_correct k

theorem scalarBaseMult_correct_k {k : Nat} (hk : k < 2 ^ 600) : apiScalarBaseMult k = enc (smul k G) := by
  rw [scalarBaseMult_correct, Props.SM2Group.smul_mod_G hk]

theorem scalarBaseMult_eq_scalarMult (k : Nat) : apiScalarBaseMult k = apiScalarMult gx gy k := by
  rw [scalarBaseMult_correct, scalarMult_correct valid_G.1 valid_G.2.1 valid_G.2.2]; rfl

example : Valid (dec gx gy) := valid_G
example : apiScalarBaseMult 0 = (0, 0) := by rw [scalarBaseMult_correct]; rfl
example : apiScalarMult gx gy n = (0, 0) := by
  rw [scalarMult_correct valid_G.1 valid_G.2.1 valid_G.2.2, Nat.mod_self]; rfl
example : apiAdd gx gy gx gy = apiDouble gx gy := by
  have hG : Valid (dec gx gy) := valid_G
  rw [apiAdd_correct hG hG, apiDouble_correct hG]

end Props.C03Mult
