/-
C06 (continued; also C01) — key types in the certificate slots: impossible combinations fail on both sides with an
error, never with a crash, and an SM2 client certificate works in every TLS version.

Theorems about `Model.KeyType.verdict`, the decision model that `hskt` ops compare with real handshakes
(harness/c06keytype.go).  `repaired` is the code as it is, `original` the code before the three repairs:
  1. GMSSL client: a `GetClientCertificate` callback that returns an RSA certificate made the client panic
     (`key.Sign(rand, digest, nil)`); now every key that is not SM2 is refused with an error;
  2. GMSSL server: an RSA key in the signing slot (static {rsa, enc}, or static {sig, enc} plus a `GetCertificate`
     that serves the RSA certificate to a client sending SNI) made the server panic; now an error;
  3. TLS 1.0 / 1.1 client certificate with an SM2 key: signer and verifier disagreed on signature type and digest.
-/
import Gmsm.Model.KeyType
namespace Props.C06KeyType
open Model.KeyType

theorem afterChain_cases (vers : Nat) (p : Policy) (ch : Chain) (sign : KeyT → Outcome) :
    afterChain vers p ch sign = .ok vers 0 ∨ afterChain vers p ch sign = .fail ∨
      ∃ k, p.requests = true ∧ ch = .send (some k) ∧ afterChain vers p ch sign = sign k := by
  unfold afterChain
  cases p.requests
  · exact .inl rfl
  · match ch with
    | .error => exact .inr (.inl rfl)
    | .send none => cases p.requires <;> simp
    | .send (some k) => exact .inr (.inr ⟨k, rfl, rfl, rfl⟩)

theorem afterChain_ne_crash (vers : Nat) (p : Policy) (ch : Chain) (sign : KeyT → Outcome)
    (h : ∀ k, sign k ≠ .crash) : afterChain vers p ch sign ≠ .crash := by
  rcases afterChain_cases vers p ch sign with e | e | ⟨k, _, _, e⟩ <;> rw [e]
  · simp
  · simp
  · exact h k

theorem afterChain_congr (vers : Nat) (p : Policy) (ch : Chain) (sign sign' : KeyT → Outcome)
    (h : ∀ k, ch = .send (some k) → sign k = sign' k) : afterChain vers p ch sign = afterChain vers p ch sign' := by
  unfold afterChain
  match ch with
  | .error => rfl
  | .send none => rfl
  | .send (some k) => simp only [h k rfl]

theorem afterChain_version (x y : Nat) (p : Policy) (ch : Chain) :
    (∀ n, afterChain x p ch (fun _ => .ok x 1) = .ok x n ↔ afterChain y p ch (fun _ => .ok y 1) = .ok y n) ∧
    (afterChain x p ch (fun _ => .ok x 1) = .fail ↔ afterChain y p ch (fun _ => .ok y 1) = .fail) ∧
    (∀ u n, afterChain x p ch (fun _ => .ok x 1) = .ok u n → u = x) := by
  unfold afterChain
  cases p.requests
  · simp
  · match ch with
    | .error => simp
    | .send none => cases p.requires <;> simp
    | .send (some k) => simp

theorem signNilOpts_guarded (k : KeyT) : signNilOpts true k ≠ .crash := by
  cases k <;> decide

theorem gmCore_of_not_sm2 (f : Fixes) (sg en : KeyT) (cc : CCert) (p : Policy) (h : ¬ (sg = .sm2 ∧ en = .sm2)) :
    gmCore f sg en cc p = if sg = .rsa ∧ f.serverGuard = false then .crash else .fail := by
  cases hg : f.serverGuard <;> cases sg <;> cases en <;> simp [gmCore, signNilOpts, hg] at h ⊢

theorem gmCore_sm2 (f : Fixes) (cc : CCert) (p : Policy) :
    gmCore f .sm2 .sm2 cc p = afterChain versionGMSSL p (clientChainGM cc) fun k =>
      match signNilOpts f.clientGuard k with
      | .crash => .crash
      | .refused => .fail
      | .signed => .ok versionGMSSL 1 := by
  unfold gmCore
  cases f.serverGuard <;> rfl

theorem gmCore_crash (f : Fixes) (sg en : KeyT) (cc : CCert) (p : Policy) (h : gmCore f sg en cc p = .crash) :
    f.serverGuard = false ∨ f.clientGuard = false := by
  by_cases hk : sg = .sm2 ∧ en = .sm2
  · obtain ⟨rfl, rfl⟩ := hk
    cases hc : f.clientGuard
    · exact .inr rfl
    · rw [gmCore_sm2, hc] at h
      refine absurd h (afterChain_ne_crash _ _ _ _ fun k => ?_)
      have := signNilOpts_guarded k
      cases hs : signNilOpts true k <;> simp_all
  · rw [gmCore_of_not_sm2 f sg en cc p hk] at h
    split at h
    · rename_i hs; exact .inl hs.2
    · cases h

theorem tlsCore_eq (f : Fixes) (k : KeyT) (v : Ver) (cc : CCert) (p : Policy) :
    tlsCore f k v cc p = if k = .sm2 then .fail else
      afterChain v.num p (clientChainTLS cc) fun k =>
        if pick f v (signerPub k) = pick f v (parsedPub k) then .ok v.num 1 else .fail := by
  cases k <;> rfl

theorem tlsCore_no_crash (f : Fixes) (k : KeyT) (v : Ver) (cc : CCert) (p : Policy) : tlsCore f k v cc p ≠ .crash := by
  rw [tlsCore_eq]
  split
  · simp
  · exact afterChain_ne_crash _ _ _ _ fun k' => by split <;> simp

theorem tlsPath_no_crash (f : Fixes) (s : Server) (v : Ver) (sni : Bool) (cc : CCert) (p : Policy) :
    tlsPath f s v sni cc p ≠ .crash := by
  unfold tlsPath
  cases getCertificate s (.tls v sni) with
  | none => simp
  | some k => exact tlsCore_no_crash f k v cc p

/-- A crash of the model is a crash of an unguarded `Sign(rand, digest, nil)`. -/
theorem crash_needs_missing_guard (f : Fixes) (s : Server) (c : Client) (cc : CCert) (p : Policy)
    (h : verdict f s c cc p = .crash) : f.serverGuard = false ∨ f.clientGuard = false := by
  have hgm : gmPath f s c cc p = .crash → f.serverGuard = false ∨ f.clientGuard = false := by
    unfold gmPath
    cases gmSlots s c with
    | none => simp
    | some se => exact gmCore_crash f se.1 se.2 cc p
  unfold verdict at h
  split at h
  · exact hgm h
  · cases h
  · cases h
  · exact absurd h (tlsPath_no_crash _ _ _ _ _ _)
  · exact hgm h
  · exact absurd h (tlsPath_no_crash _ _ _ _ _ _)

/-- False of the code before the repairs: for every server mode, every list of static certificates of every key
    type, every `GetCertificate` callback, every kind of client, every way of giving the client a certificate of
    every key type and every ClientAuth policy, the handshake either completes on both ends or fails on both ends
    with an error. -/
theorem never_crashes (s : Server) (c : Client) (cc : CCert) (p : Policy) :
    verdict repaired s c cc p ≠ .crash := by
  intro h
  have := crash_needs_missing_guard repaired s c cc p h
  simp [repaired] at this

theorem gmCore_original_crash (sg en : KeyT) (cc : CCert) (p : Policy) :
    gmCore original sg en cc p = .crash ↔
      (sg = .rsa ∨ (sg = .sm2 ∧ en = .sm2 ∧ p.requests = true ∧ cc = .cb .rsa)) := by
  by_cases hk : sg = .sm2 ∧ en = .sm2
  · obtain ⟨rfl, rfl⟩ := hk
    cases p <;> cases cc <;> (try rename_i k; cases k) <;> decide
  · rw [gmCore_of_not_sm2 original sg en cc p hk]
    cases sg <;> simp [original] at hk ⊢
    exact fun h => absurd h hk

/-- The defects as found: the model of the code before the repairs crashes exactly when the GMSSL handshake is run
    and the signing slot holds an RSA key (defect 2), or both slots hold SM2 keys, the server asks for a certificate
    and the client's `GetClientCertificate` returns one with an RSA key (defect 1). -/
theorem original_crashes_iff (s : Server) (c : Client) (cc : CCert) (p : Policy) :
    verdict original s c cc p = .crash ↔
      (s.mode ≠ .tls ∧ c.isGM = true ∧
        ∃ sg en, gmSlots s c = some (sg, en) ∧
          (sg = .rsa ∨ (sg = .sm2 ∧ en = .sm2 ∧ p.requests = true ∧ cc = .cb .rsa))) := by
  have hgm : gmPath original s c cc p = .crash ↔
      ∃ sg en, gmSlots s c = some (sg, en) ∧
          (sg = .rsa ∨ (sg = .sm2 ∧ en = .sm2 ∧ p.requests = true ∧ cc = .cb .rsa)) := by
    unfold gmPath
    cases gmSlots s c with
    | none => simp
    | some se =>
      obtain ⟨sg, en⟩ := se
      simp only [gmCore_original_crash]
      constructor
      · intro h; exact ⟨sg, en, rfl, h⟩
      · rintro ⟨a, b, hab, h⟩; cases hab; exact h
  unfold verdict
  cases hm : s.mode <;> cases c <;> simp [Client.isGM, hgm, tlsPath_no_crash]

/-- The configurations of the defect reports. -/
example : verdict original ⟨.gm, [.rsa, .sm2], none⟩ (.gm true) .none .noCert = .crash := by decide
example : verdict original ⟨.auto, [.sm2, .sm2], some (.always .rsa)⟩ (.gm true) .none .noCert = .crash := by decide
example : verdict original ⟨.auto, [.sm2, .sm2], some .byVersion⟩ (.gm true) (.cb .rsa) .request = .crash := by decide
example : verdict repaired ⟨.gm, [.rsa, .sm2], none⟩ (.gm true) .none .noCert = .fail := by decide
example : verdict repaired ⟨.auto, [.sm2, .sm2], some (.always .rsa)⟩ (.gm true) .none .noCert = .fail := by decide
example : verdict repaired ⟨.auto, [.sm2, .sm2], some .byVersion⟩ (.gm true) (.cb .rsa) .request = .fail := by decide
/-- Without SNI the callback is not consulted and the same server completes. -/
example : verdict repaired ⟨.auto, [.sm2, .sm2], some (.always .rsa)⟩ (.gm false) .none .noCert = .ok 0x0101 0 := by decide

theorem gmCore_ok (sg en : KeyT) (cc : CCert) (p : Policy) (v n : Nat) (h : gmCore repaired sg en cc p = .ok v n) :
    v = versionGMSSL ∧ sg = .sm2 ∧ en = .sm2 ∧
      (n = 0 ∨ (n = 1 ∧ p.requests = true ∧ (cc = .static .sm2 ∨ cc = .cb .sm2))) := by
  by_cases hk : sg = .sm2 ∧ en = .sm2
  · obtain ⟨rfl, rfl⟩ := hk
    rw [gmCore_sm2] at h
    rcases afterChain_cases versionGMSSL p (clientChainGM cc) _ with e | e | ⟨k, hr, hc, e⟩ <;> rw [e] at h
    · cases h; exact ⟨rfl, rfl, rfl, .inl rfl⟩
    · cases h
    · -- the certificate's key signs only if it is SM2, and `clientChainGM` sends an SM2 key only from these two
      cases k <;> simp [repaired, signNilOpts] at h
      obtain ⟨rfl, rfl⟩ := h
      refine ⟨rfl, rfl, rfl, .inr ⟨rfl, hr, ?_⟩⟩
      cases cc <;> simp [clientChainGM] at hc ⊢
      · split at hc <;> simp_all
      · exact hc
  · rw [gmCore_of_not_sm2 repaired sg en cc p hk] at h
    simp [repaired] at h

/-- A GMSSL handshake completes only with SM2 keys in both server slots, and the server ends up with a client
    certificate only if that certificate's key is SM2 (a certificate with another key, given statically, is not
    sent; given by the callback, it is refused). -/
theorem gmssl_needs_sm2_keys (s : Server) (sni : Bool) (cc : CCert) (p : Policy) (v n : Nat)
    (h : verdict repaired s (.gm sni) cc p = .ok v n) :
    v = versionGMSSL ∧ s.mode ≠ .tls ∧ gmSlots s (.gm sni) = some (.sm2, .sm2) ∧
      (n = 0 ∨ (n = 1 ∧ p.requests = true ∧ (cc = .static .sm2 ∨ cc = .cb .sm2))) := by
  have hgm : gmPath repaired s (.gm sni) cc p = .ok v n →
      v = versionGMSSL ∧ gmSlots s (.gm sni) = some (.sm2, .sm2) ∧
      (n = 0 ∨ (n = 1 ∧ p.requests = true ∧ (cc = .static .sm2 ∨ cc = .cb .sm2))) := by
    unfold gmPath
    cases gmSlots s (.gm sni) with
    | none => simp
    | some se =>
      obtain ⟨sg, en⟩ := se
      intro h
      obtain ⟨h1, h2, h3, h4⟩ := gmCore_ok sg en cc p v n h
      subst h2; subst h3
      exact ⟨h1, rfl, h4⟩
  unfold verdict at h
  cases hm : s.mode <;> simp only [hm] at h
  · have := hgm h; exact ⟨this.1, by simp, this.2⟩
  · have := hgm h; exact ⟨this.1, by simp, this.2⟩
  · cases h

/-- With SM2 keys in both slots a GMSSL client completes whenever the policy is met: no certificate asked, or an SM2
    certificate (static or from the callback), or not required and none sent (a static certificate with another
    key is not sent). -/
theorem gmssl_sm2_completes (s : Server) (sni : Bool) (cc : CCert) (p : Policy)
    (hm : s.mode ≠ .tls) (hs : gmSlots s (.gm sni) = some (.sm2, .sm2)) :
    (p.requests = false → verdict repaired s (.gm sni) cc p = .ok versionGMSSL 0) ∧
    (p.requests = true → (cc = .static .sm2 ∨ cc = .cb .sm2) → verdict repaired s (.gm sni) cc p = .ok versionGMSSL 1) ∧
    (p.requests = true → p.requires = false → (cc = .none ∨ cc = .cbEmpty ∨ cc = .static .rsa ∨ cc = .static .ec) →
      verdict repaired s (.gm sni) cc p = .ok versionGMSSL 0) := by
  have hd : verdict repaired s (.gm sni) cc p = gmCore repaired .sm2 .sm2 cc p := by
    unfold verdict gmPath
    cases hmm : s.mode <;> simp_all
  rw [hd, gmCore_sm2]
  refine ⟨fun h => ?_, fun h hc => ?_, fun h h2 hc => ?_⟩
  · simp [afterChain, h]
  · rcases hc with rfl | rfl <;> simp [afterChain, h, clientChainGM, signNilOpts, repaired]
  · rcases hc with rfl | rfl | rfl | rfl <;> simp [afterChain, h, h2, clientChainGM]

/-- Signer and verifier of a CertificateVerify arrive at the same signature type and digest (false before repair 3
    for an SM2 key below TLS 1.2). -/
theorem pick_agrees (v : Ver) (k : KeyT) : pick repaired v (signerPub k) = pick repaired v (parsedPub k) := by
  cases v <;> cases k <;> decide

example : pick original .tls10 (signerPub .sm2) = (.sm2, .md5sha1) ∧ pick original .tls10 (parsedPub .sm2) = (.ecdsa, .sha1) := by decide

theorem getCertificate_tls (s : Server) (sni : Bool) (v w : Ver) :
    getCertificate s (.tls v sni) = getCertificate s (.tls w sni) := by
  unfold getCertificate
  cases s.getCert with
  | none => rfl
  | some cb => cases cb <;> simp [GetCert.serve, Client.sni, Client.isGM]

theorem tlsCore_repaired (k : KeyT) (v : Ver) (cc : CCert) (p : Policy) :
    tlsCore repaired k v cc p =
      if k = .sm2 then .fail else afterChain v.num p (clientChainTLS cc) fun _ => .ok v.num 1 := by
  simp only [tlsCore_eq, pick_agrees, if_true]

theorem tlsCore_version (k : KeyT) (cc : CCert) (p : Policy) (v w : Ver) :
    (∀ n, tlsCore repaired k v cc p = .ok v.num n ↔ tlsCore repaired k w cc p = .ok w.num n) ∧
    (tlsCore repaired k v cc p = .fail ↔ tlsCore repaired k w cc p = .fail) ∧
    (∀ u n, tlsCore repaired k v cc p = .ok u n → u = v.num) := by
  rw [tlsCore_repaired, tlsCore_repaired]
  split
  · simp
  · exact afterChain_version _ _ _ _

/-- False before repair 3: for a TLS client the verdict does not depend on the client's version: same completion /
    failure, same number of client certificates, the version reported is the client's. -/
theorem tls_version_independent (s : Server) (sni : Bool) (cc : CCert) (p : Policy) (v w : Ver) :
    (∀ n, verdict repaired s (.tls v sni) cc p = .ok v.num n ↔ verdict repaired s (.tls w sni) cc p = .ok w.num n) ∧
    (verdict repaired s (.tls v sni) cc p = .fail ↔ verdict repaired s (.tls w sni) cc p = .fail) := by
  have hd : ∀ u : Ver, verdict repaired s (.tls u sni) cc p =
      if s.mode = .gm then .fail else
        match getCertificate s (.tls .tls12 sni) with
        | none => .fail
        | some k => tlsCore repaired k u cc p := by
    intro u; have hg := getCertificate_tls s sni u .tls12; unfold verdict tlsPath; cases s.mode <;> simp [hg] <;>
      (cases getCertificate s (.tls .tls12 sni) <;> rfl)
  rw [hd v, hd w]
  by_cases hm : s.mode = .gm
  · simp [hm]
  · simp only [hm, if_false]
    cases getCertificate s (.tls .tls12 sni) with
    | none => simp
    | some k => exact ⟨(tlsCore_version k cc p v w).1, (tlsCore_version k cc p v w).2.1⟩

/-- The statement of the defect report: wherever a TLS 1.2 client with an SM2 client certificate (static or from the
    callback) completes, the TLS 1.0 and TLS 1.1 clients complete too, and the server sees the certificate. -/
theorem sm2_client_cert_every_tls_version (s : Server) (sni : Bool) (cc : CCert) (p : Policy) (n : Nat)
    (_hcc : cc = .static .sm2 ∨ cc = .cb .sm2)
    (h : verdict repaired s (.tls .tls12 sni) cc p = .ok 0x0303 n) (v : Ver) :
    verdict repaired s (.tls v sni) cc p = .ok v.num n :=
  ((tls_version_independent s sni cc p v .tls12).1 n).2 h

/-- The TLS-only and the auto-switch server with `RequireAndVerifyClientCert`; the same configurations failed below
    TLS 1.2 before the repair. -/
example : verdict repaired ⟨.tls, [.rsa], none⟩ (.tls .tls12 true) (.static .sm2) .requireAndVerify = .ok 0x0303 1 := by decide
example : verdict repaired ⟨.tls, [.rsa], none⟩ (.tls .tls10 true) (.static .sm2) .requireAndVerify = .ok 0x0301 1 := by decide
example : verdict repaired ⟨.auto, [.sm2, .sm2], some .byVersion⟩ (.tls .tls11 true) (.cb .sm2) .requireAndVerify = .ok 0x0302 1 := by decide
example : verdict original ⟨.tls, [.rsa], none⟩ (.tls .tls12 true) (.static .sm2) .requireAndVerify = .ok 0x0303 1 := by decide
example : verdict original ⟨.tls, [.rsa], none⟩ (.tls .tls10 true) (.static .sm2) .requireAndVerify = .fail := by decide
example : verdict original ⟨.auto, [.sm2, .sm2], some .byVersion⟩ (.tls .tls11 true) (.cb .sm2) .requireAndVerify = .fail := by decide

theorem gmCore_local (sg en : KeyT) (cc : CCert) (p : Policy)
    (h1 : gmCore original sg en cc p ≠ .crash) (h2 : cc ≠ .cb .ec) :
    gmCore repaired sg en cc p = gmCore original sg en cc p := by
  by_cases hk : sg = .sm2 ∧ en = .sm2
  · obtain ⟨rfl, rfl⟩ := hk
    revert h1 h2
    cases p <;> cases cc <;> (try rename_i k; cases k) <;> decide
  · rw [gmCore_of_not_sm2 _ sg en cc p hk] at h1 ⊢
    rw [gmCore_of_not_sm2 _ sg en cc p hk]
    simp [original, repaired] at h1 ⊢
    simp [h1]

/-- `pick` consults the repair only for an `*sm2.PublicKey` below TLS 1.2. -/
theorem pick_local (f g : Fixes) (v : Ver) (pub : GoPub) (h : v = .tls12 ∨ pub ≠ .sm2) : pick f v pub = pick g v pub := by
  cases v <;> cases pub <;> simp_all [pick]

theorem tlsCore_local (k : KeyT) (v : Ver) (cc : CCert) (p : Policy)
    (h : v = .tls12 ∨ (cc ≠ .static .sm2 ∧ cc ≠ .cb .sm2)) :
    tlsCore repaired k v cc p = tlsCore original k v cc p := by
  rw [tlsCore_eq, tlsCore_eq]
  split
  · rfl
  · apply afterChain_congr
    intro k hk
    -- an `*sm2.PublicKey` signs only for an SM2 key, and `clientChainTLS` sends one only from these two
    have hs : v = .tls12 ∨ signerPub k ≠ .sm2 := h.imp id fun ⟨h1, h2⟩ hsm => by
      cases k <;> cases hsm
      cases cc <;> cases hk
      · exact h1 rfl
      · exact h2 rfl
    rw [pick_local repaired original v _ hs,
      pick_local repaired original v (parsedPub k) (.inr (by cases k <;> simp [parsedPub]))]

/-- The repaired code decides like the original code except in the three situations repaired: where the original
    crashed; where a GMSSL client's callback handed out an ECDSA (non-SM2) certificate that the original signed
    with (now refused, as the static path always did by not sending it); and where a TLS 1.0 / 1.1 client sends an
    SM2 certificate. -/
theorem repairs_are_local (s : Server) (c : Client) (cc : CCert) (p : Policy)
    (h1 : verdict original s c cc p ≠ .crash)
    (h2 : ¬ (c.isGM = true ∧ cc = .cb .ec))
    (h3 : ¬ (∃ v sni, c = .tls v sni ∧ v ≠ .tls12 ∧ (cc = .static .sm2 ∨ cc = .cb .sm2))) :
    verdict repaired s c cc p = verdict original s c cc p := by
  cases c with
  | gm sni =>
    have hcc : cc ≠ .cb .ec := by
      intro e; apply h2; simp [Client.isGM, e]
    have hgm : gmPath original s (.gm sni) cc p ≠ .crash →
        gmPath repaired s (.gm sni) cc p = gmPath original s (.gm sni) cc p := by
      unfold gmPath
      cases gmSlots s (.gm sni) with
      | none => simp
      | some se => exact fun h => gmCore_local se.1 se.2 cc p h hcc
    unfold verdict at h1 ⊢
    revert h1
    cases s.mode <;> dsimp only <;> first | exact hgm | (intro _; rfl)
  | tls v sni =>
    have hv : v = .tls12 ∨ (cc ≠ .static .sm2 ∧ cc ≠ .cb .sm2) := by
      by_cases hv : v = .tls12
      · exact Or.inl hv
      · right
        constructor <;> intro e <;> apply h3 <;> exact ⟨v, sni, rfl, hv, by simp [e]⟩
    have htls : tlsPath repaired s v sni cc p = tlsPath original s v sni cc p := by
      unfold tlsPath
      cases getCertificate s (.tls v sni) with
      | none => rfl
      | some k0 => exact tlsCore_local k0 v cc p hv
    unfold verdict
    cases s.mode <;> dsimp only <;> first | exact htls | rfl

end Props.C06KeyType
