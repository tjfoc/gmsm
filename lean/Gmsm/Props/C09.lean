/-
C09 — Issued certificates, CSRs and CRLs parse back and verify only under the issuer.

The decision tables are regenerated from x509/x509.go on every run; the theorems are exhaustive over
those finite tables (the quantifier IS the table, so `decide` is a proof).  Whole-object round trips
(create → parse → compare fields → verify under issuer / other key / after every change to the signed
bytes or the signature value) go through encoding/asn1 and are decided by the correspondence run.
-/
import Gmsm.Model.X509Sign
namespace Props.C09
open Model.X509Sign Gen.X509

/-- the creator `c` accepts (f, req); what the signer's scheme covers is exactly what the verifier's scheme checks
    for the algorithm recovered from the OID written into the object; the scheme the signature is made with
    (for an RSA key: PKCS#1 v1.5 or PSS, by the options handed to `Sign`) is the scheme the verifier uses for that
    algorithm, and the scheme the emitted AlgorithmIdentifier names -/
def consistent (c : Creator) (f : Family) (req : String) : Bool :=
  match resolve f req with
  | none => false
  | some (oid, hash) =>
    decide (signedBy c f hash ≠ .rejected) && decide (signedBy c f hash = verified f (parsedAlgo oid req))
      && decide (signScheme c f req = verifyScheme f (parsedAlgo oid req))
      && decide (namedScheme (parsedAlgo oid req) = some (signScheme c f req))

/-- For every creator (certificate, request, revocation list), every signer key
    family and every requested algorithm that is left to default or belongs to that family, the creator accepts,
    the bytes the signer's scheme finally signs are the bytes the verifier's scheme checks, and the signature
    scheme used is the one the verifier applies and the emitted algorithm identifier names.
    (The scheme conjuncts matter: without them the statement also holds of a creator that labels an RSA-PSS
    request RSASSA-PSS and signs it PKCS#1 v1.5, see `hash_only_creator_mislabels_pss`.) -/
theorem sign_verify_consistent :
    ∀ c ∈ creators, ∀ f ∈ families, ∀ req ∈ "" :: inFamily f, consistent c f req = true := by decide +kernel

/-- Accepted ⇒ the emitted algorithm identifier names the scheme the signature was made with, and
    `checkSignature` verifies with that scheme - for requests as for certificates and revocation lists. -/
theorem emitted_algorithm_names_scheme :
    ∀ c ∈ creators, ∀ f ∈ families, ∀ req ∈ "" :: inFamily f, ∃ oid hash, resolve f req = some (oid, hash) ∧
      namedScheme (parsedAlgo oid req) = some (signScheme c f req) ∧
      verifyScheme f (parsedAlgo oid req) = signScheme c f req := by
  intro c hc f hf req hr
  have h := sign_verify_consistent c hc f hf req hr
  unfold consistent at h
  cases hres : resolve f req with
  | none => rw [hres] at h; cases h
  | some p =>
    obtain ⟨oid, hash⟩ := p
    rw [hres] at h
    simp only [Bool.and_eq_true, decide_eq_true_eq] at h
    exact ⟨oid, hash, rfl, h.2, h.1.2.symm⟩

/-- regenerated fact: all three creators hand `*rsa.PSSOptions` to the signer exactly when the template's
    algorithm `isRSAPSS()`, with the salt length `checkSignature` insists on -/
theorem creators_pass_pss_options :
    ∀ c ∈ creators, c.signerOpts = ("pss-iff-requested-isRSAPSS", verifyPSSSalt) := by decide +kernel

/-- an RSA-PSS request is signed with RSASSA-PSS (false of the code as found: `hash_only_creator_mislabels_pss`) -/
theorem csr_pss_signed_with_pss :
    ∀ req ∈ rsaPSSAlgos, accepts .rsa req = true ∧ signScheme .csr .rsa req = .pss verifyPSSSalt ∧
      verifyScheme .rsa req = .pss verifyPSSSalt := by decide +kernel

/-- Before the repair `CreateCertificateRequest` handed the bare hash to the signer: for each RSA-PSS
    algorithm the request was accepted and labelled RSASSA-PSS, but signed PKCS#1 v1.5 - its own
    `CheckSignature` verifies with PSS. -/
theorem hash_only_creator_mislabels_pss :
    ∀ req ∈ rsaPSSAlgos, accepts .rsa req = true ∧ signSchemeWith ("hash-only", "") .rsa req = .pkcs1v15 ∧
      verifyScheme .rsa req ≠ signSchemeWith ("hash-only", "") .rsa req ∧
      namedScheme req ≠ some (signSchemeWith ("hash-only", "") .rsa req) := by decide +kernel

/-- non-vacuity: the PSS algorithms are in the RSA family and the quantifier of `sign_verify_consistent` reaches
    the request creator with them -/
example : Creator.csr ∈ creators ∧ Family.rsa ∈ families ∧ "SHA256WithRSAPSS" ∈ "" :: inFamily .rsa ∧
    rsaPSSAlgos = ["SHA256WithRSAPSS", "SHA384WithRSAPSS", "SHA512WithRSAPSS"] ∧
    consistent .csr .rsa "SHA256WithRSAPSS" = true := by decide +kernel

/-- requested algorithms of another key family are refused (for the key families with their own
    public-key algorithm tag; an SM2 key carries the ECDSA tag, as in the source) -/
theorem cross_family_rejected :
    (∀ req ∈ inFamily .sm2 ++ inFamily .ecdsa256, accepts .rsa req = false) ∧
    (∀ req ∈ inFamily .rsa, accepts .sm2 req = false ∧ accepts .ecdsa256 req = false) := by decide +kernel

/-- Every row of `signatureAlgorithmDetails` with a usable hash is verified with that same hash (or refused as
    insecure), and every algorithm the verifier knows has a row. -/
theorem algo_tables_consistent :
    (∀ r ∈ details, r.2.2.2 = "Hash(0)" ∨
        (verifyHash.find? (·.1 == r.1)).map (·.2) = some r.2.2.2 ∨
        (verifyHash.find? (·.1 == r.1)).map (·.2) = some "reject") ∧
    (∀ v ∈ verifyHash, (details.find? (·.1 == v.1)).isSome = true) := by decide +kernel

/-- OIDs identify algorithms: two rows with the same OID are the same algorithm, except the RSA-PSS
    family (distinguished by parameters) -/
theorem oid_injective :
    ∀ r ∈ details, ∀ r' ∈ details, r.2.1 = r'.2.1 → r.1 = r'.1 ∨ r.2.1 = "oidSignatureRSAPSS" := by decide +kernel

/-- regenerated fact: all three creators decide "raw TBS or digest" by the signer's key type -/
theorem creators_decide_by_signer_key :
    signInput_CreateCertificate = "digest-unless-signer-key-is:sm2.PublicKey" ∧
    signInput_CreateCertificateRequest = "digest-unless-signer-key-is:sm2.PublicKey" ∧
    signInput_CreateRevocationList = "digest-unless-signer-key-is:sm2.PublicKey" := by decide +kernel

/-- The code as found: deciding by the template's requested algorithm gave an SM2 signer the digest
    when the algorithm was left to default, while the verifier checks the raw bytes. -/
theorem default_sm2_mismatch_before_repair :
    (Covered.digest "SM3") ≠ verified .sm2 (parsedAlgo "oidSignatureSM2WithSM3" "") := by decide +kernel

/-- which rows of the regenerated `signatureAlgorithmDetails` table belong to a signer key family (the property's
    "belongs to the signer's key family"): decided from the table's key-algorithm column and, inside the shared
    "ECDSA" column, from the algorithm's name - NOT from the hand-written list `inFamily` -/
def belongs (f : Family) (row : String × String × String × String) : Bool :=
  match f with
  | .rsa => row.2.2.1 == "RSA"
  | .sm2 => row.2.2.1 == "ECDSA" && row.1.startsWith "SM2"
  | _ => row.2.2.1 == "ECDSA" && row.1.startsWith "ECDSA"

/-- the hand-written list `inFamily` the theorems above quantify over is exactly the set of accepted algorithms of
    the family in the regenerated table (so those theorems miss no accepted algorithm) -/
theorem inFamily_complete :
    ∀ f ∈ families, ∀ row ∈ details, belongs f row = true → accepts f row.1 = true → row.1 ∈ inFamily f := by decide +kernel

/-- False of the code as found (`md5_accepted_unverifiable_before_repair`).  Quantified over every row of the
    regenerated algorithm table, not over a hand-written list: whenever
    `signingParamsForPublicKey` accepts an algorithm of the signer's key family, what the creator signs is what
    `checkSignature` verifies for the emitted identifier; in particular the verifier does not refuse the algorithm
    (`MD5WithRSA` with an RSA key was accepted by the three creators and refused as insecure by `checkSignature`, so
    the package issued objects it could never verify). -/
theorem accepted_in_family_consistent :
    ∀ c ∈ creators, ∀ f ∈ families, ∀ row ∈ details, belongs f row = true → accepts f row.1 = true →
      consistent c f row.1 = true :=
  fun c hc f hf row hrow hb ha =>
    sign_verify_consistent c hc f hf row.1 (List.mem_cons_of_mem _ (inFamily_complete f hf row hrow hb ha))

/-- the creator refuses exactly what it must: every algorithm `checkSignature` rejects as insecure is refused at
    creation for every key family (regenerated lists `creatorRefuses`, `verifyHash`, `details`) -/
theorem insecure_refused_at_creation :
    ∀ v ∈ verifyHash, v.2 = "reject" → ∀ f ∈ families, accepts f v.1 = false := by decide +kernel

/-- whatever the creator accepts - in the family or not - is an algorithm the verifier does not refuse as insecure -/
theorem accepted_not_insecure :
    ∀ f ∈ families, ∀ row ∈ details, accepts f row.1 = true →
      (verifyHash.find? (·.1 == row.1)).map (·.2) ≠ some "reject" := by
  intro f hf row _ ha hrej
  obtain ⟨v, hfind, hv⟩ := Option.map_eq_some_iff.mp hrej
  have hname := List.find?_some (p := fun x : String × String => x.1 == row.1) hfind
  have hacc := insecure_refused_at_creation v (List.mem_of_find?_eq_some hfind) hv f hf
  rw [eq_of_beq hname, ha] at hacc
  cases hacc

/-- The code as found: without the by-name refusal, MD5WithRSA with an RSA key resolves to a
    usable (oid, hash) pair although the verifier rejects the algorithm -/
theorem md5_accepted_unverifiable_before_repair :
    (details.find? (·.1 == "MD5WithRSA")).map (fun r => (r.2.2.1, r.2.2.2)) = some ("RSA", "MD5") ∧
    verified .rsa "MD5WithRSA" = .rejected := by decide +kernel

end Props.C09
