/-
C17 / C18 (x509/ber.go, as repaired): an indefinite-length constructed value may have NO members.

`readObjectDepth` used to read a member of an indefinite-length value BEFORE it looked for the end-of-contents
octets, so `30 80 00 00`, `31 80 00 00`, `24 80 00 00`, `a0 80 00 00` were refused ("ber2der: Invalid BER format":
the `00 00` was taken for a member, and the terminator was then missing) and `ParsePKCS7` refused a genuine BER
SignedData whose attached content is the empty OCTET STRING written as `24 80 00 00`.  Since the repair the
end-of-contents test comes before each member (`Model.BER.readItems`).
-/
import Gmsm.Props.C17Idem
import Gmsm.Props.C18Output

namespace Props.C18Empty
open Gmsm Model.BER Props.C17Idem Props.C18

/-- the bytes `b` start with the end-of-contents octets `00 00` (what `isIndefiniteTermination` tests) -/
def startsEOC (b : Bytes) : Prop := b.getD 0 1 = 0 ∧ b.getD 1 1 = 0

theorem readObject_indefinite_need (tag : Bytes) (os : List Obj) (ht : TagOK tag true) (hwf : WFItems os)
    (hne : ∀ o ∈ os, ¬ startsEOC (encodeTo o)) (pre rest : Bytes) (f d : Nat)
    (hf : needItems os + 1 ≤ f) (hd : 1 + depthItems os + d ≤ maxBERDepth) :
    readObject f (pre ++ tag ++ 0x80 :: (encodeItems os ++ 0 :: 0 :: rest)) pre.length d
      = .ok (.cons tag os, pre.length + tag.length + 1 + (encodeItems os).length + 2) := by
  cases f with
  | zero => omega
  | succ f =>
    have hi := readItems_members_need os hwf true (pre ++ tag ++ [0x80]) (0 :: 0 :: rest) f (d + 1)
      ((pre ++ tag).length + 1 + 0) (by omega) (by omega) nofun (fun _ => ⟨hne, rest, rfl⟩)
    rw [List.append_assoc _ (encodeItems os), List.length_append (as := pre ++ tag), List.length_singleton] at hi
    have e : pre ++ tag ++ 0x80 :: (encodeItems os ++ 0 :: 0 :: rest)
        = pre ++ tag ++ [0x80] ++ (encodeItems os ++ 0 :: 0 :: rest) := by simp
    rw [e, readObject_cons_at ht pre [0x80] _ (by simp) (readLength_indef _ _)
      (by simp only [List.length_append, List.length_cons]; omega) (by omega) hi]
    simp only [if_true, List.length_append]

theorem readObject_indefinite (tag : Bytes) (os : List Obj) (ht : TagOK tag true) (hwf : WFItems os)
    (hne : ∀ o ∈ os, ¬ startsEOC (encodeTo o)) (pre rest : Bytes) (fuel d : Nat)
    (hd : 1 + depthItems os + d ≤ maxBERDepth)
    (hf : 2 * ((pre ++ tag ++ 0x80 :: (encodeItems os ++ 0 :: 0 :: rest)).length - pre.length) + 1 ≤ fuel) :
    readObject fuel (pre ++ tag ++ 0x80 :: (encodeItems os ++ 0 :: 0 :: rest)) pre.length d
      = .ok (.cons tag os, pre.length + tag.length + 1 + (encodeItems os).length + 2) :=
  readObject_ok_fuel (readObject_indefinite_need tag os ht hwf hne pre rest _ d (Nat.le_refl _) hd) hf

/-- `ber2der` turns `tag 80 members 00 00` (members: DER encodings of well-formed objects, none starting with
    `00 00`, the empty list included, within the depth limit) into the definite-length encoding of the same
    members; bytes after the value are ignored, as `ber2der` always does. -/
theorem ber2der_indefinite (tag : Bytes) (os : List Obj) (ht : TagOK tag true) (hwf : WFItems os)
    (hne : ∀ o ∈ os, ¬ startsEOC (encodeTo o)) (hd : 1 + depthItems os ≤ maxBERDepth) (rest : Bytes) :
    ber2der (tag ++ 0x80 :: (encodeItems os ++ 0 :: 0 :: rest)) = .ok (encodeTo (.cons tag os)) := by
  have h := readObject_indefinite tag os ht hwf hne [] rest
    (2 * (tag ++ 0x80 :: (encodeItems os ++ 0 :: 0 :: rest)).length + 2) 0 (by omega)
    (by simp only [List.nil_append, List.length_nil]; omega)
  simp only [List.nil_append, List.length_nil] at h
  rw [ber2der_eq (by simp), h]
  rfl

theorem encodeLength_head_zero (n : Nat) (h : (encodeLength n).headD 1 = 0) : n = 0 := by
  by_cases hn : n < 128
  · rw [Props.C17.encodeLength_short n hn, List.headD_cons] at h
    have h2 := congrArg BitVec.toNat h
    rw [toNat_ofNat8 n (by omega)] at h2
    exact h2
  · obtain ⟨l, rest, e, _, hl⟩ := Props.C17.encodeLength_long n (by omega)
    rw [e, List.headD_cons] at h
    have h2 : (BitVec.ofNat 8 (0x80 + l)).toNat = 0 := congrArg BitVec.toNat h
    rw [toNat_ofNat8 (0x80 + l) (by omega)] at h2
    exact absurd h2 (by omega)

theorem startsEOC_encodeTo (o : Obj) (hwf : WF o) (h : startsEOC (encodeTo o)) : o = .prim [0] [] := by
  have key : ∀ {tag : Bytes} {c : Bool} (x : Bytes), TagOK tag c → (tag ++ x).getD 0 1 = 0 → tag = [0] ∧ c = false := by
    intro tag c x ht h0
    cases tag with
    | nil => exact ht.elim
    | cons b ts =>
      have hb : b = 0 := by simpa using h0
      subst hb
      exact ⟨by rw [show ts = [] by simpa using ht.2], Bool.eq_false_iff.mpr fun hc => by simpa using ht.1.mpr hc⟩
  obtain ⟨h0, h1⟩ := h
  cases o with
  | prim tag c =>
    rw [WF] at hwf
    rw [encodeTo, List.append_assoc] at h0 h1
    obtain ⟨rfl, -⟩ := key _ hwf.1 h0
    have := encodeLength_head_zero c.length (by
      cases hL : encodeLength c.length with
      | nil => exact absurd hL (Props.C17.encodeLength_ne_nil _)
      | cons l0 Lr => rw [hL] at h1; simpa using h1)
    rw [List.eq_nil_of_length_eq_zero this]
  | cons tag items =>
    rw [WF] at hwf
    rw [encodeTo, List.append_assoc] at h0
    exact absurd (key _ hwf.1 h0).2 nofun

/-- `ber2der_indefinite` with the side condition stated on the members themselves: none of them is the
    end-of-contents marker (primitive, tag 0, empty) -/
theorem ber2der_indefinite_members (tag : Bytes) (os : List Obj) (ht : TagOK tag true) (hwf : WFItems os)
    (hne : ∀ o ∈ os, o ≠ .prim [0] []) (hd : 1 + depthItems os ≤ maxBERDepth) (rest : Bytes) :
    ber2der (tag ++ 0x80 :: (encodeItems os ++ 0 :: 0 :: rest)) = .ok (encodeTo (.cons tag os)) :=
  ber2der_indefinite tag os ht hwf (fun o ho h => hne o ho (startsEOC_encodeTo o (hwf.mem o ho) h)) hd rest

/-- the repaired case: `tag 80 00 00` is the empty constructed value `tag 00` (before the repair:
    `ber2der: Invalid BER format`) -/
theorem ber2der_empty_indefinite (tag : Bytes) (ht : TagOK tag true) (rest : Bytes) :
    ber2der (tag ++ 0x80 :: 0 :: 0 :: rest) = .ok (tag ++ [0]) := by
  have h := ber2der_indefinite tag [] ht (by simp [WFItems]) (by simp) (by simp [depthItems, maxBERDepth]) rest
  simp only [encodeItems, List.nil_append] at h
  rw [h, encodeTo]
  simp [encodeItems, encodeLength]

/-- for every one-octet constructed identifier `t` (bit 0x20 set, tag number below 31): SEQUENCE `30`, SET `31`,
    constructed OCTET STRING `24`, `[0]` `a0`, … -/
theorem ber2der_empty_indefinite_byte (t : Byte) (hc : (t.toNat / 32) % 2 = 1) (hlow : t.toNat % 32 ≠ 0x1F) :
    ber2der [t, 0x80, 0, 0] = .ok [t, 0] := by
  have ht : TagOK [t] true := by
    refine ⟨⟨fun _ => rfl, fun _ => hc⟩, ?_⟩
    rw [if_neg hlow]
  exact ber2der_empty_indefinite [t] ht []

/-- the members of a SEQUENCE that follow an empty indefinite-length member are still read: the empty value
    consumes exactly its four bytes -/
theorem readObject_empty_indefinite (tag : Bytes) (ht : TagOK tag true) (pre rest : Bytes) (fuel d : Nat)
    (hd : d < maxBERDepth) (hf : 2 * ((pre ++ tag ++ 0x80 :: 0 :: 0 :: rest).length - pre.length) + 1 ≤ fuel) :
    readObject fuel (pre ++ tag ++ 0x80 :: 0 :: 0 :: rest) pre.length d
      = .ok (.cons tag [], pre.length + tag.length + 1 + 2) := by
  have h := readObject_indefinite tag [] ht (by simp [WFItems]) (by simp) pre rest fuel d
    (by simp only [depthItems]; omega) (by simpa [encodeItems] using hf)
  simpa [encodeItems] using h

example : ber2der [0x24, 0x80, 0x00, 0x00] = .ok [0x24, 0x00]
    ∧ ber2der [0x30, 0x80, 0x00, 0x00] = .ok [0x30, 0x00]
    ∧ ber2der [0x31, 0x80, 0x00, 0x00] = .ok [0x31, 0x00]
    ∧ ber2der [0xa0, 0x80, 0x24, 0x80, 0x00, 0x00, 0x00, 0x00] = .ok [0xa0, 0x02, 0x24, 0x00] := by
  refine ⟨?_, ?_, ?_, ?_⟩ <;> rfl

/-- the hypotheses of `ber2der_empty_indefinite_byte` are satisfiable (0x30) and needed: a primitive identifier
    with the length octet `80` is refused, with or without members -/
example : ((0x30 : Byte).toNat / 32) % 2 = 1 ∧ (0x30 : Byte).toNat % 32 ≠ 0x1F
    ∧ ber2der [0x04, 0x80, 0x00, 0x00] = .error .indefinitePrimitive := by
  refine ⟨by decide, by decide, by rfl⟩

example : ber2der ([0x30] ++ 0x80 :: (encodeItems [.prim [0x02] [0x05], .cons [0x31] []] ++ 0 :: 0 :: []))
    = .ok [0x30, 0x05, 0x02, 0x01, 0x05, 0x31, 0x00]
    ∧ ber2der [0xbf, 0x81, 0x01, 0x80, 0x00, 0x00] = .ok [0xbf, 0x81, 0x01, 0x00] := by
  constructor <;> rfl

/-- the end-of-contents octets are the FIRST thing tested: `30 80 00 00 00 00` is the empty SEQUENCE followed by
    two ignored bytes (before the repair: a SEQUENCE holding the "object" `00 00`); nested empties close level by
    level; members after an empty member are kept -/
example : ber2der [0x30, 0x80, 0x00, 0x00, 0x00, 0x00] = .ok [0x30, 0x00]
    ∧ ber2der [0x30, 0x80, 0x31, 0x80, 0x00, 0x00, 0x00, 0x00] = .ok [0x30, 0x02, 0x31, 0x00]
    ∧ ber2der [0x30, 0x80, 0x24, 0x80, 0x00, 0x00, 0x02, 0x01, 0x05, 0x00, 0x00]
        = .ok [0x30, 0x05, 0x24, 0x00, 0x02, 0x01, 0x05]
    ∧ ber2der [0x30, 0x06, 0x30, 0x80, 0x00, 0x00, 0x05, 0x00] = .ok [0x30, 0x04, 0x30, 0x00, 0x05, 0x00] := by
  refine ⟨?_, ?_, ?_, ?_⟩ <;> rfl

/-- what stays refused: the terminator missing or cut short (`.invalid`, "ber2der: Invalid BER format"), an
    empty indefinite member that runs past its definite-length parent, and an empty indefinite value at the
    depth limit -/
example : ber2der [0x30, 0x80] = .error .invalid
    ∧ ber2der [0x30, 0x80, 0x00] = .error .invalid
    ∧ ber2der [0x30, 0x80, 0x30, 0x80, 0x00, 0x00] = .error .invalid
    ∧ ber2der [0x30, 0x03, 0x30, 0x80, 0x00, 0x00] = .error .beyondParent
    ∧ (readObject 9 [0x30, 0x80, 0x00, 0x00] 0 127).toOption.isSome
    ∧ readObject 9 [0x30, 0x80, 0x00, 0x00] 0 128 = .error .tooDeep := by
  refine ⟨?_, ?_, ?_, ?_, ?_, ?_⟩ <;> rfl

/-- the hypothesis "no member starts with `00 00`" of `ber2der_indefinite` is needed: the member `00 00`
    (primitive, tag 0, empty) IS the end-of-contents marker, so it cannot be a member of an indefinite value -/
example : startsEOC (encodeTo (.prim [0x00] []))
    ∧ ber2der ([0x30] ++ 0x80 :: (encodeItems [.prim [0x00] []] ++ 0 :: 0 :: [])) = .ok [0x30, 0x00] := by
  refine ⟨⟨by rfl, by rfl⟩, by rfl⟩

end Props.C18Empty
