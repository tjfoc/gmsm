/-
C01, history independence.

The expected line of the correspondence op `sm2hist` is `Model.Hist.run step steps`: these theorems say what that
means - the answer to a call is the answer to that call alone, wherever it stands in a history - and why histories
over NEAR-EQUAL inputs are the right probe: a one-entry memo in front of a function is invisible exactly when its key
separates the inputs that the function separates; otherwise the two-call history `[a, b]` with `key a = key b`,
`f a ≠ f b` answers differently from `run` (the seeded change C01-m15: ZA memoised under (public key, first 16 bytes
of the ID, length of the ID)).
-/
import Gmsm.Model.Hist
namespace Gmsm.Props.C01Hist
open Gmsm.Model.Hist

theorem run_length {σ ρ : Type} (f : σ → ρ) (steps : List σ) : (run f steps).length = steps.length := by
  simp [run]

theorem run_append {σ ρ : Type} (f : σ → ρ) (a b : List σ) : run f (a ++ b) = run f a ++ run f b := by
  simp [run]

theorem run_step_independent {σ ρ : Type} (f : σ → ρ) (pre post : List σ) (s : σ) :
    (run f (pre ++ s :: post))[pre.length]? = some (f s) := by
  simp [run]

/-- the same call made twice in one history - in whatever surroundings - is answered the same -/
theorem run_same_call_same_answer {σ ρ : Type} (f : σ → ρ) (a b c : List σ) (s : σ) :
    (run f (a ++ s :: b ++ s :: c))[a.length]? = (run f (a ++ s :: b ++ s :: c))[a.length + 1 + b.length]? := by
  have h1 : (run f (a ++ s :: (b ++ s :: c)))[a.length]? = some (f s) := run_step_independent f a (b ++ s :: c) s
  have h2 : (run f ((a ++ s :: b) ++ s :: c))[(a ++ s :: b).length]? = some (f s) :=
    run_step_independent f (a ++ s :: b) c s
  have e1 : a ++ s :: b ++ s :: c = a ++ s :: (b ++ s :: c) := by simp
  have e2 : a ++ s :: b ++ s :: c = (a ++ s :: b) ++ s :: c := by simp
  have e3 : (a ++ s :: b).length = a.length + 1 + b.length := by simp; omega
  rw [e1, h1, ← e1, e2, ← e3, h2]

theorem memoStep_consistent {σ ρ κ : Type} [DecidableEq κ] (key : σ → κ) (f : σ → ρ) (c : Option (κ × ρ)) (s : σ)
    (hc : Consistent key f c) : Consistent key f (memoStep key f c s).1 := by
  unfold memoStep
  cases c with
  | none => exact Or.inr ⟨s, rfl⟩
  | some kv =>
    obtain ⟨k, v⟩ := kv
    by_cases h : key s = k
    · simp [h]; exact hc
    · simp [h]; exact Or.inr ⟨s, rfl⟩

theorem memoStep_answer {σ ρ κ : Type} [DecidableEq κ] (key : σ → κ) (f : σ → ρ)
    (hsep : ∀ a b, key a = key b → f a = f b) (c : Option (κ × ρ)) (s : σ) (hc : Consistent key f c) :
    (memoStep key f c s).2 = f s := by
  unfold memoStep
  cases c with
  | none => rfl
  | some kv =>
    obtain ⟨k, v⟩ := kv
    by_cases h : key s = k
    · simp [h]
      rcases hc with hc | ⟨s0, hs0⟩
      · cases hc
      · have hk : k = key s0 := by injection hs0 with h1; injection h1
        have hv : v = f s0 := by injection hs0 with h1; injection h1
        rw [hv]; exact (hsep s s0 (by rw [h, hk])).symm
    · simp [h]

/-- with a separating key (in particular an injective one) and a consistent starting state, every
    history through the memo is answered exactly as without it -/
theorem memo_transparent {σ ρ κ : Type} [DecidableEq κ] (key : σ → κ) (f : σ → ρ)
    (hsep : ∀ a b, key a = key b → f a = f b) (steps : List σ) :
    ∀ c, Consistent key f c → memoRun key f c steps = run f steps := by
  induction steps with
  | nil => intro c _; rfl
  | cons s rest ih =>
    intro c hc
    have h1 := memoStep_answer key f hsep c s hc
    have h2 := ih _ (memoStep_consistent key f c s hc)
    simp only [memoRun, run, List.map_cons] at *
    rw [h1, h2]

/-- an injective memo key is separating -/
theorem memo_transparent_of_injective {σ ρ κ : Type} [DecidableEq κ] (key : σ → κ) (f : σ → ρ)
    (hinj : ∀ a b, key a = key b → a = b) (steps : List σ) :
    memoRun key f none steps = run f steps :=
  memo_transparent key f (fun a b h => by rw [hinj a b h]) steps none (Or.inl rfl)

/-- if two inputs share the memo key although `f` tells them apart, the history "a, then b" is answered
    differently from `run` - whatever the cache held before.  So a correspondence over two-call histories of
    near-equal inputs detects every too-coarse one-entry memo for which the generator reaches such a pair. -/
theorem memo_exposed_by_pair {σ ρ κ : Type} [DecidableEq κ] (key : σ → κ) (f : σ → ρ) (a b : σ)
    (hk : key a = key b) (hf : f a ≠ f b) (c : Option (κ × ρ)) :
    memoRun key f c [a, b] ≠ run f [a, b] := by
  intro h
  simp only [memoRun, run, List.map_cons, List.map_nil] at h
  injection h with h1 h2
  injection h2 with h2 _
  -- after the first call the cache holds (key a, first answer); the second call hits it
  have hstate : (memoStep key f c a).1 = some (key a, (memoStep key f c a).2) := by
    unfold memoStep
    cases c with
    | none => rfl
    | some kv =>
      obtain ⟨k, v⟩ := kv
      by_cases hh : key a = k
      · simp [hh]
      · simp [hh]
  have hsecond : (memoStep key f (memoStep key f c a).1 b).2 = (memoStep key f c a).2 := by
    rw [hstate]
    simp [memoStep, hk]
  rw [hsecond, h1] at h2
  exact hf h2

/-- a memo keyed on the first component only, in front of the identity on pairs -/
example : memoRun (fun p : Nat × Nat => p.1) id none [(1, 2), (1, 3)] = [(1, 2), (1, 2)] := by decide
example : run (id : Nat × Nat → Nat × Nat) [(1, 2), (1, 3)] = [(1, 2), (1, 3)] := by decide

end Gmsm.Props.C01Hist
