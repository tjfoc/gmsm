/-
C04 — SM3 is the GM/T 0004 digest for every input and chunking and honours hash.Hash.

Digest and chunking (`sum_nil_spec`, `write_write`), the `hash.Hash` contract (`hist_refines` against the
abstract history `specRun`, `sum_pure`, `sum_prefix`), and the bit-length counter: `length_counted_in_uint64`
(the Go source multiplies in `uint64`) and `narrow_length_wraps` (what `uint64(len(p) * 8)` loses on 32-bit `int`).
`Model.SM3` mirrors sm3/sm3.go (the repaired `Sum`; the `Sum` as found is `Model.SM3.sumOld`, for which the
negations are proved below with concrete witnesses).
-/
import Gmsm.Proofs.SM3
import Gmsm.Gen.SM3Consts
namespace Props.C04
open Gmsm Spec.SM3 Model.SM3 Proofs.SM3

/-- regenerated facts: the IV written by `Reset` and the round constants used by `update`/`update2`
    in the Go source are the standard's (4.1, 4.2). -/
theorem consts_ok :
    Gen.SM3.iv.toList = [IV.a, IV.b, IV.c, IV.d, IV.e, IV.f, IV.g, IV.h] ∧
    Gen.SM3.updateConsts.toList = [Tj 0, Tj 16] ∧ Gen.SM3.update2Consts.toList = [Tj 0, Tj 16] := by
  decide +kernel

/-- Go's `x<<(i%32) | x>>(32-i%32)` is rotate-left by `i mod 32` for every `i`
    (including `i % 32 = 0`, where Go's `x>>32` is 0). -/
theorem rotl_go (x : W32) (i : Nat) : leftRotate x i = x.rotateLeft (i % 32) := goRotl_eq x i

/-- one iteration of the Go block loop is the standard's compression function. -/
theorem update1_eq_CF : update1 = CF := Proofs.SM3.update1_eq_CF

/-- two writes are one write of the concatenation (same digest words, same bit
    count, same unhandled tail), from any state that represents some byte history. -/
theorem write_write (s : State) (M a b : Bytes) (h : Inv s M) :
    write (write s a) b = write s (a ++ b) := by
  have h1 := inv_write (inv_write h a) b
  have h2 := inv_write h (a ++ b)
  rw [List.append_assoc] at h1
  cases hs1 : write (write s a) b
  cases hs2 : write s (a ++ b)
  rw [hs1] at h1; rw [hs2] at h2
  congr
  · exact h1.digest.trans h2.digest.symm
  · exact h1.length.trans h2.length.symm
  · exact h1.tail.trans h2.tail.symm

/-- for every list of chunks (including empty chunks) the digest after writing
    them one by one is the GM/T 0004 digest of their concatenation. -/
theorem sum_nil_spec (cs : List Bytes) :
    (sum (cs.foldl write init) []).2 = Spec.SM3.hash cs.flatten := by
  rw [sum_nil, finish_foldl_write]

theorem sm3Sum_spec (m : Bytes) : sm3Sum m = Spec.SM3.hash m := by
  have := sum_nil_spec [m]
  simpa [sm3Sum] using this

/-- `Sum` leaves the state untouched and returns prefix ‖ digest. -/
theorem sum_pure (s : State) (pre : Bytes) : (sum s pre).1 = s := rfl
theorem sum_prefix (s : State) (M pre : Bytes) (h : Inv s M) :
    (sum s pre).2 = pre ++ Spec.SM3.hash M := by simp [sum, finish_eq_hash h]

/-- the abstract behaviour of a `hash.Hash` history: the bytes written since the last reset -/
def specRun : Bytes → List Op → List Bytes
  | _, [] => []
  | M, .write p :: ops => specRun (M ++ p) ops
  | M, .sum pre :: ops => (pre ++ Spec.SM3.hash M) :: specRun M ops
  | _, .reset :: ops => specRun [] ops

/-- for every operation sequence over {Write x, Sum p, Reset} the i-th `Sum p` returns
    `p ‖ SM3(bytes written since the last Reset)` -/
theorem hist_refines (s : State) (M : Bytes) (h : Inv s M) (ops : List Op) :
    run s ops = specRun M ops := by
  induction ops generalizing s M with
  | nil => rfl
  | cons op ops ih =>
    cases op with
    | write p => simp only [run, specRun]; exact ih _ _ (inv_write h p)
    | sum pre =>
      simp only [run, specRun, sum, finish_eq_hash h]
      rw [ih s M h]
    | reset => simp only [run, specRun]; exact ih _ _ inv_init

theorem hist_refines_init (ops : List Op) : run init ops = specRun [] ops :=
  hist_refines init [] inv_init ops

theorem hash_length (m : Bytes) : (Spec.SM3.hash m).length = 32 := by
  simp [Spec.SM3.hash, regBytes, w32bytes]

/-- the padded message is a whole number of blocks, so `pad` never reaches its `panic` -/
theorem pad_whole_blocks (l : Nat) : (l + (padding l).length) % 64 = 0 := padded_length l

/-- the old `Sum(prefix)` changes the running state … -/
theorem sumOld_mutates : ∃ s pre, (sumOld s pre).1 ≠ s :=
  ⟨write init [0x61, 0x62, 0x63], [0x78, 0x79], by decide⟩

/-- … and returns 32 bytes instead of prefix ‖ digest. -/
theorem sumOld_drops_prefix : ∃ s pre, (sumOld s pre).2.length ≠ pre.length + 32 :=
  ⟨init, [0x78, 0x79], by decide +kernel⟩

/-- non-vacuity of `Inv`: a 3-chunk history of a 119-byte message, with an empty chunk. -/
example : Inv (([List.replicate 55 1, [], List.replicate 64 2].foldl write init))
    (List.replicate 55 1 ++ [] ++ List.replicate 64 2) :=
  inv_write (inv_write (inv_write inv_init _) _) _

/-- regenerated fact: `Write` counts the bit length with the multiplication done in `uint64`
    (`sm3.length += uint64(len(p)) * 8`).  The model's counter is a `Nat`, which is what that expression computes for
    every `len(p)` on every platform; the form as found, `uint64(len(p) * 8)`, multiplies in `int`
    and wraps for a single write of 2^28 bytes where `int` has 32 bits (repair 1bd5dbe). -/
theorem length_counted_in_uint64 : Gen.SM3.lengthUpdate = "wide" := by decide

/-- what the narrow form loses where `int` has 32 bits: 2^28 bytes count as -2^31 bits (converted to uint64: 2^64 - 2^31),
    2^29 bytes as 0 bits -/
theorem narrow_length_wraps : Int.bmod (2 ^ 28 * 8) (2 ^ 32) = -(2 ^ 31) ∧ (2 ^ 29 * 8) % 2 ^ 32 = 0 := by decide

end Props.C04
