/-
C17 — the PKCS#12 integrity check (pkcs12/mac.go `verifyMac`, the MAC part of pkcs12.go `getSafeContents`)
accepts only the WHOLE MAC: theorems about `Model.PKCS12` for all inputs and ALL stored digest lengths.

`hmac` is any function whose output has a fixed length `L` (HMAC-SHA1 in the code: `hmacSHA1_length`, L = 20).

`mac_accepts_iff_exact_length` is the whole verdict; a stored digest of any other length (0 octets, a
proper prefix or suffix of the right MAC, the MAC followed by more octets) is answered `ErrIncorrectPassword`
when the algorithm is SHA-1 and `macKey` returns a key (`mac_wrong_length_rejected` and its three instances),
and a PFX with such a digest is never opened (`getSafeContents_wrong_length_rejected`: the result is `≠ .ok r`,
which error is not stated; the retry with the nil password included).
Tied to the code by the ops `p12macd` / `p12mactrunc` (lean/Driver/P12MacLen.lean, harness/c17mactrunc.go).
-/
import Gmsm.Model.PKCS12
import Gmsm.Spec.SHA1
import Gmsm.Spec.HMAC
import Gmsm.Props.C17KDF
namespace Props.C17MacLen
open Gmsm Model.PKCS12

theorem hmacSHA1_length (key msg : Bytes) : (Spec.HMAC.hmac Spec.SHA1.hash key msg).length = 20 := by
  unfold Spec.HMAC.hmac
  exact Spec.SHA1.hash_length _

theorem mac_accepted_has_hmac_length (H : Bytes → Bytes) (hmac : Bytes → Bytes → Bytes) (L : Nat)
    (hL : ∀ key msg, (hmac key msg).length = L) (m : MacData) (message password : Bytes)
    (h : verifyMac H hmac m message password = .ok ()) :
    m.digest.length = L ∧ ∃ key, macKey H m password = some key ∧ m.digest = hmac key message := by
  obtain ⟨_, key, hk, hd⟩ := (Props.C17KDF.mac_accepts_iff_key H hmac m message password).mp h
  exact ⟨hd ▸ hL key message, key, hk, hd⟩

/-- **mac.go:30-45 `verifyMac`** accepts iff the digest algorithm is SHA-1, `pbkdf` returns a key, the stored
    digest has exactly the HMAC length and is the HMAC of the message under that key — for every stored digest,
    of every length. -/
theorem mac_accepts_iff_exact_length (H : Bytes → Bytes) (hmac : Bytes → Bytes → Bytes) (L : Nat)
    (hL : ∀ key msg, (hmac key msg).length = L) (m : MacData) (message password : Bytes) :
    verifyMac H hmac m message password = .ok () ↔
      m.algIsSHA1 = true ∧ m.digest.length = L ∧
        ∃ key, macKey H m password = some key ∧ m.digest = hmac key message := by
  rw [Props.C17KDF.mac_accepts_iff_key]
  exact ⟨fun ⟨ha, key, hk, hd⟩ => ⟨ha, hd ▸ hL key message, key, hk, hd⟩, fun ⟨ha, _, r⟩ => ⟨ha, r⟩⟩

theorem mac_wrong_length_not_accepted (H : Bytes → Bytes) (hmac : Bytes → Bytes → Bytes) (L : Nat)
    (hL : ∀ key msg, (hmac key msg).length = L) (m : MacData) (message password : Bytes)
    (hlen : m.digest.length ≠ L) :
    verifyMac H hmac m message password ≠ .ok () :=
  fun h => hlen (mac_accepted_has_hmac_length H hmac L hL m message password h).1

/-- 0 octets included: an emptied MAC value does not switch the integrity check off -/
theorem mac_wrong_length_rejected (H : Bytes → Bytes) (hmac : Bytes → Bytes → Bytes) (L : Nat)
    (hL : ∀ key msg, (hmac key msg).length = L) (m : MacData) (message password : Bytes)
    (ha : m.algIsSHA1 = true) (key : Bytes) (hk : macKey H m password = some key)
    (hlen : m.digest.length ≠ L) :
    verifyMac H hmac m message password = .error .incorrectPassword := by
  have hd : m.digest ≠ hmac key message := fun e => hlen (e ▸ hL key message)
  rw [Props.C17KDF.verifyMac_of_key ha hk, if_neg hd]

/-- the MAC key does not depend on the stored digest -/
theorem macKey_digest (H : Bytes → Bytes) (m : MacData) (d password : Bytes) :
    macKey H { m with digest := d } password = macKey H m password := rfl

/-- the first k < L octets of the right MAC are rejected (a "truncated HMAC" is not accepted) -/
theorem mac_proper_prefix_rejected (H : Bytes → Bytes) (hmac : Bytes → Bytes → Bytes) (L : Nat)
    (hL : ∀ key msg, (hmac key msg).length = L) (m : MacData) (message password : Bytes)
    (ha : m.algIsSHA1 = true) (key : Bytes) (hk : macKey H m password = some key) (k : Nat) (hkL : k < L) :
    verifyMac H hmac { m with digest := (hmac key message).take k } message password = .error .incorrectPassword := by
  refine mac_wrong_length_rejected H hmac L hL { m with digest := (hmac key message).take k } message password ha key hk ?_
  simp only [List.length_take, hL]
  omega

/-- the last k < L octets of the right MAC are rejected -/
theorem mac_proper_suffix_rejected (H : Bytes → Bytes) (hmac : Bytes → Bytes → Bytes) (L : Nat)
    (hL : ∀ key msg, (hmac key msg).length = L) (m : MacData) (message password : Bytes)
    (ha : m.algIsSHA1 = true) (key : Bytes) (hk : macKey H m password = some key) (k : Nat) (hkL : k < L) :
    verifyMac H hmac { m with digest := (hmac key message).drop (L - k) } message password = .error .incorrectPassword := by
  refine mac_wrong_length_rejected H hmac L hL { m with digest := (hmac key message).drop (L - k) } message password ha key hk ?_
  simp only [List.length_drop, hL]
  omega

/-- the right MAC followed by more octets is rejected -/
theorem mac_extended_rejected (H : Bytes → Bytes) (hmac : Bytes → Bytes → Bytes) (L : Nat)
    (hL : ∀ key msg, (hmac key msg).length = L) (m : MacData) (message password : Bytes)
    (ha : m.algIsSHA1 = true) (key : Bytes) (hk : macKey H m password = some key) (extra : Bytes) (he : extra ≠ []) :
    verifyMac H hmac { m with digest := hmac key message ++ extra } message password = .error .incorrectPassword := by
  refine mac_wrong_length_rejected H hmac L hL { m with digest := hmac key message ++ extra } message password ha key hk ?_
  have : extra.length ≠ 0 := fun h => he (List.length_eq_zero_iff.mp h)
  simp only [List.length_append, hL]
  omega

/-- **pkcs12.go `getSafeContents`**: a PFX whose stored MAC value has not exactly the HMAC length is never
    opened — for every password (the retry with the nil password for `00 00` included), every content and
    whatever the code behind the MAC check (`rest`) would do. -/
theorem getSafeContents_wrong_length_rejected {β : Type} (H : Bytes → Bytes) (hmac : Bytes → Bytes → Bytes) (L : Nat)
    (hL : ∀ key msg, (hmac key msg).length = L) (rest : Bytes → Bytes → Except Err β) (pfx : Pfx) (password : Bytes)
    (hlen : pfx.macData.digest.length ≠ L) (r : β × Bytes) :
    getSafeContents H hmac rest (some pfx) password ≠ .ok r := by
  have hno : ∀ content pw, verifyMac H hmac pfx.macData content pw ≠ .ok () :=
    fun content pw => mac_wrong_length_not_accepted H hmac L hL pfx.macData content pw hlen
  intro h
  obtain ⟨_, content, hp, wf⟩ := Props.C17KDF.getSafeContents_ok_wf H hmac rest _ password r h
  cases hp
  rcases (Props.C17KDF.getSafeContents_ok_iff H hmac rest pfx content password wf r.1 r.2).mp h with
    ⟨hv, _⟩ | ⟨_, _, hv, _⟩ <;> exact hno _ _ hv

/-- the instance the code runs (SHA-1, HMAC-SHA1): an accepted stored digest has exactly 20 octets -/
theorem sha1_mac_accepted_has_20_octets (m : MacData) (message password : Bytes)
    (h : verifyMac Spec.SHA1.hash (Spec.HMAC.hmac Spec.SHA1.hash) m message password = .ok ()) :
    m.digest.length = 20 :=
  (mac_accepted_has_hmac_length _ _ 20 hmacSHA1_length m message password h).1

/-- the same instance: a PFX whose stored digest has not 20 octets is not opened by `getSafeContents` -/
theorem sha1_pfx_wrong_length_rejected {β : Type} (rest : Bytes → Bytes → Except Err β) (pfx : Pfx) (password : Bytes)
    (hlen : pfx.macData.digest.length ≠ 20) (r : β × Bytes) :
    getSafeContents Spec.SHA1.hash (Spec.HMAC.hmac Spec.SHA1.hash) rest (some pfx) password ≠ .ok r :=
  getSafeContents_wrong_length_rejected _ _ 20 hmacSHA1_length rest pfx password hlen r

/-- with a toy 2-octet "HMAC" (and any hash with 20-octet output) the whole value is accepted,
    its 1-octet prefix and the empty string are not -/
example (H : Bytes → Bytes) (hH : ∀ x, (H x).length = 20) :
    verifyMac H (fun _ _ => [1, 2]) ⟨true, [1, 2], [], 1⟩ [] [] = .ok () ∧
    verifyMac H (fun _ _ => [1, 2]) ⟨true, [1], [], 1⟩ [] [] = .error .incorrectPassword ∧
    verifyMac H (fun _ _ => [1, 2]) ⟨true, [], [], 1⟩ [] [] = .error .incorrectPassword := by
  refine ⟨?_, ?_, ?_⟩ <;> simp [verifyMac, Props.C17KDF.macKey_eq_spec H hH]

end Props.C17MacLen
