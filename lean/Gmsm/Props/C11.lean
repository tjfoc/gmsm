/-
C11 — SM4 ECB/CBC/CFB/OFB helpers equal the standard PKCS#7-padded modes and invert (`enc_eq_spec`, `dec_enc`,
`key_len`; 16-byte key, and 16-byte IV for the inverse).  Last section, caller memory: the repaired `pkcs7Padding`
changes no array that existed before the call (`paddingNew_no_caller_write`), the one as found overwrote the
spare capacity behind the input slice (`paddingOld_writes_spare_capacity`, a witness).
Chain lemmas are in Gmsm/Proofs/Modes.lean, pad arithmetic in Gmsm/Proofs/Padding.lean; SM4 block facts from C05.
-/
import Gmsm.Model.SM4Modes
import Gmsm.Proofs.Modes
import Gmsm.Proofs.Padding
import Gmsm.Proofs.BytesNat
import Gmsm.Proofs.ListLemmas
import Gmsm.Props.C05
namespace Props.C11
open Gmsm Spec.Modes Model.SM4Modes Proofs.Modes Proofs.Padding

theorem len_pad (p : Bytes) : (pad16 p).length = 16 * (p.length / 16 + 1) := pad16_length p

/-- `pkcs7UnPadding` strips a pad of `k` bytes `k`, `1 ≤ k ≤ 16`, whatever precedes it -/
theorem unpad_append_replicate (p : Bytes) (k : Nat) (h1 : 1 ≤ k) (h16 : k ≤ 16) :
    unpad (p ++ List.replicate k (BitVec.ofNat 8 k)) = some p ∧
      unpadPanics (p ++ List.replicate k (BitVec.ofNat 8 k)) = false := by
  have hlen : (p ++ List.replicate k (BitVec.ofNat 8 k)).length = p.length + k := by simp
  have hnat := toNat_ofNat8 k (by omega)
  constructor
  · unfold unpad
    simp only [getLastD_append_replicate p k _ _ h1, hnat, hlen]
    rw [if_neg (by omega), if_neg (by omega), if_neg (by omega), Nat.add_sub_cancel, List.drop_left, List.take_left]
    simp
  · unfold unpadPanics
    rw [getLastD_append_replicate p k _ _ h1, hnat, hlen]
    simp

/-- un-padding a padded string returns the string (and never hits the slice-bounds panic) -/
theorem unpad_pad (p : Bytes) : unpad (pad16 p) = some p ∧ unpadPanics (pad16 p) = false :=
  unpad_append_replicate p _ (pad_pos 16 _ (by decide)) (Nat.sub_le _ _)

theorem sm4D_len (key x : Bytes) : (Spec.SM4.decrypt key x).length = 16 := Props.C05.dec_length key x

theorem encBlocks_all (m : Mode) (key iv : Bytes) (bs : List Bytes) (h : AllBlk bs) :
    AllBlk (runBlocks m true (Spec.SM4.encrypt key) (Spec.SM4.decrypt key) iv bs) ∧
    (runBlocks m true (Spec.SM4.encrypt key) (Spec.SM4.decrypt key) iv bs).length = bs.length := by
  cases m <;> simp only [runBlocks]
  · exact ⟨ecb_all _ (Props.C05.enc_length key) bs, by simp [ecb]⟩
  · exact ⟨cbcEnc_all _ (Props.C05.enc_length key) iv bs, cbcEnc_length _ iv bs⟩
  · exact ⟨cfbEnc_all _ iv bs h (Props.C05.enc_length key), cfbEnc_length _ iv bs⟩
  · exact ⟨ofb_all _ iv bs h (Props.C05.enc_length key), ofb_length _ iv bs⟩

/-- decryption chains invert encryption chains (SM4 decryption inverts SM4 encryption: C05) -/
theorem dec_enc_blocks (m : Mode) (key iv : Bytes) (hiv : iv.length = 16) (bs : List Bytes) (h : AllBlk bs) :
    runBlocks m false (Spec.SM4.encrypt key) (Spec.SM4.decrypt key) iv
      (runBlocks m true (Spec.SM4.encrypt key) (Spec.SM4.decrypt key) iv bs) = bs := by
  cases m <;> simp only [runBlocks]
  · exact ecb_inv _ _ bs h (fun x hx => Props.C05.dec_enc key x hx)
  · exact cbc_inv _ _ (fun x hx => Props.C05.dec_enc key x hx) iv hiv bs h (Props.C05.enc_length key)
  · exact cfb_inv _ iv bs h (Props.C05.enc_length key)
  · exact ofb_inv _ iv bs h (Props.C05.enc_length key)

/-- what the standard prescribes: the mode over SM4 applied to the blocks of the PKCS#7-padded input -/
def specEnc (m : Mode) (key iv p : Bytes) : Bytes :=
  (runBlocks m true (Spec.SM4.encrypt key) (Spec.SM4.decrypt key) iv
    (blocks (p.length / 16 + 1) (pad16 p))).flatten

/-- C11: each helper in encryption mode returns exactly the SP 800-38A mode over SM4 of the padded plaintext -/
theorem enc_eq_spec (m : Mode) (key iv p : Bytes) (hk : key.length = 16) :
    helper m key iv p true = .ok (specEnc m key iv p) := by
  unfold helper specEnc
  simp [hk, pad16_length p]

/-- the ciphertext length is the next multiple of 16 strictly above the plaintext length -/
theorem out_len (m : Mode) (key iv p : Bytes) : (specEnc m key iv p).length = 16 * (p.length / 16 + 1) := by
  unfold specEnc
  have hb := blocks_all (p.length / 16 + 1) (pad16 p) (by rw [pad16_length]; omega)
  have := encBlocks_all m key iv _ hb
  rw [flatten_length _ this.1, this.2, blocks_length]

/-- C11: decrypting the helper's ciphertext with the same key and IV returns exactly the original plaintext (every
    length, every content) -/
theorem dec_enc (m : Mode) (key iv p : Bytes) (hk : key.length = 16) (hiv : iv.length = 16) :
    helper m key iv (specEnc m key iv p) false = .ok p := by
  have hb := blocks_all (p.length / 16 + 1) (pad16 p) (by rw [pad16_length]; omega)
  have henc := encBlocks_all m key iv _ hb
  -- cutting the ciphertext into blocks gives back the blocks the chain produced
  have hblk : blocks (p.length / 16 + 1) (specEnc m key iv p) =
      runBlocks m true (Spec.SM4.encrypt key) (Spec.SM4.decrypt key) iv (blocks (p.length / 16 + 1) (pad16 p)) := by
    have := blocks_flatten _ henc.1 []
    rw [henc.2, blocks_length, List.append_nil] at this
    exact this
  unfold helper
  simp only [hk, ne_eq, not_true_eq_false, if_false, Bool.false_eq_true]
  rw [out_len, Nat.mul_div_cancel_left _ (Nat.succ_pos 15), Nat.sub_self, hblk, dec_enc_blocks m key iv hiv _ hb,
    flatten_blocks _ _ (pad16_length p), List.replicate_zero, List.append_nil, (unpad_pad p).1, (unpad_pad p).2]
  rfl

/-- the helpers fail exactly for keys whose length is not 16 -/
theorem key_len (m : Mode) (key iv p : Bytes) (enc : Bool) :
    helper m key iv p enc = .err ↔ key.length ≠ 16 := by
  unfold helper
  by_cases h : key.length = 16
  · simp only [h, ne_eq, not_true_eq_false, if_false, iff_false]
    cases enc
    · simp only [Bool.false_eq_true, if_false]
      split
      · simp
      · split <;> simp
    · simp
  · simp [h]

/-- Repaired `pkcs7Padding`: every array that existed before the call is unchanged — in particular the spare
    capacity behind the input slice — and the result holds the padded input. -/
theorem paddingNew_no_caller_write (h : Heap) (src : Slice) :
    (∀ i, i < h.length → (paddingNew h src).1.getD i [] = h.getD i []) ∧
    (paddingNew h src).1.read (paddingNew h src).2 = h.read src ++ padBytes src.len := by
  constructor
  · intro i hi
    simp [paddingNew, List.getD_eq_getElem?_getD, List.getElem?_append_left hi]
  · simp [paddingNew, Heap.read, List.getD_eq_getElem?_getD]
    apply List.take_of_length_le
    simp only [List.length_append, List.length_take]
    omega

/-- `pkcs7Padding` as found: `append(src, pad…)` overwrites the caller's spare capacity.
    Witness: a 5-byte slice (capacity 32) of a 32-cell array of 0xaa bytes. -/
theorem paddingOld_writes_spare_capacity :
    ∃ (h : Heap) (src : Slice), (paddingOld h src).1.getD src.arr [] ≠ h.getD src.arr [] :=
  ⟨[List.replicate 32 0xaa], ⟨0, 0, 5, 32⟩, by decide⟩

/-- a plaintext that ends in bytes looking like padding -/
example : helper .cbc Props.C05.exKey Props.C05.exKey
    (specEnc .cbc Props.C05.exKey Props.C05.exKey [1, 2, 3, 3, 3]) false = .ok [1, 2, 3, 3, 3] :=
  dec_enc .cbc _ _ _ (by decide) (by decide)

end Props.C11
