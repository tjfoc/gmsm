/-
C15 / C18 / C08 — the client's key-agreement step (`Model.KeyAgreement`) never panics and never ends with a
pre-master secret that does not depend on the peer's share, whatever certificate key type and whatever
ServerKeyExchange fields the server chose; it goes on only with a share decoded on the very curve it computes on.

Before the repairs two of these statements were false for the code:
  * `ecdheKeyAgreementGM.processServerKeyExchange` stored named_curve unchecked, i.e. it produced
    `⟨id, some .sm2, false⟩` for every id; `generate` maps these to `panic` (all ids but 0 and 29, see
    `unchecked_share_panics`) or to `zeroShare` (29).
  * `rsaKeyAgreement.generateClientKeyExchange` asserted `cert.PublicKey.(*rsa.PublicKey)`: `panic` for the
    `ecNist` / `ecSM2` keys that `tlsCertOk` lets through.
-/
import Gmsm.Model.KeyAgreement
namespace Props.C15KeyAgreement
open Model.KeyAgreement

theorem curveForCurveID_ne_sm2 (id : Nat) : curveForCurveID id ≠ some .sm2 := by
  fun_cases curveForCurveID id <;> intro h <;> cases h

/-- why the check is needed: `generate` on a share decoded on the SM2 curve under an unchecked named_curve panics,
    except for 0 ("missing ServerKeyExchange") and 29 (X25519, `unchecked_share_x25519`) -/
theorem unchecked_share_panics (id : Nat) (h0 : id ≠ 0) (h29 : id ≠ 29) :
    generate ⟨id, some .sm2, false⟩ = .panic := by
  have hne := curveForCurveID_ne_sm2 id
  unfold generate x25519
  simp only [h0, h29, if_false]
  cases hc : curveForCurveID id with
  | none => rfl
  | some c =>
    have : c ≠ .sm2 := fun h => hne (by rw [hc, h])
    simp [this]

/-- … and with X25519 as the named curve the pre-master secret is 0^32 -/
theorem unchecked_share_x25519 : generate ⟨29, some .sm2, false⟩ = .zeroShare := by decide

/-- the table-generic definitions are `generate` / `processGM` at the package's table -/
theorem generateWith_table (s : Share) : generateWith curveForCurveID s = generate s := rfl
theorem processGMWith_table (m : Skx) : processGMWith curveForCurveID m = processGM m := rfl

theorem processGMWith_eq_some (tbl : Nat → Option Curve) (m : Skx) (s : Share) : processGMWith tbl m = some s ↔
    m.curveType = 3 ∧ tbl m.curveid = some .sm2 ∧ m.onCurve .sm2 = true ∧ m.sigOk = true ∧
      s = ⟨m.curveid, some .sm2, false⟩ := by
  unfold processGMWith
  by_cases h3 : m.curveType = 3
  · cases hc : tbl m.curveid with
    | none => simp [h3]
    | some c => cases c <;> simp [h3, @eq_comm _ _ s, and_assoc]
  · simp [h3]

theorem processTLS_eq_some (m : Skx) (s : Share) : processTLS m = some s ↔
    m.curveType = 3 ∧
      ((m.curveid = x25519 ∧ m.len32 = true ∧ m.sigOk = true ∧ s = ⟨m.curveid, none, true⟩) ∨
       (m.curveid ≠ x25519 ∧ ∃ c, curveForCurveID m.curveid = some c ∧ m.onCurve c = true ∧ m.sigOk = true ∧
          s = ⟨m.curveid, some c, false⟩)) := by
  unfold processTLS
  by_cases h3 : m.curveType = 3
  · by_cases h29 : m.curveid = x25519
    · simp [h3, h29, @eq_comm _ _ s, and_assoc]
    · cases hc : curveForCurveID m.curveid <;> simp [h3, h29, @eq_comm _ _ s, and_assoc]
  · simp [h3]

theorem generateWith_ecdh (tbl : Nat → Option Curve) (id : Nat) (c : Curve) (h0 : id ≠ 0) (h29 : id ≠ x25519)
    (hc : tbl id = some c) : generateWith tbl ⟨id, some c, false⟩ = .ecdh c := by
  simp [generateWith, h0, h29, hc]

/-- The repaired check is the right one whatever the identifier table contains (as long as it does not call 0 or 29
    the SM2 curve, which `generate` treats specially): what it lets through makes `generate` run the Diffie-Hellman
    on the SM2 curve with a point of that curve whose signature verified.  Non-vacuous for a table that knows the SM2
    curve (`tbl41`); for the package's table see `processGM_refuses_all`. -/
theorem processGMWith_sound (tbl : Nat → Option Curve) (h0 : tbl 0 ≠ some .sm2) (h29 : tbl x25519 ≠ some .sm2)
    (m : Skx) (s : Share) (h : processGMWith tbl m = some s) :
    generateWith tbl s = .ecdh .sm2 ∧ m.curveType = 3 ∧ tbl m.curveid = some .sm2 ∧ m.onCurve .sm2 = true ∧ m.sigOk = true := by
  obtain ⟨h3, hc, hon, hs, rfl⟩ := (processGMWith_eq_some tbl m s).mp h
  exact ⟨generateWith_ecdh tbl _ _ (fun hz => h0 (hz ▸ hc)) (fun hz => h29 (hz ▸ hc)) hc, h3, hc, hon, hs⟩

/-- As `curveForCurveID` names no SM2 curve, the repaired GMSSL client refuses every ECDHE ServerKeyExchange: there is
    no value of named_curve for which `ecdheKeyAgreementGM` (whose server side is "not implemented") can serve the
    exchange.  The ECDHE-SM2 suites 0xe011 / 0xe051, which the client still offers, always end in an error on the
    client. -/
theorem processGM_refuses_all (m : Skx) : processGM m = none := by
  cases h : processGM m with
  | none => rfl
  | some s => exact absurd ((processGMWith_eq_some curveForCurveID m s).mp h).2.1 (curveForCurveID_ne_sm2 _)

theorem generate_after_processTLS (m : Skx) (s : Share) (h : processTLS m = some s) :
    generate s = .x25519 ∨ ∃ c, generate s = .ecdh c ∧ curveForCurveID m.curveid = some c ∧ m.onCurve c = true := by
  obtain ⟨_, ⟨h29, _, _, rfl⟩ | ⟨h29, c, hc, hon, _, rfl⟩⟩ := (processTLS_eq_some m s).mp h
  · left; rw [h29]; rfl
  · exact .inr ⟨c, generateWith_ecdh _ _ c (fun hz => by rw [hz] at hc; cases hc) h29 hc, hc, hon⟩

theorem clientKx_ecdhe (key : KeyType) (skx : Option Skx) (h : clientKx .ecdhe key skx ≠ .error) :
    ∃ m, skx = some m ∧ m.curveType = 3 ∧ m.sigOk = true ∧
      ((m.curveid = x25519 ∧ m.len32 = true ∧ clientKx .ecdhe key skx = .x25519) ∨
       (∃ c, curveForCurveID m.curveid = some c ∧ m.onCurve c = true ∧ clientKx .ecdhe key skx = .ecdh c)) := by
  generalize hk : Kx.ecdhe = kx at h ⊢
  revert h
  fun_cases clientKx kx key skx <;> cases hk <;> intro h
  iterate 3 exact absurd rfl h
  rename_i m s hp
  obtain ⟨h3, ⟨h29, hl, hs, rfl⟩ | ⟨h29, c, hc, hon, hs, rfl⟩⟩ := (processTLS_eq_some m s).mp hp
  · exact ⟨m, rfl, h3, hs, .inl ⟨h29, hl, by rw [h29]; rfl⟩⟩
  · exact ⟨m, rfl, h3, hs, .inr ⟨c, hc, hon,
      generateWith_ecdh _ _ c (fun hz => by rw [hz] at hc; cases hc) h29 hc⟩⟩

theorem ecdheGM_always_error (key : KeyType) (skx : Option Skx) : clientKx .ecdheGM key skx = .error := by
  unfold clientKx
  dsimp only
  split
  · rfl
  · cases skx with
    | none => rfl
    | some m => simp [processGM_refuses_all m]

/-- an EC / SM2 certificate under an RSA suite is an error (it was a panic) -/
theorem clientKx_rsa (key : KeyType) (skx : Option Skx) :
    clientKx .rsa key skx = if key = .rsa ∧ skx = none then .rsaEncrypt else .error := by
  unfold clientKx
  cases key <;> cases skx <;> simp [tlsCertOk, rsaGenerate]

theorem rsa_goes_on_iff (key : KeyType) (skx : Option Skx) :
    clientKx .rsa key skx = .rsaEncrypt ↔ (key = .rsa ∧ skx = none) := by
  rw [clientKx_rsa]; split <;> simp [*]

theorem rsa_wrong_key_is_error (key : KeyType) (skx : Option Skx) (h : key ≠ .rsa) :
    clientKx .rsa key skx = .error := by
  rw [clientKx_rsa, if_neg fun hk => h hk.1]

/-- for every suite kind, certificate key type and ServerKeyExchange (present or not, any field values) the client's
    key-agreement step neither panics nor derives the constant pre-master secret -/
theorem clientKx_never_panics (kx : Kx) (key : KeyType) (skx : Option Skx) :
    clientKx kx key skx ≠ .panic ∧ clientKx kx key skx ≠ .zeroShare := by
  cases kx with
  | rsa => rw [clientKx_rsa]; split <;> simp
  | ecdhe =>
    by_cases h : clientKx .ecdhe key skx = .error
    · rw [h]; simp
    · obtain ⟨_, _, _, _, ⟨_, _, e⟩ | ⟨_, _, _, e⟩⟩ := clientKx_ecdhe key skx h <;> rw [e] <;> simp
  | ecdheGM => rw [ecdheGM_always_error]; simp

/-- "Never accepts a mismatch": whenever the client sends its ClientKeyExchange, the way the pre-master secret comes
    about is the one of the suite, with the key type / the curve the server's messages really have. -/
theorem clientKx_accepts_only_matching (kx : Kx) (key : KeyType) (skx : Option Skx) :
    (clientKx kx key skx = .rsaEncrypt → kx = .rsa ∧ key = .rsa ∧ skx = none) ∧
    (∀ c, clientKx kx key skx = .ecdh c →
       kx = .ecdhe ∧ ∃ m, skx = some m ∧ m.curveType = 3 ∧ curveForCurveID m.curveid = some c ∧ m.onCurve c = true ∧ m.sigOk = true) ∧
    (clientKx kx key skx = .x25519 →
       kx = .ecdhe ∧ ∃ m, skx = some m ∧ m.curveType = 3 ∧ m.curveid = x25519 ∧ m.len32 = true ∧ m.sigOk = true) := by
  cases kx with
  | ecdheGM =>
    rw [ecdheGM_always_error]
    refine ⟨by simp, fun c => by simp, by simp⟩
  | rsa =>
    refine ⟨fun h => ⟨rfl, (rsa_goes_on_iff key skx).mp h⟩, fun c => ?_, ?_⟩ <;> rw [clientKx_rsa] <;> split <;> simp
  | ecdhe =>
    refine ⟨fun h => ?_, fun c h => ?_, fun h => ?_⟩ <;>
      obtain ⟨m, hm, h3, hs, ⟨h29, hl, e⟩ | ⟨d, hd, hon, e⟩⟩ := clientKx_ecdhe key skx (by rw [h]; simp) <;>
      rw [h] at e <;> cases e
    · exact ⟨rfl, m, hm, h3, hd, hon, hs⟩
    · exact ⟨rfl, m, hm, h3, h29, hl, hs⟩

/-! Non-vacuity: the step does go on for matching inputs, and the inputs of the reports are errors. -/

/-- a ServerKeyExchange naming `id`, whose point is on `c` (and is not a 32-byte string), correctly signed -/
def skxOn (id : Nat) (c : Curve) : Skx := ⟨3, id, fun d => d == c, false, true⟩

example : clientKx .rsa .rsa none = .rsaEncrypt := by decide
example : clientKx .ecdhe .ecNist (some (skxOn 23 .p256)) = .ecdh .p256 := by decide
example : clientKx .ecdhe .rsa (some ⟨3, 29, fun _ => false, true, true⟩) = .x25519 := by decide
-- the reports' inputs: SM2 point under named_curve 23 / 24 / 25 / 29 / 0x1234 / 0, GM ECDHE suite
example : clientKx .ecdheGM .ecSM2 (some (skxOn 23 .sm2)) = .error := by decide
example : clientKx .ecdheGM .ecSM2 (some (skxOn 29 .sm2)) = .error := by decide
example : clientKx .ecdheGM .ecSM2 (some (skxOn 0x1234 .sm2)) = .error := by decide
example : clientKx .ecdheGM .ecSM2 (some (skxOn 0 .sm2)) = .error := by decide
-- TLS_RSA_* with an EC / SM2 certificate
example : clientKx .rsa .ecNist none = .error := by decide
example : clientKx .rsa .ecSM2 none = .error := by decide
-- a P-256 point under named_curve 24: TLS refuses at `elliptic.Unmarshal`
example : clientKx .ecdhe .ecNist (some (skxOn 24 .p256)) = .error := by decide
-- a table that knows the SM2 curve (RFC 8998 curveSM2 = 41): the check lets exactly that identifier through
def tbl41 (id : Nat) : Option Curve := if id = 41 then some .sm2 else curveForCurveID id
example : processGMWith tbl41 (skxOn 41 .sm2) = some ⟨41, some .sm2, false⟩ := by decide
example : generateWith tbl41 ⟨41, some .sm2, false⟩ = .ecdh .sm2 := by decide
example : processGMWith tbl41 (skxOn 23 .sm2) = none := by decide
example : processGMWith tbl41 (skxOn 29 .sm2) = none := by decide
example : processGMWith tbl41 (skxOn 41 .p256) = none := by decide
-- what the unrepaired GM step handed to `generate`
example : generate ⟨23, some .sm2, false⟩ = .panic := by decide
example : generate ⟨0x1234, some .sm2, false⟩ = .panic := by decide

end Props.C15KeyAgreement
