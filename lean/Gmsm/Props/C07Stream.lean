/-
C06 / C07 — the protected record layer as a byte STREAM, end to end (`Model.Record`, both suites).

`Props/C07.lean` and `Props/C07CBC.lean` are about ONE record.  This file lifts them to the byte stream an
application hands to `Conn.Write` and the byte stream the peer's `Conn.Read` returns, through
`Writer.write` (fragmentation, 1/n-1 split, dynamic record sizing, explicit IVs / nonces) and `readAll`
(header checks, `halfConn.decrypt`, alert handling, sticky error) on raw wire bytes.

A: the writer (`write_fragments`).  B: the honest channel, writes are read back as their concatenation
(`stream_preserved`).  C: on ARBITRARY wire bytes the receiver delivers a prefix of what was sent
(`cbc_prefix_delivery` under `MacAuthentic`, `gcm_prefix_delivery` under `Props.C07.Authentic`); both are
`prefix_of_acceptsOnlySent`, one induction over the reader (`readAllH_induct`).  D: the receiver's sequence
number and the sticky error.

Auxiliary definitions made here (`encFrags`, `parse`, `dispatch`, `readAllH`, `writeMany`) are either plain
specifications or are proved equal to the model's functions (`readAll_eq_readAllH`).  Cryptographic hardness
appears only as hypotheses, never as axioms.
-/
import Gmsm.Props.C07CBC
import Gmsm.Proofs.ListLemmas
namespace Props.C07Stream
open Gmsm Model.Record

/-! ## A. The writer: `Conn.Write` → `writeRecordLocked` -/

/-- the explicit IV (CBC: the next 16 bytes of `Config.Rand`) or explicit nonce (GCM: the 8-byte sequence
    number) that `writeRecordLocked` puts in front of the next record -/
def explicitOf (h : Half) (rand : Bytes) : Bytes :=
  match h.suite with
  | .cbc => rand.take 16
  | .gcm => seqBytes h.seq

/-- what is left of the `Config.Rand` supply after `k` records (CBC consumes 16 bytes per record, GCM none) -/
def randAfter (s : Suite) (k : Nat) (rand : Bytes) : Bytes :=
  match s with
  | .cbc => rand.drop (16 * k)
  | .gcm => rand

/-- SPECIFICATION of the wire image of a list of payload fragments: fragment `i` is encrypted by
    `halfConn.encrypt` as application data (type 23) under sequence number `h.seq + i`, with the explicit
    IV / nonce the writer would use at that point -/
def encFrags (h : Half) (rand : Bytes) : List Bytes → List Bytes
  | [] => []
  | f :: fs =>
    (h.encrypt 23 (explicitOf h rand) f).1 ::
      encFrags { h with seq := h.seq + 1 } (randAfter h.suite 1 rand) fs

theorem encrypt_snd (h : Half) (typ : Byte) (e p : Bytes) :
    (h.encrypt typ e p).2 = { h with seq := h.seq + 1 } := by
  unfold Half.encrypt
  cases h.suite <;> rfl

theorem maxPayload_facts (w : Writer) :
    1 ≤ (maxPayload w).1 ∧ (maxPayload w).1 ≤ 16384 ∧ (maxPayload w).2.half = w.half ∧
    (maxPayload w).2.rand = w.rand ∧ (maxPayload w).2.bytesSent = w.bytesSent := by
  unfold maxPayload
  split
  · simp
  · cases w.half.suite <;> simp only <;> split <;> simp <;> omega

def afterRecord (w : Writer) (n : Nat) : Writer :=
  { half := { w.half with seq := w.half.seq + 1 }
    bytesSent := w.bytesSent + n
    packetsSent := (maxPayload w).2.packetsSent
    rand := randAfter w.half.suite 1 w.rand }

theorem writeRecords_succ (fuel : Nat) (w : Writer) (data : Bytes) (hne : data ≠ []) :
    writeRecords (fuel + 1) w data =
      let m := min data.length (maxPayload w).1
      let r := (w.half.encrypt 23 (explicitOf w.half w.rand) (data.take m)).1
      (r :: (writeRecords fuel (afterRecord w r.length) (data.drop m)).1,
        (writeRecords fuel (afterRecord w r.length) (data.drop m)).2) := by
  obtain ⟨_, _, h3, h4, h5⟩ := maxPayload_facts w
  have hemp : data.isEmpty = false := by cases data <;> simp_all
  rw [writeRecords]
  simp only [hemp, Bool.false_eq_true, if_false]
  rcases hmp : maxPayload w with ⟨mx, w1⟩
  rw [hmp] at h3 h4 h5
  simp only at h3 h4 h5 ⊢
  rcases hw : w.half with ⟨s, k, q⟩
  cases s <;> simp [h3, h4, h5, hw, explicitOf, randAfter, encrypt_snd, afterRecord, hmp]

theorem randAfter_add (s : Suite) (j k : Nat) (rand : Bytes) :
    randAfter s k (randAfter s j rand) = randAfter s (k + j) rand := by
  cases s
  · simp only [randAfter, List.drop_drop]; congr 1; omega
  · rfl

theorem randAfter_zero (s : Suite) (rand : Bytes) : randAfter s 0 rand = rand := by
  cases s <;> simp [randAfter]

/-- total number of wire bytes of a list of records -/
def recLen (rs : List Bytes) : Nat := (rs.map List.length).sum

theorem recLen_append (a b : List Bytes) : recLen (a ++ b) = recLen a + recLen b := by
  simp [recLen]

theorem encFrags_length (h : Half) (rand : Bytes) (fs : List Bytes) :
    (encFrags h rand fs).length = fs.length := by
  induction fs generalizing h rand with
  | nil => rfl
  | cons f fs ih => simp [encFrags, ih]

theorem encFrags_append (h : Half) (rand : Bytes) (fs gs : List Bytes) :
    encFrags h rand (fs ++ gs) =
      encFrags h rand fs ++
        encFrags { h with seq := h.seq + fs.length } (randAfter h.suite fs.length rand) gs := by
  induction fs generalizing h rand with
  | nil => simp [encFrags, randAfter_zero]
  | cons f fs ih =>
    simp only [List.cons_append, encFrags, ih, List.length_cons, randAfter_add, Nat.add_assoc, Nat.add_comm 1]

theorem encFrags_get (h : Half) (rand : Bytes) (fs : List Bytes) (i : Nat) :
    (encFrags h rand fs)[i]? = fs[i]?.map (fun f =>
      (({ h with seq := h.seq + i } : Half).encrypt 23
        (explicitOf { h with seq := h.seq + i } (randAfter h.suite i rand)) f).1) := by
  induction fs generalizing h rand i with
  | nil => simp [encFrags]
  | cons f fs ih =>
    cases i with
    | zero => simp [encFrags, randAfter_zero]
    | succ i =>
      simp only [encFrags, List.getElem?_cons_succ, ih, randAfter_add, Nat.add_assoc, Nat.add_comm 1]

theorem encFrags_take (h : Half) (rand : Bytes) (fs : List Bytes) (n : Nat) :
    (encFrags h rand fs).take n = encFrags h rand (fs.take n) := by
  induction fs generalizing h rand n with
  | nil => simp [encFrags]
  | cons f fs ih =>
    cases n with
    | zero => simp [encFrags]
    | succ n => simp [encFrags, ih]

/-- `out` (records, writer state) is the result of writing the fragments `fs` from the state `w` -/
structure Wrote (w : Writer) (fs : List Bytes) (out : List Bytes × Writer) : Prop where
  sizes : ∀ f ∈ fs, 1 ≤ f.length ∧ f.length ≤ 16384
  recs : out.1 = encFrags w.half w.rand fs
  half : out.2.half = { w.half with seq := w.half.seq + fs.length }
  rand : out.2.rand = randAfter w.half.suite fs.length w.rand
  bytes : out.2.bytesSent = w.bytesSent + recLen out.1

theorem Wrote.nil (w : Writer) : Wrote w [] ([], w) :=
  ⟨by simp, rfl, rfl, (randAfter_zero _ _).symm, rfl⟩

theorem Wrote.one (w : Writer) (f : Bytes) (h1 : 1 ≤ f.length) (h2 : f.length ≤ 16384) :
    Wrote w [f] ([(w.half.encrypt 23 (explicitOf w.half w.rand) f).1],
      afterRecord w (w.half.encrypt 23 (explicitOf w.half w.rand) f).1.length) :=
  ⟨by simp [h1, h2], rfl, rfl, rfl, by simp [afterRecord, recLen]⟩

theorem Wrote.append {w : Writer} {fs gs : List Bytes} {o1 o2 : List Bytes × Writer}
    (h1 : Wrote w fs o1) (h2 : Wrote o1.2 gs o2) : Wrote w (fs ++ gs) (o1.1 ++ o2.1, o2.2) := by
  refine ⟨fun f hf => (List.mem_append.mp hf).elim (h1.sizes f) (h2.sizes f), ?_, ?_, ?_, ?_⟩
  · simp only; rw [h1.recs, h2.recs, h1.half, h1.rand, encFrags_append]
  · simp only; rw [h2.half, h1.half, List.length_append, Nat.add_assoc]
  · simp only; rw [h2.rand, h1.half, h1.rand, randAfter_add, List.length_append, Nat.add_comm gs.length]
  · simp only; rw [h2.bytes, h1.bytes, recLen_append, Nat.add_assoc]

theorem writeRecords_spec (fuel : Nat) (w : Writer) (data : Bytes) (hf : data.length ≤ fuel) :
    ∃ fs : List Bytes, fs.flatten = data ∧ Wrote w fs (writeRecords fuel w data) := by
  induction fuel generalizing w data with
  | zero =>
    have : data = [] := List.eq_nil_of_length_eq_zero (by omega)
    subst this
    exact ⟨[], rfl, Wrote.nil w⟩
  | succ fuel ih =>
    by_cases hne : data = []
    · subst hne
      exact ⟨[], rfl, Wrote.nil w⟩
    · obtain ⟨hm1, hm2, -, -, -⟩ := maxPayload_facts w
      have hpos : 0 < data.length := List.length_pos_iff.mpr hne
      rw [writeRecords_succ fuel w data hne]
      simp only
      generalize hm : min data.length (maxPayload w).1 = m
      obtain ⟨fs, h1, h2⟩ := ih (afterRecord w (w.half.encrypt 23 (explicitOf w.half w.rand) (data.take m)).1.length)
        (data.drop m) (by simp; omega)
      exact ⟨data.take m :: fs, by simp [h1],
        (Wrote.one w (data.take m) (by simp; omega) (by simp; omega)).append h2⟩

/-- The result of the model's write loop does not depend on the fuel once the fuel is at least the number of
    bytes to send (every iteration consumes at least one byte).  `Writer.write` always passes `len + 1` (and 2
    for the one-byte record), so the loop runs to completion like the unbounded `for` loop in Go. -/
theorem writeRecords_fuel (f1 f2 : Nat) (w : Writer) (data : Bytes)
    (h1 : data.length ≤ f1) (h2 : data.length ≤ f2) :
    writeRecords f1 w data = writeRecords f2 w data := by
  induction f1 generalizing f2 w data with
  | zero =>
    have : data = [] := List.eq_nil_of_length_eq_zero (by omega)
    subst this
    cases f2 <;> simp [writeRecords]
  | succ f1 ih =>
    by_cases hne : data = []
    · subst hne; cases f2 <;> simp [writeRecords]
    · have hpos : 0 < data.length := List.length_pos_iff.mpr hne
      obtain ⟨hm1, -, -, -, -⟩ := maxPayload_facts w
      obtain ⟨g, rfl⟩ : ∃ g, f2 = g + 1 := ⟨f2 - 1, by omega⟩
      rw [writeRecords_succ f1 w data hne, writeRecords_succ g w data hne]
      simp only
      rw [ih g _ _ (by simp; omega) (by simp; omega)]

theorem frags_count_le (fs : List Bytes) (hne : ∀ f ∈ fs, 1 ≤ f.length ∧ f.length ≤ 16384) :
    fs.length ≤ fs.flatten.length := by
  induction fs with
  | nil => simp
  | cons f fs ih =>
    have h1 := (hne f (by simp)).1
    have h2 := ih (fun x hx => hne x (by simp [hx]))
    rw [List.flatten_cons, List.length_append, List.length_cons]; omega

theorem frags_single (fs : List Bytes) (d : Bytes) (hfl : fs.flatten = d) (hd : d.length = 1)
    (hne : ∀ f ∈ fs, 1 ≤ f.length ∧ f.length ≤ 16384) : fs = [d] := by
  have hc := frags_count_le fs hne
  rw [hfl, hd] at hc
  cases fs with
  | nil => subst hfl; simp at hd
  | cons f rest =>
    cases rest with
    | nil => simpa using hfl
    | cons g rest => simp at hc

theorem frags_nil_iff (fs : List Bytes) (d : Bytes) (hfl : fs.flatten = d)
    (hne : ∀ f ∈ fs, 1 ≤ f.length ∧ f.length ≤ 16384) : fs = [] ↔ d = [] := by
  refine ⟨fun h => by subst h; exact hfl.symm, fun h => List.eq_nil_of_length_eq_zero ?_⟩
  have hc := frags_count_le fs hne
  rw [hfl, h] at hc
  exact Nat.le_zero.mp hc

theorem write_eq (w : Writer) (b : Bytes) :
    w.write b =
      if w.half.suite = .cbc ∧ 1 < b.length then
        ((writeRecords 2 w (b.take 1)).1 ++
          (writeRecords (b.length + 1) (writeRecords 2 w (b.take 1)).2 (b.drop 1)).1,
         (writeRecords (b.length + 1) (writeRecords 2 w (b.take 1)).2 (b.drop 1)).2)
      else writeRecords (b.length + 1) w b := by
  unfold Writer.write
  cases w.half.suite
  · by_cases hl : 1 < b.length
    · simp only [gt_iff_lt, hl, if_true, and_self]
    · simp only [gt_iff_lt, hl, if_false, and_false]
  · simp only [reduceCtorEq, false_and, if_false]

theorem write_spec (w : Writer) (b : Bytes) :
    ∃ fs : List Bytes, fs.flatten = b ∧
      (w.half.suite = .cbc → 1 < b.length → fs.head? = some (b.take 1)) ∧ Wrote w fs (w.write b) := by
  rw [write_eq]
  by_cases hc : w.half.suite = .cbc ∧ 1 < b.length
  · rw [if_pos hc]
    obtain ⟨fs, h1, h2⟩ := writeRecords_spec 2 w (b.take 1) (by simp; omega)
    obtain rfl : fs = [b.take 1] := frags_single fs _ h1 (by simp; omega) h2.sizes
    obtain ⟨gs, g1, g2⟩ := writeRecords_spec (b.length + 1) (writeRecords 2 w (b.take 1)).2 (b.drop 1) (by simp; omega)
    exact ⟨b.take 1 :: gs, by rw [List.flatten_cons, g1, List.take_append_drop], fun _ _ => rfl, h2.append g2⟩
  · rw [if_neg hc]
    obtain ⟨fs, h1, h2⟩ := writeRecords_spec (b.length + 1) w b (by omega)
    exact ⟨fs, h1, fun h1 h2 => absurd ⟨h1, h2⟩ hc, h2⟩

/-- (C06 "deliver every application byte stream in order and unmodified", sender half;
    C07 "the implicit sequence number advances by exactly one per record").  `Conn.Write(b)` puts on the wire
    exactly `encFrags w.half w.rand fs` for non-empty fragments `fs` of at most 16384 bytes (`maxPlaintext`)
    with `fs.flatten = b` (so the loop fuel sufficed); for the CBC suite and `len(b) > 1` the first record
    carries exactly the first byte (the 1/n-1 split `Conn.Write` does for block ciphers at version ≤ TLS 1.0;
    GMSSL is 0x0101).  Afterwards `Config.Rand` has been consumed by 16 bytes per CBC record. -/
theorem write_fragments (w : Writer) (b : Bytes) :
    ∃ fs : List Bytes, fs.flatten = b ∧ (∀ f ∈ fs, 1 ≤ f.length ∧ f.length ≤ 16384) ∧
      (fs = [] ↔ b = []) ∧
      (w.half.suite = .cbc → 1 < b.length → fs.head? = some (b.take 1)) ∧
      (w.write b).1 = encFrags w.half w.rand fs ∧
      (w.write b).2.half = { w.half with seq := w.half.seq + fs.length } ∧
      (w.write b).2.rand = randAfter w.half.suite fs.length w.rand ∧
      (w.write b).2.bytesSent = w.bytesSent + recLen (w.write b).1 := by
  obtain ⟨fs, h1, h2, W⟩ := write_spec w b
  exact ⟨fs, h1, W.sizes, frags_nil_iff fs b h1 W.sizes, h2, W.recs, W.half, W.rand, W.bytes⟩

/-- C07 "advances by exactly one per record", sender side. -/
theorem write_seq (w : Writer) (b : Bytes) :
    (w.write b).2.half = { w.half with seq := w.half.seq + (w.write b).1.length } ∧
    (w.write b).2.bytesSent = w.bytesSent + recLen (w.write b).1 := by
  obtain ⟨fs, -, -, -, -, h3, h4, -, h6⟩ := write_fragments w b
  rw [h3, encFrags_length]
  exact ⟨h4, by rw [← h3]; exact h6⟩

/-- successive `Conn.Write` calls: all records, in order, and the final writer state -/
def writeMany : Writer → List Bytes → List Bytes × Writer
  | w, [] => ([], w)
  | w, b :: bs => ((w.write b).1 ++ (writeMany (w.write b).2 bs).1, (writeMany (w.write b).2 bs).2)

theorem writeMany_append (w : Writer) (as bs : List Bytes) :
    writeMany w (as ++ bs) =
      ((writeMany w as).1 ++ (writeMany (writeMany w as).2 bs).1, (writeMany (writeMany w as).2 bs).2) := by
  induction as generalizing w with
  | nil => simp [writeMany]
  | cons a as ih => simp [writeMany, ih]

theorem writeMany_spec (w : Writer) (bs : List Bytes) :
    ∃ fs : List Bytes, fs.flatten = bs.flatten ∧ Wrote w fs (writeMany w bs) := by
  induction bs generalizing w with
  | nil => exact ⟨[], rfl, Wrote.nil w⟩
  | cons b bs ih =>
    obtain ⟨fs, h1, -, h2⟩ := write_spec w b
    obtain ⟨gs, g1, g2⟩ := ih (w.write b).2
    exact ⟨fs ++ gs, by simp [h1, g1], h2.append g2⟩

theorem writeMany_count_le (w : Writer) (bs : List Bytes) :
    (writeMany w bs).1.length ≤ bs.flatten.length := by
  obtain ⟨fs, h1, W⟩ := writeMany_spec w bs
  rw [W.recs, encFrags_length, ← h1]
  exact frags_count_le fs W.sizes

/-! ## Records on the wire: header, body, `decrypt ∘ encrypt` -/

theorem header_length (typ : Byte) (n : Nat) : (header typ n).length = 5 := by
  simp [header, be16, i2ospR_length]

theorem header_parse (typ : Byte) (n : Nat) (hn : n < 65536) (tail : Bytes) :
    (header typ n ++ tail).getD 0 0 = typ ∧
    ((header typ n ++ tail).getD 1 0).toNat * 256 + ((header typ n ++ tail).getD 2 0).toNat = 0x0101 ∧
    ((header typ n ++ tail).getD 3 0).toNat * 256 + ((header typ n ++ tail).getD 4 0).toNat = n ∧
    (header typ n ++ tail).length = 5 + tail.length ∧
    (header typ n ++ tail).drop 5 = tail := by
  have e : header typ n = [typ, 0x01, 0x01, BitVec.ofNat 8 (n / 256), BitVec.ofNat 8 n] := by
    simp [header, be16, i2ospR]
  rw [e]
  refine ⟨rfl, ?_, ?_, by simp; omega, rfl⟩
  · simp only [List.cons_append, List.getD_cons_succ, List.getD_cons_zero]; decide
  · simp only [List.cons_append, List.getD_cons_succ, List.getD_cons_zero, BitVec.toNat_ofNat]
    omega

def encBody (h : Half) (typ : Byte) (e p : Bytes) : Bytes := (h.encrypt typ e p).1.drop 5

theorem encrypt_shape_length (h : Half) (typ : Byte) (e p : Bytes) :
    (h.encrypt typ e p).1 = header typ (encBody h typ e p).length ++ encBody h typ e p ∧
    (encBody h typ e p).length =
      match h.suite with
      | .cbc => e.length + (cbcEncAll h.keys.key e (padCBC (p ++ mac h.keys h.seq typ p))).length
      | .gcm => e.length + p.length + 16 := by
  unfold encBody Half.encrypt
  cases h.suite
  · simp only
    rw [List.append_assoc, List.drop_left' (header_length _ _)]
    simp
  · have hl := Props.C12.ae_lengths (Spec.SM4.encrypt h.keys.key) (Props.C05.enc_length h.keys.key)
      (h.keys.iv ++ e) p (aad h.seq typ p.length)
    rcases hct : Spec.GCM.ae (Spec.SM4.encrypt h.keys.key) (h.keys.iv ++ e) p (aad h.seq typ p.length) with ⟨c, t⟩
    rw [hct] at hl
    simp only at hl ⊢
    rw [List.append_assoc, List.append_assoc, List.drop_left' (header_length _ _)]
    simp [hl.1, hl.2, Nat.add_assoc]

theorem encrypt_shape (h : Half) (typ : Byte) (e p : Bytes) :
    (h.encrypt typ e p).1 = header typ (encBody h typ e p).length ++ encBody h typ e p :=
  (encrypt_shape_length h typ e p).1

def ExplicitOK (s : Suite) (e : Bytes) : Prop :=
  match s with
  | .cbc => e.length = 16
  | .gcm => e.length = 8

/-- the body of an honest record never exceeds `maxCiphertext = 16384 + 2048` (it is at most 16384 + 64) -/
theorem encBody_le (h : Half) (typ : Byte) (e p : Bytes) (he : ExplicitOK h.suite e) (hp : p.length ≤ 16384) :
    (encBody h typ e p).length ≤ 16384 + 64 := by
  rw [(encrypt_shape_length h typ e p).2]
  rcases h with ⟨s, k, q⟩
  cases s
  · simp only [ExplicitOK] at he ⊢
    have hm := Props.C07.mac_length k q typ p
    have h1 := Props.C07.padCBC_length (p ++ mac k q typ p)
    have h2 := (Props.C07.cbc_all_inv k.key e _ he (Props.C07.padCBC_mod (p ++ mac k q typ p))).2
    rw [h2, h1, he]; simp [hm]; omega
  · simp only [ExplicitOK] at he ⊢
    omega

theorem decrypt_encBody (h : Half) (typ : Byte) (e p : Bytes) (he : ExplicitOK h.suite e) :
    h.decrypt typ (encBody h typ e p) = (some p, { h with seq := h.seq + 1 }) := by
  have h1 : (h.decrypt typ (encBody h typ e p)).1 = some p := by
    rcases h with ⟨s, k, q⟩
    cases s
    · exact Props.C07.decrypt_encrypt_cbc k q typ e p he
    · exact Props.C07.decrypt_encrypt_gcm k q typ e p he
  rcases Props.C07.decrypt_cases h typ (encBody h typ e p) with e | ⟨d, e⟩ <;> rw [e] at h1 ⊢ <;> cases h1
  rfl

/-- enough `Config.Rand` output for `k` explicit IVs (CBC); nothing needed for GCM -/
def RandOK (s : Suite) (k : Nat) (rand : Bytes) : Prop :=
  match s with
  | .cbc => 16 * k ≤ rand.length
  | .gcm => True

theorem explicitOf_ok (h : Half) (rand : Bytes) (k : Nat) (hr : RandOK h.suite (k + 1) rand) :
    ExplicitOK h.suite (explicitOf h rand) ∧ RandOK h.suite k (randAfter h.suite 1 rand) := by
  rcases h with ⟨s, ks, q⟩
  cases s
  · simp only [RandOK, ExplicitOK, explicitOf, randAfter] at hr ⊢
    simp; omega
  · simp only [RandOK, ExplicitOK, explicitOf]
    simp [seqBytes, i2ospR_length]

theorem RandOK_mono (s : Suite) (k k' : Nat) (rand : Bytes) (hk : k' ≤ k) (h : RandOK s k rand) :
    RandOK s k' rand := by
  cases s
  · simp only [RandOK] at h ⊢; omega
  · trivial

/-! ## The reader `readAll`, restructured (and proved equal to the model) -/

/-- bytes 1–2 of the record header (version) as `readRecord` computes them -/
def hdrVers (wire : Bytes) : Nat := (wire.getD 1 0).toNat * 256 + (wire.getD 2 0).toNat
/-- bytes 3–4 of the record header (length) as `readRecord` computes them -/
def hdrLen (wire : Bytes) : Nat := (wire.getD 3 0).toNat * 256 + (wire.getD 4 0).toNat

/-- what `readRecord` / `Conn.Read` do with an accepted record -/
inductive Next
  | deliver (data : Bytes) (warn : Nat)
  | skip (warn : Nat)
  | halt (st : Status)

/-- the type switch of `readRecord` (with the same tests in the same order as `readAll`) -/
def dispatch (typ : Byte) (data : Bytes) (warn : Nat) : Next :=
  if data.length > 16384 then .halt (.alert 22)
  else
    let warn := if typ ≠ 21 ∧ data.length > 0 then 0 else warn
    if typ = 23 then .deliver data warn
    else if typ = 21 then
      if data.length ≠ 2 then .halt (.alert 10)
      else if data.getD 1 0 = 0 then .halt .eof
      else if data.getD 0 0 = 1 then
        if warn + 1 > 5 then .halt (.alert 10) else .skip (warn + 1)
      else if data.getD 0 0 = 2 then .halt (.remote (data.getD 1 0).toNat)
      else .halt (.alert 10)
    else if typ = 20 then .halt (.alert 10)
    else if typ = 22 then .halt (.alert 100)
    else .halt (.alert 10)

def afterDecrypt (fuel : Nat) (warn : Nat) (typ : Byte) (rest : Bytes) : Option Bytes × Half → Bytes × Status
  | (none, _) => ([], .alert 20)
  | (some data, h') =>
    match dispatch typ data warn with
    | .halt st => ([], st)
    | .deliver d w => (d ++ (readAll fuel h' w rest).1, (readAll fuel h' w rest).2)
    | .skip w => readAll fuel h' w rest

/-- outcome of `readRecord`'s header handling: stop without delivering (EOF at a record boundary, truncated
    header, bad version, oversized, truncated body) or one record: type, body, remaining wire bytes -/
inductive Parsed
  | stop (st : Status)
  | record (typ : Byte) (body rest : Bytes)

/-- `readRecord` up to the call of `halfConn.decrypt`, with the same tests in the same order as `readAll` -/
def parse (wire : Bytes) : Parsed :=
  if wire.isEmpty then .stop .eof
  else if wire.length < 5 then .stop .ueof
  else if hdrVers wire ≠ 0x0101 then .stop (.alert 70)
  else if hdrLen wire > 16384 + 2048 then .stop (.alert 22)
  else if wire.length < 5 + hdrLen wire then .stop .ueof
  else .record (wire.getD 0 0) ((wire.drop 5).take (hdrLen wire)) (wire.drop (5 + hdrLen wire))

theorem readAll_parse (fuel : Nat) (h : Half) (warn : Nat) (wire : Bytes) :
    readAll (fuel + 1) h warn wire =
      match parse wire with
      | .stop st => ([], st)
      | .record typ body rest => afterDecrypt fuel warn typ rest (h.decrypt typ body) := by
  rw [readAll]
  unfold parse hdrVers hdrLen
  simp only [apply_ite (fun p : Parsed => match p with
    | .stop st => (([] : Bytes), st)
    | .record typ body rest => afterDecrypt fuel warn typ rest (h.decrypt typ body))]
  generalize wire.drop (5 + _) = rest
  rcases h.decrypt _ _ with ⟨_ | data, h'⟩
  · rfl
  · simp only [afterDecrypt, dispatch, apply_ite (fun n : Next => match n with
      | .halt st => (([] : Bytes), st)
      | .deliver d w => (d ++ (readAll fuel h' w rest).1, (readAll fuel h' w rest).2)
      | .skip w => readAll fuel h' w rest)]

/-- model artefact: running out of fuel looks like EOF (hence fuel = #records suffices in B) -/
theorem readAll_zero (h : Half) (warn : Nat) (wire : Bytes) : readAll 0 h warn wire = ([], .eof) := rfl

/-- a run of the reader with the connection half threaded through; `accepted` counts the records
    `halfConn.decrypt` accepted, `rejected` says whether the run ended at a rejected record -/
structure Run where
  delivered : Bytes
  status : Status
  half : Half
  accepted : Nat
  rejected : Bool

/-- `readAll` with the connection half made visible (`readAll_eq_readAllH`) -/
def readAllH : Nat → Half → Nat → Bytes → Run
  | 0, h, _, _ => ⟨[], .eof, h, 0, false⟩
  | fuel+1, h, warn, wire =>
    match parse wire with
    | .stop st => ⟨[], st, h, 0, false⟩
    | .record typ body rest =>
      match h.decrypt typ body with
      | (none, h') => ⟨[], .alert 20, h', 0, true⟩
      | (some data, h') =>
        match dispatch typ data warn with
        | .halt st => ⟨[], st, h', 1, false⟩
        | .deliver d w =>
          let r := readAllH fuel h' w rest
          ⟨d ++ r.delivered, r.status, r.half, r.accepted + 1, r.rejected⟩
        | .skip w =>
          let r := readAllH fuel h' w rest
          ⟨r.delivered, r.status, r.half, r.accepted + 1, r.rejected⟩

/-- Every statement below about `readAllH` is therefore a statement about the model. -/
theorem readAll_eq_readAllH (fuel : Nat) (h : Half) (warn : Nat) (wire : Bytes) :
    readAll fuel h warn wire = ((readAllH fuel h warn wire).delivered, (readAllH fuel h warn wire).status) := by
  induction fuel generalizing h warn wire with
  | zero => rfl
  | succ fuel ih =>
    rw [readAll_parse, readAllH]
    cases parse wire with
    | stop st => rfl
    | record typ body rest =>
      simp only
      rcases h.decrypt typ body with ⟨_ | data, h'⟩
      · rfl
      · simp only [afterDecrypt]
        cases dispatch typ data warn with
        | halt st => rfl
        | deliver d w => simp only [ih]
        | skip w => simp only [ih]

theorem parse_header (typ : Byte) (n : Nat) (hn : n ≤ 16384 + 2048) (tail : Bytes) :
    parse (header typ n ++ tail) =
      if tail.length < n then .stop .ueof else .record typ (tail.take n) (tail.drop n) := by
  obtain ⟨p0, p1, p2, p3, p4⟩ := header_parse typ n (by omega) tail
  have e1 : (header typ n ++ tail).isEmpty = false := by
    rw [List.isEmpty_eq_false_iff_exists_mem]
    exact ⟨typ, by simp [header]⟩
  unfold parse hdrVers hdrLen
  rw [p1, p2, p3, p0, p4, ← List.drop_drop, p4, e1]
  simp only [Bool.false_eq_true, if_false, ne_eq, not_true_eq_false, Nat.not_lt.mpr (Nat.le_add_right 5 _),
    Nat.not_lt.mpr hn, Nat.add_lt_add_iff_left]

theorem parse_record (typ : Byte) (body rest : Bytes) (hb : body.length ≤ 16384 + 2048) :
    parse (header typ body.length ++ (body ++ rest)) = .record typ body rest := by
  rw [parse_header _ _ hb, if_neg (by simp), List.take_left, List.drop_left]

theorem parse_cases (wire : Bytes) :
    (wire = [] ∧ parse wire = .stop .eof) ∨
    (wire ≠ [] ∧ ∃ st, st ≠ .eof ∧ parse wire = .stop st) ∨
    (∃ typ body rest, parse wire = .record typ body rest ∧ body.length ≤ 16384 + 2048 ∧
      wire = wire.take 5 ++ body ++ rest) := by
  unfold parse
  by_cases h1 : wire.isEmpty = true
  · rw [if_pos h1]; exact .inl ⟨List.isEmpty_iff.mp h1, rfl⟩
  rw [if_neg h1]
  have hne : wire ≠ [] := fun h => h1 (List.isEmpty_iff.mpr h)
  by_cases h2 : wire.length < 5
  · rw [if_pos h2]; exact .inr (.inl ⟨hne, _, by decide, rfl⟩)
  rw [if_neg h2]
  by_cases h3 : hdrVers wire ≠ 0x0101
  · rw [if_pos h3]; exact .inr (.inl ⟨hne, _, by decide, rfl⟩)
  rw [if_neg h3]
  by_cases h4 : hdrLen wire > 16384 + 2048
  · rw [if_pos h4]; exact .inr (.inl ⟨hne, _, by decide, rfl⟩)
  rw [if_neg h4]
  by_cases h5 : wire.length < 5 + hdrLen wire
  · rw [if_pos h5]; exact .inr (.inl ⟨hne, _, by decide, rfl⟩)
  rw [if_neg h5]
  refine .inr (.inr ⟨_, _, _, rfl, ?_, ?_⟩)
  · rw [List.length_take]; omega
  · rw [List.append_assoc, ← List.drop_drop, List.take_append_drop, List.take_append_drop]

theorem parse_record_inv (wire : Bytes) (typ : Byte) (body rest : Bytes)
    (hp : parse wire = .record typ body rest) :
    body <:+: wire ∧ body.length ≤ 16384 + 2048 ∧ rest <:+ wire ∧
    wire = wire.take 5 ++ body ++ rest := by
  rcases parse_cases wire with ⟨_, h⟩ | ⟨_, _, _, h⟩ | ⟨_, _, _, h, hb, hw⟩ <;> rw [h] at hp <;> cases hp
  exact ⟨⟨_, _, hw.symm⟩, hb, ⟨_, hw.symm⟩, hw⟩

theorem dispatch_app (data : Bytes) (warn : Nat) (hd : data.length ≤ 16384) :
    dispatch 23 data warn = .deliver data (if data.length > 0 then 0 else warn) := by
  unfold dispatch
  have c : ¬ data.length > 16384 := by omega
  simp [c]

theorem dispatch_cases (typ : Byte) (data : Bytes) (warn : Nat) :
    (∃ w, typ = 23 ∧ dispatch typ data warn = .deliver data w) ∨
    (∃ w, typ = 21 ∧ dispatch typ data warn = .skip w) ∨
    ∃ st, dispatch typ data warn = .halt st := by
  unfold dispatch
  simp only [apply_ite (fun n : Next => (∃ w, typ = 23 ∧ n = .deliver data w) ∨
    (∃ w, typ = 21 ∧ n = .skip w) ∨ ∃ st, n = .halt st)]
  simp +contextual

/-- Induction over the loop of the reader, with `halfConn.decrypt` and the type switch already analysed
    (`Props.C07.decrypt_cases`, `dispatch_cases`): in `next` the record is application data (`out = data`) or a
    warning alert (`out = []`). -/
theorem readAllH_induct {motive : Nat → Half → Nat → Bytes → Run → Prop}
    (zero : ∀ h warn wire, motive 0 h warn wire ⟨[], .eof, h, 0, false⟩)
    (stop : ∀ fuel h warn wire st, parse wire = .stop st → motive (fuel + 1) h warn wire ⟨[], st, h, 0, false⟩)
    (reject : ∀ fuel h warn wire typ body rest, parse wire = .record typ body rest →
      h.decrypt typ body = (none, h) → motive (fuel + 1) h warn wire ⟨[], .alert 20, h, 0, true⟩)
    (halt : ∀ fuel h warn wire typ body rest data st, parse wire = .record typ body rest →
      h.decrypt typ body = (some data, { h with seq := h.seq + 1 }) → dispatch typ data warn = .halt st →
      motive (fuel + 1) h warn wire ⟨[], st, { h with seq := h.seq + 1 }, 1, false⟩)
    (next : ∀ fuel h warn wire typ body rest data w out r, parse wire = .record typ body rest →
      h.decrypt typ body = (some data, { h with seq := h.seq + 1 }) →
      (typ = 23 ∧ out = data ∧ dispatch typ data warn = .deliver data w) ∨
        (typ = 21 ∧ out = [] ∧ dispatch typ data warn = .skip w) →
      motive fuel { h with seq := h.seq + 1 } w rest r →
      motive (fuel + 1) h warn wire ⟨out ++ r.delivered, r.status, r.half, r.accepted + 1, r.rejected⟩)
    (fuel : Nat) (h : Half) (warn : Nat) (wire : Bytes) :
    motive fuel h warn wire (readAllH fuel h warn wire) := by
  induction fuel generalizing h warn wire with
  | zero => exact zero h warn wire
  | succ fuel ih =>
    rw [readAllH]
    cases hp : parse wire with
    | stop st => exact stop fuel h warn wire st hp
    | record typ body rest =>
      simp only
      rcases Props.C07.decrypt_cases h typ body with hd | ⟨data, hd⟩ <;> rw [hd]
      · exact reject fuel h warn wire typ body rest hp hd
      · simp only
        rcases dispatch_cases typ data warn with ⟨w, ht, hdp⟩ | ⟨w, ht, hdp⟩ | ⟨st, hdp⟩ <;> rw [hdp]
        · exact next fuel h warn wire typ body rest data w data _ hp hd (.inl ⟨ht, rfl, hdp⟩) (ih _ w rest)
        · exact next fuel h warn wire typ body rest data w [] _ hp hd (.inr ⟨ht, rfl, hdp⟩) (ih _ w rest)
        · exact halt fuel h warn wire typ body rest data st hp hd hdp

/-! ## B. The honest channel -/

/-- `Conn.Read`'s warning-alert counter after the application-data records `fs` -/
def warnAfter : Nat → List Bytes → Nat
  | w, [] => w
  | w, f :: fs => warnAfter (if f.length > 0 then 0 else w) fs

theorem readAllH_encFrags (fs : List Bytes) (h : Half) (rand : Bytes) (warn fuel : Nat) (rest : Bytes)
    (hlen : ∀ f ∈ fs, f.length ≤ 16384) (hr : RandOK h.suite fs.length rand) :
    readAllH (fs.length + fuel) h warn ((encFrags h rand fs).flatten ++ rest) =
      let r := readAllH fuel { h with seq := h.seq + fs.length } (warnAfter warn fs) rest
      ⟨fs.flatten ++ r.delivered, r.status, r.half, r.accepted + fs.length, r.rejected⟩ := by
  induction fs generalizing h rand warn with
  | nil => simp [encFrags, warnAfter]
  | cons f fs ih =>
    obtain ⟨he, hr'⟩ := explicitOf_ok h rand fs.length hr
    have hf : f.length ≤ 16384 := hlen f (by simp)
    have hble := encBody_le h 23 (explicitOf h rand) f he hf
    rw [encFrags, List.flatten_cons, encrypt_shape, List.append_assoc, List.append_assoc, List.length_cons,
      Nat.add_right_comm, readAllH, parse_record _ _ _ (by omega)]
    simp only
    rw [decrypt_encBody h 23 _ f he]
    simp only
    rw [dispatch_app f warn hf]
    simp only
    rw [ih { h with seq := h.seq + 1 } (randAfter h.suite 1 rand) _ (fun x hx => hlen x (by simp [hx])) hr']
    simp only [warnAfter, List.flatten_cons, List.append_assoc, Nat.add_assoc, Nat.add_comm 1]

theorem readAllH_nil (fuel : Nat) (h : Half) (warn : Nat) :
    readAllH fuel h warn [] = ⟨[], .eof, h, 0, false⟩ := by
  cases fuel <;> rfl

theorem readAllH_honest (fs : List Bytes) (h : Half) (rand : Bytes) (warn fuel : Nat)
    (hlen : ∀ f ∈ fs, f.length ≤ 16384) (hr : RandOK h.suite fs.length rand) (hfuel : fs.length ≤ fuel) :
    readAllH fuel h warn (encFrags h rand fs).flatten =
      ⟨fs.flatten, .eof, { h with seq := h.seq + fs.length }, fs.length, false⟩ := by
  obtain ⟨g, rfl⟩ : ∃ g, fuel = fs.length + g := ⟨fuel - fs.length, by omega⟩
  have := readAllH_encFrags fs h rand warn g [] hlen hr
  rw [List.append_nil, readAllH_nil] at this
  simpa using this

/-- the receiver's half ends EQUAL to the writer's half, so the statement composes over further writes -/
theorem stream_preserved_run (w : Writer) (bs : List Bytes)
    (hrand : RandOK w.half.suite (writeMany w bs).1.length w.rand)
    (fuel : Nat) (hfuel : (writeMany w bs).1.length ≤ fuel) (warn : Nat) :
    readAllH fuel w.half warn (writeMany w bs).1.flatten =
      ⟨bs.flatten, .eof, (writeMany w bs).2.half, (writeMany w bs).1.length, false⟩ := by
  obtain ⟨fs, h1, W⟩ := writeMany_spec w bs
  rw [W.recs, encFrags_length] at hrand hfuel
  rw [W.recs, W.half, encFrags_length, ← h1]
  exact readAllH_honest fs _ _ _ _ (fun f hf => (W.sizes f hf).2) hrand hfuel

/-- (C06: "deliver every application byte stream in order and unmodified"; the model is
    symmetric, so this is both directions).  A receiver half synchronised with the writer that is fed all
    records of the successive writes `bs` (empty ones included) delivers exactly `bs.flatten`, then a clean EOF.
    Hypotheses, both necessary in the model: (CBC only) `Config.Rand` yields 16 bytes for each record;
    fuel at least the number of records (NOT `+ 1`: `readAll 0 … = ([], eof)`).
    NOT needed: key sizes (`Spec.SM4` is total and `decrypt ∘ encrypt = id` holds for every key, C05), a
    bound on the record count (the model's `seq` is an unbounded `Nat`; only its 8-byte encoding wraps). -/
theorem stream_preserved (h : Half) (w : Writer) (bs : List Bytes)
    (hsuite : h.suite = w.half.suite) (hkeys : h.keys = w.half.keys) (hseq : h.seq = w.half.seq)
    (hrand : RandOK w.half.suite (writeMany w bs).1.length w.rand)
    (fuel : Nat) (hfuel : (writeMany w bs).1.length ≤ fuel) (warn : Nat) :
    readAll fuel h warn (writeMany w bs).1.flatten = (bs.flatten, .eof) := by
  obtain rfl : h = w.half := by
    cases h; cases hw : w.half; simp_all
  rw [readAll_eq_readAllH, stream_preserved_run w bs hrand fuel hfuel warn]

/-- `stream_preserved` with hypotheses that can be checked without running the writer: at most one record
    per byte, so `16 * (total bytes)` of `Config.Rand` and fuel `total bytes` suffice -/
theorem stream_preserved_simple (w : Writer) (bs : List Bytes)
    (hrand : w.half.suite = .cbc → 16 * bs.flatten.length ≤ w.rand.length) (warn : Nat) :
    readAll bs.flatten.length w.half warn (writeMany w bs).1.flatten = (bs.flatten, .eof) := by
  have hc := writeMany_count_le w bs
  refine stream_preserved w.half w bs rfl rfl rfl ?_ _ hc warn
  cases hs : w.half.suite
  · have := hrand hs
    simp only [RandOK]; omega
  · trivial

/-- C06, truncation after a whole write: feeding only the records of the first `j` writes delivers exactly
    those writes -/
theorem stream_prefix (h : Half) (w : Writer) (bs : List Bytes) (j : Nat)
    (hsuite : h.suite = w.half.suite) (hkeys : h.keys = w.half.keys) (hseq : h.seq = w.half.seq)
    (hrand : RandOK w.half.suite (writeMany w bs).1.length w.rand) :
    (writeMany w (bs.take j)).1 <+: (writeMany w bs).1 ∧
    ∀ fuel warn, (writeMany w (bs.take j)).1.length ≤ fuel →
      readAll fuel h warn (writeMany w (bs.take j)).1.flatten = ((bs.take j).flatten, .eof) := by
  have hsplit := writeMany_append w (bs.take j) (bs.drop j)
  rw [List.take_append_drop] at hsplit
  have hpre : (writeMany w (bs.take j)).1 <+: (writeMany w bs).1 := by
    rw [hsplit]; exact List.prefix_append _ _
  refine ⟨hpre, fun fuel warn hf => ?_⟩
  exact stream_preserved h w (bs.take j) hsuite hkeys hseq
    (RandOK_mono _ _ _ _ hpre.length_le hrand) fuel hf warn

/-- Truncation at a record boundary: the model, like the code, cannot tell it from the end of the stream
    unless close_notify is used; what is delivered is still a prefix. -/
theorem record_prefix_delivery (w : Writer) (bs : List Bytes) (n : Nat)
    (hrand : RandOK w.half.suite (writeMany w bs).1.length w.rand)
    (fuel : Nat) (hfuel : min n (writeMany w bs).1.length ≤ fuel) (warn : Nat) :
    (readAll fuel w.half warn ((writeMany w bs).1.take n).flatten).1 <+: bs.flatten ∧
    (readAll fuel w.half warn ((writeMany w bs).1.take n).flatten).2 = .eof := by
  obtain ⟨fs, h1, W⟩ := writeMany_spec w bs
  rw [W.recs, encFrags_length] at hrand hfuel
  rw [W.recs, encFrags_take, readAll_eq_readAllH]
  rw [readAllH_honest (fs.take n) _ _ _ _ (fun f hf => (W.sizes f (List.mem_of_mem_take hf)).2)
    (RandOK_mono _ _ _ _ (by rw [List.length_take]; omega) hrand) (by rw [List.length_take]; exact hfuel), ← h1]
  exact ⟨flatten_take_prefix fs n, rfl⟩

/-! ## C. Adversarial wire: prefix delivery -/

/-- the application byte stream contained in a list of sent records (type, payload) -/
def appStream : List (Byte × Bytes) → Bytes
  | [] => []
  | (t, p) :: rs => if t = 23 then p ++ appStream rs else appStream rs

/-- "the receiver accepts nothing but what was sent, where it was sent".  DERIVED below from the
    cryptographic hypotheses (`acceptsOnlySent_cbc`, `acceptsOnlySent_gcm`); it is not assumed. -/
def AcceptsOnlySent (suite : Suite) (keys : Keys) (sent : List (Byte × Bytes)) (wire : Bytes) : Prop :=
  ∀ seq typ body data, seq < 2 ^ 64 → body <:+: wire → body.length ≤ 16384 + 2048 →
    ((⟨suite, keys, seq⟩ : Half).decrypt typ body).1 = some data → sent[seq]? = some (typ, data)

theorem AcceptsOnlySent.mono {suite : Suite} {keys : Keys} {sent : List (Byte × Bytes)} {wire wire' : Bytes}
    (h : AcceptsOnlySent suite keys sent wire) (hw : wire' <:+: wire) :
    AcceptsOnlySent suite keys sent wire' :=
  fun seq typ body data h1 h2 h3 h4 => h seq typ body data h1 (List.IsInfix.trans h2 hw) h3 h4

theorem prefix_of_acceptsOnlySent (sent : List (Byte × Bytes)) (fuel : Nat) (h : Half) (warn : Nat) (wire : Bytes)
    (hacc : AcceptsOnlySent h.suite h.keys sent wire) (hseq : h.seq < 2 ^ 64) (hcount : sent.length < 2 ^ 64) :
    (readAll fuel h warn wire).1 <+: appStream (sent.drop h.seq) := by
  rw [readAll_eq_readAllH]
  refine readAllH_induct (motive := fun _ h _ wire r => AcceptsOnlySent h.suite h.keys sent wire →
    h.seq < 2 ^ 64 → r.delivered <+: appStream (sent.drop h.seq)) ?_ ?_ ?_ ?_ ?_ fuel h warn wire hacc hseq
  · intros; exact List.nil_prefix
  · intros; exact List.nil_prefix
  · intros; exact List.nil_prefix
  · intros; exact List.nil_prefix
  · intro _ h _ wire typ body rest data _ out r hp hd hout ih hacc hseq
    obtain ⟨p1, p2, p3, -⟩ := parse_record_inv wire typ body rest hp
    obtain ⟨hlt, hget⟩ := List.getElem?_eq_some_iff.mp (hacc h.seq typ body data hseq p1 p2 (by rw [hd]))
    have ih := ih (hacc.mono p3.isInfix) (by simp only; omega)
    simp only at ih ⊢
    rw [List.drop_eq_getElem_cons hlt, hget, appStream]
    rcases hout with ⟨rfl, rfl, -⟩ | ⟨rfl, rfl, -⟩
    · rw [if_pos rfl]
      exact (List.prefix_append_right_inj _).mpr ih
    · rw [if_neg (by decide)]
      exact ih

/-- the byte string `tls10MAC.MAC` feeds to HMAC-SM3: seq ‖ type ‖ version ‖ length ‖ payload -/
def macInput (seq : Nat) (typ : Byte) (data : Bytes) : Bytes := seqBytes seq ++ header typ data.length ++ data

theorem mac_eq_hmac (k : Keys) (seq : Nat) (typ : Byte) (data : Bytes) :
    mac k seq typ data = Spec.HMAC.hmacSM3 k.mac (macInput seq typ data) := rfl

theorem macInput_inj (s i : Nat) (t t' : Byte) (d p : Bytes) (hs : s < 2 ^ 64) (hi : i < 2 ^ 64)
    (h : macInput s t d = macInput i t' p) : s = i ∧ t = t' ∧ d = p := by
  unfold macInput at h
  rw [List.append_assoc, List.append_assoc] at h
  have hl : (seqBytes s).length = (seqBytes i).length := by simp [seqBytes, i2ospR_length]
  obtain ⟨h1, h2⟩ := List.append_inj h hl
  obtain ⟨h3, h4⟩ := List.append_inj h2 (by rw [header_length, header_length])
  refine ⟨Props.C07.seqBytes_inj s i hs hi h1, ?_, h4⟩
  simp only [header, List.cons_append, List.cons.injEq] at h3
  exact h3.1

/-- the sender's MAC log: the HMAC inputs of the records (type, payload) it sent, the first under sequence
    number `i` -/
def macLog : Nat → List (Byte × Bytes) → List Bytes
  | _, [] => []
  | i, (t, p) :: rs => macInput i t p :: macLog (i + 1) rs

theorem mem_macLog_iff (i : Nat) (sent : List (Byte × Bytes)) (m : Bytes) :
    m ∈ macLog i sent ↔ ∃ k t p, sent[k]? = some (t, p) ∧ m = macInput (i + k) t p := by
  induction sent generalizing i with
  | nil => simp [macLog]
  | cons r rs ih =>
    rcases r with ⟨t, p⟩
    simp only [macLog, List.mem_cons, ih]
    constructor
    · rintro (h | ⟨k, t', p', h1, h2⟩)
      · exact ⟨0, t, p, rfl, h⟩
      · exact ⟨k + 1, t', p', h1, by rw [h2, Nat.add_right_comm, Nat.add_assoc]⟩
    · rintro ⟨k, t', p', h1, h2⟩
      cases k with
      | zero => cases h1; exact .inl h2
      | succ k => exact .inr ⟨k, t', p', h1, by rw [h2, Nat.add_right_comm, Nat.add_assoc]⟩

/-- `MacAuthentic` is consistent with honest traffic: what the honest sender MAC'ed for its `j`-th record is
    in its log -/
theorem mem_macLog_of_get (sent : List (Byte × Bytes)) (i j : Nat) (t : Byte) (p : Bytes)
    (h : sent[j]? = some (t, p)) : macInput (i + j) t p ∈ macLog i sent :=
  (mem_macLog_iff i sent _).mpr ⟨j, t, p, h, rfl⟩

/-- `(data, tag)` is a candidate the receiver could be made to check on this wire: cut at some offset `n` out
    of the CBC decryption of a piece `body` of the wire of admissible size, under its own first block as IV.
    No property of the block cipher is used: decryption is just some function. -/
def WireTag (key wire data tag : Bytes) : Prop :=
  ∃ body n, body <:+: wire ∧ body.length % 16 = 0 ∧ 64 ≤ body.length ∧ body.length ≤ 16384 + 2048 ∧
    data = (cbcDecAll key (body.take 16) (body.drop 16)).take n ∧
    tag = ((cbcDecAll key (body.take 16) (body.drop 16)).drop n).take 32

/-- HYPOTHESIS (about the MAC only; EUF-CMA of HMAC-SM3 specialised to this wire): whenever a tag cut from
    the wire verifies, the sender MAC'ed exactly that input. -/
def MacAuthentic (k : Keys) (log : List Bytes) (wire : Bytes) : Prop :=
  ∀ seq typ data tag, seq < 2 ^ 64 → WireTag k.key wire data tag →
    mac k seq typ data = tag → macInput seq typ data ∈ log

/-- `MacAuthentic` is satisfiable: it holds for every wire too short to contain a CBC record body (the
    receiver checks no MAC at all) -/
theorem macAuthentic_short (k : Keys) (log : List Bytes) (wire : Bytes) (hw : wire.length < 64) :
    MacAuthentic k log wire := by
  intro seq typ data tag _ ⟨body, n, hinf, _, h64, _⟩ _
  have := hinf.length_le
  omega

theorem acceptsOnlySent_cbc (k : Keys) (sent : List (Byte × Bytes)) (wire : Bytes)
    (hauth : MacAuthentic k (macLog 0 sent) wire) (hcount : sent.length < 2 ^ 64) :
    AcceptsOnlySent .cbc k sent wire := by
  intro seq typ body data hseq hinf hlen hdec
  rcases Props.C07.decrypt_cbc_cases k seq typ body with e | ⟨n, hm, h64, hmac, e⟩ <;> rw [e] at hdec
  · cases hdec
  cases hdec
  have hlog := hauth seq typ _ _ hseq ⟨body, n, hinf, hm, h64, hlen, rfl, rfl⟩ hmac
  obtain ⟨i, t, p, hi, he⟩ := (mem_macLog_iff 0 sent _).mp hlog
  obtain ⟨hilt, -⟩ := List.getElem?_eq_some_iff.mp hi
  obtain ⟨rfl, rfl, rfl⟩ := macInput_inj seq (0 + i) typ t _ p hseq (by omega) he
  simpa using hi

/-- `cbc_prefix_delivery` when the sender may have sent records of any types (application data, alerts, …) -/
theorem cbc_prefix_delivery_general (sent : List (Byte × Bytes)) (h : Half) (hs : h.suite = .cbc)
    (hseq : h.seq < 2 ^ 64) (hcount : sent.length < 2 ^ 64) (wire : Bytes)
    (hauth : MacAuthentic h.keys (macLog 0 sent) wire) (fuel warn : Nat) :
    (readAll fuel h warn wire).1 <+: appStream (sent.drop h.seq) :=
  prefix_of_acceptsOnlySent sent fuel h warn wire
    (by rw [hs]; exact acceptsOnlySent_cbc h.keys sent wire hauth hcount) hseq hcount

/-- the records of a sender that only sent the application-data payloads `ps` -/
def appRecords (ps : List Bytes) : List (Byte × Bytes) := ps.map (fun p => (23, p))

theorem appStream_appRecords_drop (ps : List Bytes) (j : Nat) :
    appStream ((appRecords ps).drop j) = (ps.drop j).flatten := by
  unfold appRecords
  rw [← List.map_drop]
  induction ps.drop j with
  | nil => rfl
  | cons p ps ih => simp only [List.map_cons, appStream, ↓reduceIte, List.flatten_cons, ih]

/-- (C07: "no change to the protected byte stream … can make the receiver deliver a
    byte the sender did not send at that position … what the application reads is always a prefix of what
    was written"), SM4-CBC + HMAC-SM3 suite, at the level of `Conn.Read` on ARBITRARY wire bytes.
    The sender sent the application-data payloads `ps` under sequence numbers 0, 1, 2, … (fewer than 2^64:
    the code panics rather than wrap), the receiver stands at `h.seq`.
    The analogue of `Props.C07.prefix_delivery` (which is about an abstract AEAD and parsed records). -/
theorem cbc_prefix_delivery (ps : List Bytes) (h : Half) (hs : h.suite = .cbc)
    (hseq : h.seq < 2 ^ 64) (hcount : ps.length < 2 ^ 64) (wire : Bytes)
    (hauth : MacAuthentic h.keys (macLog 0 (appRecords ps)) wire) (fuel warn : Nat) :
    (readAll fuel h warn wire).1 <+: (ps.drop h.seq).flatten := by
  rw [← appStream_appRecords_drop]
  exact cbc_prefix_delivery_general (appRecords ps) h hs hseq (by simpa [appRecords] using hcount) wire hauth fuel warn

/-- the contrapositive of `cbc_prefix_delivery`, so that the role of the hypothesis is plain: a wire that makes
    the CBC receiver deliver a non-prefix contains an HMAC-SM3 forgery -/
theorem cbc_violation_yields_forgery (ps : List Bytes) (h : Half) (hs : h.suite = .cbc)
    (hseq : h.seq < 2 ^ 64) (hcount : ps.length < 2 ^ 64) (wire : Bytes) (fuel warn : Nat)
    (hv : ¬ (readAll fuel h warn wire).1 <+: (ps.drop h.seq).flatten) :
    ∃ seq typ data tag, seq < 2 ^ 64 ∧ WireTag h.keys.key wire data tag ∧
      mac h.keys seq typ data = tag ∧ macInput seq typ data ∉ macLog 0 (appRecords ps) :=
  Classical.byContradiction fun hne =>
    hv (cbc_prefix_delivery ps h hs hseq hcount wire
      (fun seq typ data tag h1 h2 h3 =>
        Classical.byContradiction fun hn => hne ⟨seq, typ, data, tag, h1, h2, h3, hn⟩) fuel warn)

theorem acceptsOnlySent_gcm (k : Keys) (ps : List Bytes) (wire : Bytes)
    (hauth : Props.C07.Authentic (Props.C07.sm4gcm k.key) (Props.C07.sealLog k.iv 0 ps))
    (hlen : ∀ p ∈ ps, p.length < 2 ^ 16) (hcount : ps.length < 2 ^ 64) :
    AcceptsOnlySent .gcm k (appRecords ps) wire := by
  intro seq typ body data hseq _ hlen' hdec
  rw [Props.C07.decrypt_gcm_eq] at hdec
  obtain ⟨i, hi, ha⟩ := Props.C07.mem_sealLog k.iv 0 ps _ _ _ (hauth _ _ _ _ hdec)
  obtain ⟨hilt, -⟩ := List.getElem?_eq_some_iff.mp hi
  obtain ⟨rfl, rfl, -⟩ := Props.C07.aad_inj seq (0 + i) typ 23 _ _ hseq (by omega)
    (by simp only [List.length_drop]; omega) (hlen _ (List.mem_of_getElem? hi)) ha
  simp [appRecords, hi]

/-- `cbc_prefix_delivery` for the SM4-GCM suite, under the authenticity hypothesis `Props.C07.Authentic` for
    the concrete AEAD `Props.C07.sm4gcm` keyed and salted like the connection half. -/
theorem gcm_prefix_delivery (ps : List Bytes) (h : Half) (hs : h.suite = .gcm)
    (hseq : h.seq < 2 ^ 64) (hcount : ps.length < 2 ^ 64) (hlen : ∀ p ∈ ps, p.length < 2 ^ 16)
    (hauth : Props.C07.Authentic (Props.C07.sm4gcm h.keys.key) (Props.C07.sealLog h.keys.iv 0 ps))
    (wire : Bytes) (fuel warn : Nat) :
    (readAll fuel h warn wire).1 <+: (ps.drop h.seq).flatten := by
  rw [← appStream_appRecords_drop]
  exact prefix_of_acceptsOnlySent (appRecords ps) fuel h warn wire
    (by rw [hs]; exact acceptsOnlySent_gcm h.keys ps wire hauth hlen hcount) hseq
    (by simpa [appRecords] using hcount)

/-! ## D. Sequence numbers on the receiving side; sticky error -/

theorem readAllH_inv (fuel : Nat) (h : Half) (warn : Nat) (wire : Bytes) :
    (readAllH fuel h warn wire).half = { h with seq := h.seq + (readAllH fuel h warn wire).accepted } ∧
    ((readAllH fuel h warn wire).rejected = true → (readAllH fuel h warn wire).status = .alert 20) := by
  refine readAllH_induct (motive := fun _ h _ _ r =>
    r.half = { h with seq := h.seq + r.accepted } ∧ (r.rejected = true → r.status = .alert 20))
    ?_ ?_ ?_ ?_ ?_ fuel h warn wire
  · intros; exact ⟨rfl, nofun⟩
  · intros; exact ⟨rfl, nofun⟩
  · intros; exact ⟨rfl, fun _ => rfl⟩
  · intros; exact ⟨rfl, nofun⟩
  · intro _ h _ _ _ _ _ _ _ _ r _ _ _ ih
    exact ⟨by rw [ih.1]; simp only [Nat.add_assoc, Nat.add_comm 1], ih.2⟩

/-- (C07 "the implicit sequence number advances by exactly one per record in each
    direction", receiver side; `write_seq` is the sender side).  Whatever the wire bytes; `accepted` does not
    count a rejected record, which leaves the state untouched (`Props.C07.decrypt_cases`). -/
theorem seq_advances_by_one (fuel : Nat) (h : Half) (warn : Nat) (wire : Bytes) :
    (readAllH fuel h warn wire).half = { h with seq := h.seq + (readAllH fuel h warn wire).accepted } :=
  (readAllH_inv fuel h warn wire).1

/-- a run that hit a rejected record ends with the fatal alert 20 (bad_record_mac) -/
theorem rejected_final (fuel : Nat) (h : Half) (warn : Nat) (wire : Bytes) :
    (readAllH fuel h warn wire).rejected = true → (readAllH fuel h warn wire).status = .alert 20 :=
  (readAllH_inv fuel h warn wire).2

/-- sticky error: if the first record on the wire is rejected, nothing is delivered whatever follows -/
theorem sticky (fuel : Nat) (h : Half) (warn : Nat) (wire : Bytes) (typ : Byte) (body rest : Bytes)
    (hp : parse wire = .record typ body rest) (hd : (h.decrypt typ body).1 = none) :
    readAll (fuel + 1) h warn wire = ([], .alert 20) ∧ (readAllH (fuel + 1) h warn wire).half = h := by
  rw [readAll_eq_readAllH, readAllH, hp]
  simp only
  rcases Props.C07.decrypt_cases h typ body with e | ⟨d, e⟩ <;> rw [e] at hd ⊢
  · exact ⟨rfl, rfl⟩
  · cases hd

/-- `sticky` in context (C07: "the first affected record is rejected with a fatal error and nothing is
    delivered after it") -/
theorem sticky_after_honest (fs : List Bytes) (h : Half) (rand : Bytes) (warn fuel : Nat)
    (tail : Bytes) (typ : Byte) (body rest : Bytes)
    (hlen : ∀ f ∈ fs, f.length ≤ 16384) (hr : RandOK h.suite fs.length rand)
    (hp : parse tail = .record typ body rest)
    (hd : (({ h with seq := h.seq + fs.length } : Half).decrypt typ body).1 = none) :
    readAll (fs.length + (fuel + 1)) h warn ((encFrags h rand fs).flatten ++ tail) = (fs.flatten, .alert 20) := by
  have hs := (sticky fuel { h with seq := h.seq + fs.length } (warnAfter warn fs) tail typ body rest hp hd).1
  rw [readAll_eq_readAllH] at hs
  injection hs with hs1 hs2
  rw [readAll_eq_readAllH, readAllH_encFrags fs h rand warn (fuel + 1) tail hlen hr]
  simp only [hs1, hs2, List.append_nil]

/-! ## Non-vacuity

The crypto (`Spec.SM4`, `Spec.HMAC`) is too heavy for kernel evaluation, so the concrete instances below are
obtained from the theorems (whose hypotheses are checked by `decide`) rather than by `rfl`. -/

def demoKeys : Keys := ⟨List.replicate 32 0x0b, List.replicate 16 0x01, [1, 2, 3, 4]⟩
def demoCBC : Writer := ⟨⟨.cbc, demoKeys, 0⟩, 0, 0, List.replicate 64 0x07⟩
def demoGCM : Writer := ⟨⟨.gcm, demoKeys, 7⟩, 0, 0, []⟩

example : readAll 4 demoCBC.half 0 (writeMany demoCBC [[1, 2, 3], [], [4]]).1.flatten = ([1, 2, 3, 4], .eof) :=
  stream_preserved_simple demoCBC [[1, 2, 3], [], [4]] (fun _ => by decide) 0

/-- receiver and writer both at sequence number 7 -/
example : readAll 4 demoGCM.half 0 (writeMany demoGCM [[1, 2, 3], [], [4]]).1.flatten = ([1, 2, 3, 4], .eof) :=
  stream_preserved_simple demoGCM [[1, 2, 3], [], [4]] (fun h => by cases h) 0

/-- `Write([1,2,3])` is split 1/n-1 -/
example : ∃ fs : List Bytes, fs.flatten = [1, 2, 3] ∧ fs.head? = some [1] ∧
    (demoCBC.write [1, 2, 3]).1 = encFrags demoCBC.half demoCBC.rand fs := by
  obtain ⟨fs, h1, -, -, h4, h5, -⟩ := write_fragments demoCBC [1, 2, 3]
  exact ⟨fs, h1, h4 rfl (by decide), h5⟩

/-- the hypotheses of `cbc_prefix_delivery` are jointly satisfiable (a wire carrying an empty record) -/
example : (readAll 9 demoCBC.half 0 [23, 1, 1, 0, 0]).1 <+: ([[1, 2, 3]].drop 0).flatten :=
  cbc_prefix_delivery [[1, 2, 3]] demoCBC.half rfl (by decide) (by decide) [23, 1, 1, 0, 0]
    (macAuthentic_short _ _ _ (by decide)) 9 0

/-- a wire that is rejected outright leaves the receiver where it was -/
example : (readAllH 9 demoGCM.half 0 [23, 1, 1, 0, 0]).half.seq = 7 + (readAllH 9 demoGCM.half 0 [23, 1, 1, 0, 0]).accepted := by
  rw [seq_advances_by_one]; rfl

end Props.C07Stream
