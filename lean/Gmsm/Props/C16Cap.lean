/-
C16 — every session ticket a server issues can be offered again (repair of the oversized-ticket defect).

A ticket holds the client's whole certificate chain.  Before the repair nothing bounded it, while the
messages that carry a ticket are limited: `readHandshake` refuses a handshake message whose body exceeds
`maxHandshake` = 65536 bytes, and NewSessionTicket / the session_ticket extension write the ticket length in
16 bits.  For a client chain of about 65.29 - 65.41 KB the server issued a ticket that no ClientHello can
carry (the client was refused from then on), for a slightly longer chain a NewSessionTicket message that the
client itself refuses.  Repaired: `encryptTicket` issues no ticket longer than `maxSessionTicketLen` = 16384
bytes (`Model.TicketCap`); the zero-length ticket it sends instead is not stored by the client.

The theorems connect that rule with the byte-level models of the messages (Model.TLSMessages, tied to the
Go code by the hsmsg / hsmsgm ops) and of the sealed state (Model.SessionState, sstate / sstatem ops).
-/
import Gmsm.Model.TicketCap
import Gmsm.Proofs.TLSBytes
namespace Props.C16Cap
open Model.TicketCap
open Proofs.TLSBytes (writeU16s_length protoEntries_length opt_length)

theorem ticketLen_le_cap (master : Nat) (certs : List Nat) : ticketLen master certs ≤ maxSessionTicketLen := by
  unfold ticketLen issuable
  split
  · rename_i h; exact of_decide_eq_true h
  · exact Nat.zero_le _

theorem ticketLen_eq (master : Nat) (certs : List Nat) :
    (sealedLen master certs ≤ maxSessionTicketLen → ticketLen master certs = sealedLen master certs) ∧
    (maxSessionTicketLen < sealedLen master certs → ticketLen master certs = 0) := by
  unfold ticketLen issuable
  constructor
  · intro h; rw [if_pos (decide_eq_true h)]
  · intro h; rw [if_neg]; simp; omega

/-- a session is stored by the client only for a ticket that was issued: never for the zero-length one -/
theorem clientStores_iff (master : Nat) (certs : List Nat) :
    clientStores (ticketLen master certs) = true ↔ sealedLen master certs ≤ maxSessionTicketLen := by
  unfold clientStores ticketLen issuable
  by_cases h : sealedLen master certs ≤ maxSessionTicketLen
  · simp only [h, decide_true, if_true, bne_iff_ne, ne_eq, iff_true]
    unfold sealedLen; omega
  · simp [h]

theorem marshalCerts_length (cs : List Gmsm.Bytes) :
    (Model.SessionState.marshalCerts cs).length = ((cs.map List.length).map (4 + ·)).sum := by
  induction cs with
  | nil => rfl
  | cons c cs ih =>
    simp only [Model.SessionState.marshalCerts, List.length_append, ih, List.map_cons, List.sum_cons]
    have : (Model.SessionState.put32 c.length).length = 4 := rfl
    omega

/-- `sealedLen` is the length of what `encryptTicket` writes around the byte-level `sessionState.marshal` -/
theorem sealedLen_eq_marshal (s : Model.SessionState.SState) :
    sealedLen s.master.length (s.certs.map List.length) = 16 + 16 + (Model.SessionState.marshal s).length + 32 := by
  have h2 : ∀ n, (Model.SessionState.put16 n).length = 2 := fun _ => rfl
  simp only [sealedLen, stateLen, Model.SessionState.marshal, List.length_append, h2, marshalCerts_length]
  omega

theorem opt_le (c : Prop) [Decidable c] (n : Nat) : (if c then n else 0) ≤ n := by
  split <;> omega

section
open Model.TLSMessages

theorem chExtensions_length_le (m : ClientHelloMsg) :
    (chExtensions m).flatten.length ≤
      4 + (9 + m.serverName.length) + 9 + (6 + 2 * m.supportedCurves.length) + (5 + m.supportedPoints.length) +
      (4 + m.sessionTicket.length) + (6 + 2 * m.supportedSignatureAlgorithms.length) +
      (5 + m.secureRenegotiation.length) + (6 + (totalLen m.alpnProtocols + m.alpnProtocols.length)) + 4 := by
  simp only [chExtensions, List.flatten_append, List.length_append, opt_length, List.length_cons, List.length_nil,
    put16, put8, writeU16s_length, protoEntries_length, Nat.zero_add, ← Nat.add_assoc, Nat.reduceAdd]
  have h1 := opt_le (m.nextProtoNeg = true) 4
  have h2 := opt_le (m.serverName.length > 0) (9 + m.serverName.length)
  have h3 := opt_le (m.ocspStapling = true) 9
  have h4 := opt_le (m.supportedCurves.length > 0) (6 + 2 * m.supportedCurves.length)
  have h5 := opt_le (m.supportedPoints.length > 0) (5 + m.supportedPoints.length)
  have h6 := opt_le (m.ticketSupported = true) (4 + m.sessionTicket.length)
  have h7 := opt_le (m.supportedSignatureAlgorithms.length > 0) (6 + 2 * m.supportedSignatureAlgorithms.length)
  have h8 := opt_le (m.secureRenegotiationSupported = true) (5 + m.secureRenegotiation.length)
  have h9 := opt_le (m.alpnProtocols.length > 0) (6 + totalLen m.alpnProtocols + m.alpnProtocols.length)
  have h10 := opt_le (m.scts = true) 4
  omega

theorem marshalClientHello_length_le (m : ClientHelloMsg) :
    (marshalClientHello m).length ≤
      4 + (2 + 32 + 1 + m.sessionId.length + 2 + 2 * m.cipherSuites.length + 1 + m.compressionMethods.length) +
      (2 + (chExtensions m).flatten.length) := by
  have hr : (random32 m.random).length = 32 := by
    simp only [random32, List.length_take, List.length_append, List.length_replicate]; omega
  simp only [marshalClientHello, List.length_append, List.length_cons, List.length_nil, put24, put16, put8, hr,
    writeU16s_length]
  split
  · simp only [List.length_append, List.length_cons, List.length_nil]; omega
  · simp only [List.length_nil]; omega

/-- a ClientHello as the library's clients (and any reasonable peer) build it, the ticket aside: a session id
    of at most 32 bytes, at most 1024 cipher suites, a host name of at most 255 bytes, at most 16 KiB of
    ALPN names, … -/
structure Ordinary (m : ClientHelloMsg) : Prop where
  sessionId : m.sessionId.length ≤ 32
  suites : m.cipherSuites.length ≤ 1024
  comps : m.compressionMethods.length ≤ 8
  serverName : m.serverName.length ≤ 255
  curves : m.supportedCurves.length ≤ 64
  points : m.supportedPoints.length ≤ 8
  sigAlgs : m.supportedSignatureAlgorithms.length ≤ 64
  reneg : m.secureRenegotiation.length ≤ 36
  alpn : totalLen m.alpnProtocols + m.alpnProtocols.length ≤ 16384

/-- a ClientHello that offers a ticket of at most `maxSessionTicketLen` bytes passes `readHandshake`: its body
    (everything after the 4-byte header) is at most 35509 ≤ `maxHandshake` bytes -/
theorem capped_ticket_fits_clientHello (m : ClientHelloMsg) (ho : Ordinary m)
    (ht : m.sessionTicket.length ≤ maxSessionTicketLen) : (marshalClientHello m).length - 4 ≤ maxHandshake := by
  have h1 := marshalClientHello_length_le m
  have h2 := chExtensions_length_le m
  have := ho.sessionId; have := ho.suites; have := ho.comps; have := ho.serverName; have := ho.curves
  have := ho.points; have := ho.sigAlgs; have := ho.reneg; have := ho.alpn
  simp only [maxSessionTicketLen] at ht
  simp only [maxHandshake]
  omega

/-- (the repair) whatever certificate chain the client presented
    (`certs`: the lengths of its certificates, any number, any size) and whatever the master-secret length, the
    ticket the server issues can be offered: every ordinary ClientHello that carries a ticket of that length
    is within the handshake-message limit, so the next connection is never refused for its size. -/
theorem issued_ticket_fits_clientHello (master : Nat) (certs : List Nat) (m : ClientHelloMsg) (ho : Ordinary m)
    (ht : m.sessionTicket.length = ticketLen master certs) : (marshalClientHello m).length - 4 ≤ maxHandshake :=
  capped_ticket_fits_clientHello m ho (ht ▸ ticketLen_le_cap master certs)

/-- the NewSessionTicket message that carries an issued ticket
    passes the client's `readHandshake` (body 6 + ticket ≤ `maxHandshake`) and its 16-bit length field
    holds the ticket length itself - nothing wraps -/
theorem issued_ticket_fits_newSessionTicket (master : Nat) (certs : List Nat) (t : Gmsm.Bytes)
    (ht : t.length = ticketLen master certs) :
    (marshalNewSessionTicket ⟨t⟩).length - 4 ≤ maxHandshake ∧ t.length < 65536 ∧
    (marshalNewSessionTicket ⟨t⟩).length - 4 = 6 + t.length := by
  have h := ticketLen_le_cap master certs
  rw [← ht] at h
  simp only [maxSessionTicketLen] at h
  simp only [marshalNewSessionTicket, List.length_append, List.length_cons, List.length_nil, put24, put16, maxHandshake]
  omega

theorem marshalClientHello_length_ge (m : ClientHelloMsg) (h : m.ticketSupported = true) :
    4 + (38 + m.sessionId.length + 2 * m.cipherSuites.length + m.compressionMethods.length) + 2 + 4 +
      m.sessionTicket.length ≤ (marshalClientHello m).length := by
  have hr : (random32 m.random).length = 32 := by
    simp only [random32, List.length_take, List.length_append, List.length_replicate]; omega
  have hmem : (put16 35 ++ (put16 m.sessionTicket.length ++ m.sessionTicket)) ∈ chExtensions m := by
    simp [chExtensions, h]
  have hpos : (chExtensions m).length > 0 := List.length_pos_of_mem hmem
  have hfl : (put16 35 ++ (put16 m.sessionTicket.length ++ m.sessionTicket)).length ≤ (chExtensions m).flatten.length := by
    obtain ⟨a, b, hab⟩ := List.append_of_mem hmem
    rw [hab]; simp only [List.flatten_append, List.flatten_cons, List.length_append]; omega
  simp only [List.length_append, put16, List.length_cons, List.length_nil] at hfl
  simp only [marshalClientHello, List.length_append, List.length_cons, List.length_nil, put24, put16, put8, hr,
    writeU16s_length, if_pos hpos]
  omega

/-- As found: without the cap the ticket for a single client certificate of 65350 bytes (a legitimate
    Certificate message) is 65474 bytes long, and no ClientHello of the library's clients that offers it
    passes `readHandshake`: they send a 16-byte session id with a ticket (`hello.sessionId = make([]byte, 16)`),
    one compression method and at least one suite - even without any other extension the body is 65537 bytes
    or more -/
theorem uncapped_ticket_never_fits (m : ClientHelloMsg) (h : m.ticketSupported = true)
    (hsid : m.sessionId.length = 16) (hsu : 1 ≤ m.cipherSuites.length) (hco : m.compressionMethods.length = 1)
    (ht : m.sessionTicket.length = sealedLen 48 [65350]) : ¬ (marshalClientHello m).length - 4 ≤ maxHandshake := by
  have := marshalClientHello_length_ge m h
  have e : sealedLen 48 [65350] = 65474 := by decide
  rw [ht, e] at this
  simp only [maxHandshake]
  omega

end

/-- one client certificate of `n` bytes, 48-byte master secret: the ticket is 124 + n bytes -/
example : sealedLen 48 [2000] = 2124 := by decide
example : threeConnections 48 [2000] = (2124, true, true) := by decide
/-- the largest single certificate that still gets a ticket, and the first that does not -/
example : threeConnections 48 [16260] = (16384, true, true) := by decide
example : threeConnections 48 [16261] = (0, false, false) := by decide
example : threeConnections 48 [65350] = (0, false, false) := by decide
example : threeConnections 48 [65530] = (0, false, false) := by decide
/-- a chain of three certificates -/
example : ticketLen 48 [1200, 1500, 900] = 3732 := by decide
/-- an ordinary ClientHello exists and carries a full-size ticket -/
example : Ordinary ⟨0x0303, [], [], [0xc02f], [0], false, [], false, false, [], [], true, List.replicate 16384 0, [], [], true, []⟩ :=
  ⟨by decide, by decide, by decide, by decide, by decide, by decide, by decide, by decide, by decide⟩

end Props.C16Cap
