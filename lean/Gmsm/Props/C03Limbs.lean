/-
C03, limb layer: theorems about Model.P256Limbs, the transcription of the 9-limb Montgomery field
arithmetic of sm2/p256.go (sm2P256Add/Sub/Mul/Square/ReduceCarry/ReduceDegree/FromBig/ToBig).

Conventions: `value a = Σ a[i]·2^off_i` (offsets 0,29,57,86,114,143,171,200,228), R = 2^257, p the SM2 prime,
`fieldRepr a = value a · R⁻¹ mod p` the field element a limb vector stands for.
`Canon`: limbs of 29/28 bits; `InBounds`: even limbs < 2^30, odd limbs < 2^29 (the bounds the carry chains
guarantee after `sm2P256ReduceCarry` and all operations accept).

Parts: `Basic` (words as numbers, carry chains, ReduceCarry), `AddSub` (Add, Sub, FromBig, ToBig), `Mul` (the
product words), `Eliminate`, `Repack`, `Reduce` (the three phases of ReduceDegree); here ReduceDegree, Mul, Square
as Montgomery operations, and the function as found.
-/
import Gmsm.Props.C03Limbs.AddSub
import Gmsm.Props.C03Limbs.Mul
import Gmsm.Props.C03Limbs.Reduce
import Mathlib.Tactic.Ring
namespace Props.C03Limbs
set_option exponentiation.threshold 600
open Model.P256Limbs

/-- `sm2P256ReduceDegree` (repaired source, commit f1a1e85) is a Montgomery reduction:
    `value out · R ≡ Σ b[i]·2^off_i (mod p)`, with the output within the bounds even < 2^30, odd < 2^29.
    All it needs of its input is `LargeOK`: b[16] < 2^60 (all other words arbitrary).
    Along the way (the lemmas `repack_lit`, `eliminate_lit`, `outChain_lit`): no 32-bit
    operation of the function wraps around, every word of `tmp` stays a true non-negative integer, each
    elimination step adds exactly x·p at the position of the word it clears. -/
theorem reduceDegree_ok (b : Large) (hb : LargeOK b) :
    value (reduceDegree b) * R % P = valueLarge b % P ∧ InBounds (reduceDegree b) := by
  obtain ⟨b0, b1, b2, b3, b4, b5, b6, b7, b8, b9, b10, b11, b12, b13, b14, b15, b16, rfl⟩ := exists_lit17 b
  obtain ⟨t0, t1, t2, t3, t4, t5, t6, t7, t8, t9, t10, t11, t12, t13, t14, t15, t16, t17, e1, v1, c0, c1, c2, c3, c4,
    c5, c6, c7, c8, c9, c10, c11, c12, c13, c14, c15, c16, c17⟩ := repack_lit b0 b1 b2 b3 b4 b5 b6 b7 b8 b9 b10 b11
      b12 b13 b14 b15 b16 hb
  obtain ⟨s9, s10, s11, s12, s13, s14, s15, s16, s17, e2, v2, d9, d10, d11, d12, d13, d14, d15, d16, d17⟩ :=
    eliminate_lit t0 t1 t2 t3 t4 t5 t6 t7 t8 t9 t10 t11 t12 t13 t14 t15 t16 t17 (by omega) (by omega) (by omega)
      (by omega) (by omega) (by omega) (by omega) (by omega) (by omega) (by omega) (by omega) (by omega) (by omega)
      (by omega) (by omega) (by omega) (by omega)
  obtain ⟨v3, cn, ck⟩ := outChain_lit s9 s10 s11 s12 s13 s14 s15 s16 s17 (by omega) (by omega) (by omega) (by omega)
    (by omega)
  have e : reduceDegree #v[b0, b1, b2, b3, b4, b5, b6, b7, b8, b9, b10, b11, b12, b13, b14, b15, b16] =
      reduceCarry (outChain #v[0, 0, 0, 0, 0, 0, 0, 0, 0, s9, s10, s11, s12, s13, s14, s15, s16, s17]).1
        (outChain #v[0, 0, 0, 0, 0, 0, 0, 0, 0, s9, s10, s11, s12, s13, s14, s15, s16, s17]).2 := by
    show reduceCarry (outChain (eliminate true (repack _))).1 (outChain (eliminate true (repack _))).2 = _
    rw [e1, e2]
  rw [e]
  generalize outChain #v[0, 0, 0, 0, 0, 0, 0, 0, 0, s9, s10, s11, s12, s13, s14, s15, s16, s17] = r at v3 cn ck ⊢
  obtain ⟨h4, h5⟩ := reduceCarry_exact r.1 r.2 ck cn
  refine ⟨?_, h5⟩
  -- value out + carry·2p = value r + carry·2^257 = (what is left of tmp), and 2^257·(what is left) ≡ Σ b[i]·2^off_i
  rw [← v1, ← v2, ← v3, ← h4]
  have e3 : 2 ^ 257 * (value (reduceCarry r.1 r.2) + r.2.toNat * (2 * P))
      = value (reduceCarry r.1 r.2) * R + (2 ^ 257 * r.2.toNat * 2) * P := by
    unfold R
    ring
  rw [e3, Nat.add_mul_mod_self_right]

/-- `sm2P256Mul` (repaired source) is Montgomery multiplication: within the input bounds
    `value (mul a b) · R ≡ value a · value b (mod p)` and the output is within the bounds -/
theorem mul_ok (a b : Limbs) (ha : InBounds a) (hb : InBounds b) :
    value (mul a b) * R % P = value a * value b % P ∧ InBounds (mul a b) := by
  obtain ⟨_, hv, hl⟩ := mul_large_ok a b ha hb
  obtain ⟨h1, h2⟩ := reduceDegree_ok (mulLarge a b) hl
  exact ⟨by rw [← hv]; exact h1, h2⟩

/-- the same for `sm2P256Square` -/
theorem square_ok (a : Limbs) (ha : InBounds a) :
    value (square a) * R % P = value a * value a % P ∧ InBounds (square a) := by
  obtain ⟨_, hv, hl⟩ := square_large_ok a ha
  obtain ⟨h1, h2⟩ := reduceDegree_ok (squareLarge a) hl
  exact ⟨by rw [← hv]; exact h1, h2⟩

theorem montgomery_aux (v w r ri p : Nat) (hr : r * ri % p = 1) (h : v * r % p = w % p) :
    v * ri % p = w * ri % p * ri % p := by
  have e1 : (v * ri) * (r * ri) = (v * r) * (ri * ri) := by ring
  have e2 : w * (ri * ri) = (w * ri) * ri := by ring
  calc v * ri % p = (v * ri) * (r * ri) % p := by
        rw [Nat.mul_mod (v * ri) (r * ri), hr, Nat.mul_one, Nat.mod_mod]
    _ = (v * r) * (ri * ri) % p := by rw [e1]
    _ = (v * r % p) * (ri * ri) % p := by rw [Nat.mod_mul_mod]
    _ = (w % p) * (ri * ri) % p := by rw [h]
    _ = w * (ri * ri) % p := by rw [Nat.mod_mul_mod]
    _ = (w * ri) * ri % p := by rw [e2]
    _ = (w * ri % p) * ri % p := by rw [Nat.mod_mul_mod]

theorem montgomery_prod (x y ri p : Nat) : x * y * ri % p * ri % p = (x * ri % p) * (y * ri % p) % p := by
  have e : x * y * ri * ri = (x * ri) * (y * ri) := by ring
  rw [Nat.mod_mul_mod, e, Nat.mul_mod]

/-- in terms of the represented field elements: `fieldRepr (mul a b) = fieldRepr a · fieldRepr b mod p` -/
theorem fieldRepr_mul (a b : Limbs) (ha : InBounds a) (hb : InBounds b) :
    fieldRepr (mul a b) = fieldRepr a * fieldRepr b % P := by
  obtain ⟨h, _⟩ := mul_ok a b ha hb
  unfold fieldRepr
  rw [montgomery_aux _ _ R RInverse P R_RInverse h, montgomery_prod]

theorem fieldRepr_square (a : Limbs) (ha : InBounds a) :
    fieldRepr (square a) = fieldRepr a * fieldRepr a % P := by
  obtain ⟨h, _⟩ := square_ok a ha
  unfold fieldRepr
  rw [montgomery_aux _ _ R RInverse P R_RInverse h, montgomery_prod]

theorem fieldRepr_add (a b : Limbs) (ha : InBounds a) (hb : InBounds b) :
    fieldRepr (add a b) = (fieldRepr a + fieldRepr b) % P := by
  obtain ⟨h, _⟩ := add_ok a b ha hb
  unfold fieldRepr
  rw [Nat.mul_mod, h, ← Nat.mul_mod, Nat.add_mul, Nat.add_mod]

theorem fieldRepr_sub (a b : Limbs) (ha : InBounds a) (hb : InBounds b) :
    (fieldRepr (sub a b) + fieldRepr b) % P = fieldRepr a := by
  obtain ⟨h, _⟩ := sub_ok a b ha hb
  unfold fieldRepr
  rw [← Nat.add_mod, ← Nat.add_mul, Nat.mul_mod, h, ← Nat.mul_mod]

/-- witness inputs: canonical limbs of two field elements below p -/
def wrapA : Limbs := #v[0, 0, 0x1fffffff, 0xffffff2, 0x2000000, 0, 0, 0, 0x2000]
def wrapB : Limbs := #v[0, 0, 0x1fffffff, 0xfffffff, 0, 0, 0, 1, 1]
/-- the limb vector of the field element 1·R⁻¹ ("1" as limbs) -/
def limbOne : Limbs := #v[1, 0, 0, 0, 0, 0, 0, 0, 0]
/-- Montgomery limbs of the x-coordinate 7e4000018f01277e…8e212782 of a point on the curve -/
def wrapX : Limbs := #v[1, 0, 0, 7, 0, 0, 0, 0x818c24f, 0]

/-- `sm2P256ReduceDegree` AS FOUND (before commit f1a1e85) was not a Montgomery reduction (kernel-checked on concrete
    values).
    In an even elimination step with x = 1 the statement `tmp[i+9] += ((x >> 1) - 1) & xMask` adds
    0xffffffff; when `tmp[i+9]` is 0 the word wraps to 2^32 - 1 (first conjunct: the product 1·1, step 0 —
    the repaired code leaves 0 there).  For the canonical limb vectors `wrapA`, `wrapB` of two field
    elements the old `sm2P256Mul` is off by exactly 2^32·2^371 = 2^403, the repaired one is right; for
    `wrapX`, the x-coordinate of a curve point in Montgomery form, the old `sm2P256Square` is wrong
    (`IsOnCurve` rejected that point, `Double` returned a wrong point). -/
theorem reduceDegree_old_wraps :
    (elimEven false (repack (mulLarge limbOne limbOne)) 0)[9] = 0xffffffff ∧
    (elimEven true (repack (mulLarge limbOne limbOne)) 0)[9] = 0 ∧
    Canon wrapA ∧ Canon wrapB ∧ value wrapA < P ∧ value wrapB < P ∧
    value (mulOld wrapA wrapB) * R % P ≠ value wrapA * value wrapB % P ∧
    value (mulOld wrapA wrapB) * R % P = (value wrapA * value wrapB + 2 ^ 403) % P ∧
    value (mul wrapA wrapB) * R % P = value wrapA * value wrapB % P ∧
    wrapX = fromBig 0x7e4000018f01277ef1ded87e01c000017f1ffffe829fffff701ed8808e212782 ∧
    fieldRepr (squareOld wrapX) ≠ fieldRepr wrapX * fieldRepr wrapX % P ∧
    fieldRepr (square wrapX) = fieldRepr wrapX * fieldRepr wrapX % P := by decide

def limbMax : Limbs :=
  #v[0x3fffffff, 0x1fffffff, 0x3fffffff, 0x1fffffff, 0x3fffffff, 0x1fffffff, 0x3fffffff, 0x1fffffff, 0x3fffffff]

set_option maxRecDepth 100000 in
example : InBounds limbMax ∧ ¬ Canon limbMax ∧ InBounds (mul limbMax limbMax) ∧ InBounds (add limbMax limbMax) ∧
    InBounds (sub limbOne limbMax) ∧
    value (mul limbMax limbMax) * R % P = value limbMax * value limbMax % P := by decide
set_option maxRecDepth 100000 in
example : toBig (mul (fromBig 3) (fromBig 5)) = 15 ∧ toBig (add (fromBig 3) (fromBig 5)) = 8 ∧
    toBig (sub (fromBig 3) (fromBig 5)) = P - 2 ∧ toBig (square (fromBig (P - 1))) = 1 := by decide
example : toBig (fromBig (P - 1)) = P - 1 ∧ Canon (fromBig (P - 1)) ∧ fromBig 0 = #v[0, 0, 0, 0, 0, 0, 0, 0, 0] := by
  decide
set_option maxRecDepth 100000 in
example : LargeOK (mulLarge limbMax limbMax) ∧ (mulLarge limbMax limbMax)[8].toNat = 8070450512920576013 := by decide
example : reduceCarry limbOne 7 = #v[0xf, 0, 0x1FFFF900, 0x37FF, 0, 0, 0, 0xE000000, 0] := by decide

end Props.C03Limbs
