/-
C12 (byte level, top) — the top-level glue of sm4/sm4_gcm.go (as repaired: 427ae00, 6ea9e71, 400770d),
transcribed in `Model.GCMTop` as the code computes it, is GCM of SP 800-38D (`Spec.GCM`) over the same
block cipher: `GetY0` is `J0` (`getY0_eq`), the counter-mode loops over the `incr` blocks (buffer writes, `n, u`
bookkeeping, partial last block) are `GCTR_K(inc32(J0), ·)` (`ctrLoops_eq`), hence `GCMEncrypt` = GCM-AE_K
(`gcmEncryptGo_eq_ae`); `GCMDecrypt` returns the GCTR decryption and the recomputed tag, and GCM-AD_K is "compare
that tag, then release that plaintext" (`gcmDecryptGo_eq_ad`; the comparison is left to the caller of `Sm4GCM`,
which has none).  The round trips come from `Props.C12.dec_enc`.

The model is compared with the real Go code on every run (ops `gcmencb`, `gcmdecb`).
-/
import Gmsm.Model.GCMTop
import Gmsm.Props.C12Bytes
import Gmsm.Props.C12
namespace Props.C12Top
open Gmsm Spec.GCM Model.GCMBytes Model.GCMTop Proofs.GCM Proofs.Modes Props.C12Bytes

theorem incr_slice (N : Nat) (y0 : Bytes) (hy : y0.length = 16) (i : Nat) (hi : i < N) :
    slice (incr N y0) (i * blockSize) (i * blockSize + blockSize) = toBytes (iterInc i (ofBytes y0)) := by
  have hl : (slice (incr N y0) (i * blockSize) (i * blockSize + blockSize)).length = 16 :=
    slice_length _ i (by rw [incr_length N y0 hy]; omega)
  rw [← incr_block N y0 hy i hi, toBytes_ofBytes _ hl]

/-- `copy(dst[lo:hi], src)` where `dst` is filled up to `lo`, zero behind, and the window takes all of `src` -/
theorem copyInto_append (pre blk : Bytes) (z hi : Nat) (h : pre.length + blk.length ≤ hi) :
    copyInto (pre ++ List.replicate z 0) pre.length hi blk =
      pre ++ blk ++ List.replicate (z - blk.length) 0 := by
  unfold copyInto
  have e : min (hi - pre.length) blk.length = blk.length := by omega
  simp only [e]
  rw [List.take_left, List.take_length, ← List.drop_drop, List.drop_left, List.drop_replicate]

/-- the invariant of the full-block loop: after `k` more blocks the buffer holds `k` more blocks of the
    specification's GCTR output, the rest is still zero -/
theorem loop_ctr (E : Bytes → Bytes) (hE : ∀ x, (E x).length = 16) (y0 x : Bytes) (hy : y0.length = 16)
    (N k : Nat) : ∀ (i0 : Nat) (pre : Bytes), pre.length = i0 * 16 → (i0 + k) * 16 < x.length → i0 + k < N →
    ∃ pre2 : Bytes,
      (List.range' (i0 + 1) k).foldl (ctrStep E (incr N y0) x) (pre ++ List.replicate (x.length - i0 * 16) 0) =
        pre2 ++ List.replicate (x.length - (i0 + k) * 16) 0 ∧
      pre2.length = (i0 + k) * 16 ∧
      pre ++ gctrAll E (iterInc (i0 + 1) (ofBytes y0)) (x.drop (i0 * 16)) =
        pre2 ++ gctrAll E (iterInc (i0 + k + 1) (ofBytes y0)) (x.drop ((i0 + k) * 16)) := by
  induction k with
  | zero => intro i0 pre hp _ _; exact ⟨pre, rfl, hp, rfl⟩
  | succ k ih =>
    intro i0 pre hp hlen hN
    rw [List.range'_succ, List.foldl_cons]
    have hxs : (slice x (i0 * blockSize) (i0 * blockSize + blockSize)).length = 16 :=
      slice_length x i0 (by omega)
    have hb : (xorBytes ((x.drop (i0 * 16)).take 16) (E (toBytes (iterInc (i0 + 1) (ofBytes y0))))).length = 16 := by
      rw [xorBytes_length, hE, ← slice_eq, hxs]; rfl
    have hstep : ctrStep E (incr N y0) x (pre ++ List.replicate (x.length - i0 * 16) 0) (i0 + 1) =
        (pre ++ xorBytes ((x.drop (i0 * 16)).take 16) (E (toBytes (iterInc (i0 + 1) (ofBytes y0))))) ++
          List.replicate (x.length - (i0 + 1) * 16) 0 := by
      unfold ctrStep
      dsimp only
      rw [incr_slice N y0 hy (i0 + 1) (by omega), Nat.add_sub_cancel,
        addition_eq_xorBytes _ _ (by rw [hxs, hE]), slice_eq]
      have e : i0 * blockSize = pre.length := by rw [hp]; rfl
      rw [e]
      show copyInto _ pre.length (pre.length + 16) _ = _
      rw [copyInto_append _ _ _ _ (by omega), hb]
      congr 2; omega
    rw [hstep]
    obtain ⟨pre2, h1, h2, h3⟩ := ih (i0 + 1)
      (pre ++ xorBytes ((x.drop (i0 * 16)).take 16) (E (toBytes (iterInc (i0 + 1) (ofBytes y0)))))
      (by rw [List.length_append, hb, hp]; omega) (by omega) (by omega)
    refine ⟨pre2, ?_, ?_, ?_⟩
    · rw [h1]; congr 2; omega
    · rw [h2]; omega
    · have e1 : i0 + 1 + k + 1 = i0 + (k + 1) + 1 := by omega
      have e2 : (i0 + 1 + k) * 16 = (i0 + (k + 1)) * 16 := by omega
      rw [e1, e2] at h3
      rw [← h3, gctrAll_long E _ _ (by rw [List.length_drop]; omega), List.append_assoc, List.drop_drop,
        ← iterInc_succ]
      have e3 : i0 * 16 + 16 = (i0 + 1) * 16 := by omega
      rw [e3]

theorem ctrLoops_eq (E : Bytes → Bytes) (hE : ∀ x, (E x).length = 16) (y0 x : Bytes) (hy : y0.length = 16) :
    ctrLoops E y0 x = gctrAll E (inc32 (ofBytes y0)) x := by
  unfold ctrLoops
  dsimp only
  by_cases h0 : x.length = 0
  · have : x = [] := List.eq_nil_of_length_eq_zero h0
    subst this
    simp only [List.length_nil, calculm_v_zero, Nat.sub_self, List.range'_zero, List.foldl_nil, gctrAll_nil]
    simp [copyInto, addition, msb]
  · obtain ⟨k, hkl, hkr, hc⟩ := calculm_v_spec x.length (by omega)
    rw [hc]
    dsimp only
    obtain ⟨pre2, h1, h2, h3⟩ := loop_ctr E hE y0 x hy (k + 1 + 1) k 0 [] rfl (by omega) (by omega)
    simp only [Nat.zero_mul, Nat.zero_add, Nat.sub_zero, List.nil_append, List.drop_zero] at h1 h2 h3
    have e0 : k + 1 - 1 = k := by omega
    rw [e0, h1]
    have h3' : gctrAll E (inc32 (ofBytes y0)) x =
        pre2 ++ gctrAll E (iterInc (k + 1) (ofBytes y0)) (x.drop (k * 16)) := h3
    have hdl : (x.drop (k * 16)).length = x.length - k * 16 := List.length_drop
    rw [h3', gctrAll_short E _ _ (by omega) (by omega), incr_slice _ y0 hy (k + 1) (by omega)]
    -- the last (possibly partial) block
    have hKl := hE (toBytes (iterInc (k + 1) (ofBytes y0)))
    generalize E (toBytes (iterInc (k + 1) (ofBytes y0))) = K at hKl ⊢
    have hm : msb (8 * (x.length - k * 16)) K = K.take (x.drop (k * 16)).length := by
      unfold msb; rw [hdl]; congr 1; omega
    have hlast : addition (x.drop (k * blockSize)) (msb (8 * (x.length - k * 16)) K) =
        xorBytes (x.drop (k * 16)) K := by
      show addition (x.drop (k * 16)) _ = _
      rw [hm, addition_eq_xorBytes _ _ (by rw [List.length_take, hKl, hdl]; omega), xorBytes_take_right]
    have hxl : (xorBytes (x.drop (k * 16)) K).length = x.length - k * 16 := by
      rw [xorBytes_length, hKl, hdl]; omega
    have e1 : k * blockSize = pre2.length := by rw [h2]; rfl
    rw [hlast, e1, copyInto_append _ _ _ _ (by rw [h2, hxl]; omega), hxl, Nat.sub_self, List.replicate_zero,
      List.append_nil]

/-- `GetY0` is the pre-counter block `J0` of SP 800-38D 7.1 step 2, for every IV length -/
theorem getY0_eq (h iv : Bytes) (hh : h.length = 16) :
    ofBytes (getY0 h iv) = j0 (ofBytes h) iv ∧ (getY0 h iv).length = 16 := by
  unfold getY0 j0
  by_cases h12 : iv.length = 12
  · have e : iv.length * 8 = 96 := by omega
    rw [if_pos e, if_pos h12]
    exact ⟨rfl, by rw [List.length_append, h12]; rfl⟩
  · have e : ¬ iv.length * 8 = 96 := by omega
    rw [if_neg e, if_neg h12]
    refine ⟨?_, ghashGo_length h [] iv hh⟩
    rw [ghashGo_eq_ghash h [] iv hh]
    unfold ghash
    rw [padBlocks_nil]
    rfl

theorem tag_eq (E : Bytes → Bytes) (hE : ∀ x, (E x).length = 16) (h y0 a c : Bytes) (hh : h.length = 16)
    (hy : y0.length = 16) :
    msb 128 (addition (E y0) (ghashGo h a c)) =
      xorBytes (toBytes (ghash (ofBytes h) a c)) (E (toBytes (ofBytes y0))) := by
  have hg := ghashGo_length h a c hh
  rw [addition_eq_xorBytes _ _ (by rw [hE, hg]), xorBytes_comm, ghashGo_bytes h a c hh, toBytes_ofBytes y0 hy]
  unfold msb
  apply List.take_of_length_le
  rw [xorBytes_length, hE, ← ghashGo_bytes h a c hh, hg]
  decide

/-- `GCMEncrypt(K, IV, P, A)` as the Go code computes it returns exactly `(C, T)` of GCM-AE_K (SP 800-38D
    Algorithm 4, t = 128), for ALL byte strings `IV`, `P`, `A`: sm4_gcm.go accepts every IV length, the empty IV
    included, and no length bound is needed because the Go counter `incr` and the specification's `inc32` wrap
    identically. -/
theorem gcmEncryptGo_eq_ae (E : Bytes → Bytes) (hE : ∀ x, (E x).length = 16) (iv p a : Bytes) :
    gcmEncryptGo E iv p a = ae E iv p a := by
  unfold gcmEncryptGo ae getH
  dsimp only
  have hh : (E (List.replicate blockSize 0)).length = 16 := hE _
  obtain ⟨hy1, hy2⟩ := getY0_eq (E (List.replicate blockSize 0)) iv hh
  rw [ctrLoops_eq E hE _ p hy2, tag_eq E hE _ _ a _ hh hy2, hy1]
  rfl

/-- `GCMDecrypt(K, IV, C, A)` returns the GCTR decryption of `C` (whatever the tag) and
    the recomputed tag `T' = MSB_128(GCTR_K(J0, GHASH_H(A, C)))`; it does not compare tags itself. -/
theorem gcmDecryptGo_eq (E : Bytes → Bytes) (hE : ∀ x, (E x).length = 16) (iv c a : Bytes) :
    gcmDecryptGo E iv c a =
      (gctrAll E (inc32 (j0 (ofBytes (E (List.replicate 16 0))) iv)) c,
       xorBytes (toBytes (ghash (ofBytes (E (List.replicate 16 0))) a c))
         (E (toBytes (j0 (ofBytes (E (List.replicate 16 0))) iv)))) := by
  unfold gcmDecryptGo getH
  dsimp only
  have hh : (E (List.replicate blockSize 0)).length = 16 := hE _
  obtain ⟨hy1, hy2⟩ := getY0_eq (E (List.replicate blockSize 0)) iv hh
  rw [ctrLoops_eq E hE _ c hy2, tag_eq E hE _ _ a _ hh hy2, hy1]
  rfl

/-- GCM-AD_K (SP 800-38D Algorithm 5) is: run `GCMDecrypt`, compare the tag it
    returns with the received tag, release the plaintext it returns only when they are equal.
    (`Sm4GCM(…, false)` hands both values to the caller, who must do this comparison.) -/
theorem gcmDecryptGo_eq_ad (E : Bytes → Bytes) (hE : ∀ x, (E x).length = 16) (iv c a t : Bytes) :
    ad E iv c a t =
      if (gcmDecryptGo E iv c a).2 = t then some (gcmDecryptGo E iv c a).1 else none := by
  rw [gcmDecryptGo_eq E hE]
  rfl

/-- decrypting what `GCMEncrypt` produced (same key, IV, additional data) returns the plaintext and recomputes
    exactly the tag `GCMEncrypt` produced -/
theorem gcm_go_roundtrip (E : Bytes → Bytes) (hE : ∀ x, (E x).length = 16) (iv p a : Bytes) :
    gcmDecryptGo E iv (gcmEncryptGo E iv p a).1 a = (p, (gcmEncryptGo E iv p a).2) := by
  have h := Props.C12.dec_enc E hE iv p a
  rw [gcmDecryptGo_eq_ad E hE, ← gcmEncryptGo_eq_ae E hE] at h
  split at h
  · rename_i ht
    have hp : (gcmDecryptGo E iv (gcmEncryptGo E iv p a).1 a).1 = p := Option.some.inj h
    exact Prod.ext hp ht
  · cases h

/-- the wrapper `Sm4GCM` over SM4: encrypt-then-decrypt returns the plaintext and the same tag -/
theorem sm4GCMGo_roundtrip (key iv p a : Bytes) (hk : key.length = 16) :
    ∃ c t, sm4GCMGo Spec.SM4.encrypt key iv p a true = some (c, t) ∧
      sm4GCMGo Spec.SM4.encrypt key iv c a false = some (p, t) := by
  refine ⟨(gcmEncryptGo (Spec.SM4.encrypt key) iv p a).1, (gcmEncryptGo (Spec.SM4.encrypt key) iv p a).2, ?_, ?_⟩
  · simp [sm4GCMGo, hk, blockSize]
  · simp only [sm4GCMGo, hk, blockSize, ne_eq, not_true_eq_false, if_false, Bool.false_eq_true]
    rw [gcm_go_roundtrip _ (Props.C05.enc_length key)]

/-- `Sm4GCM` over SM4 is GCM-AE / the two outputs of `gcmDecryptGo_eq` for a 16-byte key, an error otherwise -/
theorem sm4GCMGo_enc (key iv p a : Bytes) :
    sm4GCMGo Spec.SM4.encrypt key iv p a true =
      if key.length = 16 then some (ae (Spec.SM4.encrypt key) iv p a) else none := by
  unfold sm4GCMGo blockSize
  by_cases hk : key.length = 16
  · simp [hk, gcmEncryptGo_eq_ae _ (Props.C05.enc_length key)]
  · simp [hk]

/-- `Sm4GCM(…, false)` over SM4: the GCTR decryption and the recomputed tag for a 16-byte key, an error otherwise -/
theorem sm4GCMGo_dec (key iv c a : Bytes) :
    sm4GCMGo Spec.SM4.encrypt key iv c a false =
      if key.length = 16 then some (gcmDecryptGo (Spec.SM4.encrypt key) iv c a) else none := by
  unfold sm4GCMGo blockSize
  by_cases hk : key.length = 16
  · simp [hk]
  · simp [hk]

/-- the RFC 8998 appendix A.2 SM4-GCM vector through the byte-level model
    (by `sm4GCMGo_enc` the evaluation is the one of `Props.C12.rfc8998_ciphertext`). -/
example :
    let key : Bytes := [0x01,0x23,0x45,0x67,0x89,0xAB,0xCD,0xEF,0xFE,0xDC,0xBA,0x98,0x76,0x54,0x32,0x10]
    let iv : Bytes := [0x00,0x00,0x12,0x34,0x56,0x78,0x00,0x00,0x00,0x00,0xAB,0xCD]
    let aad : Bytes := [0xFE,0xED,0xFA,0xCE,0xDE,0xAD,0xBE,0xEF,0xFE,0xED,0xFA,0xCE,0xDE,0xAD,0xBE,0xEF,0xAB,0xAD,0xDA,0xD2]
    let pt : Bytes := List.replicate 8 0xAA ++ List.replicate 8 0xBB
    (sm4GCMGo Spec.SM4.encrypt key iv pt aad true).map (·.1) =
      some [0x17,0xF3,0x99,0xF0,0x8C,0x67,0xD5,0xEE,0x19,0xD0,0xDC,0x99,0x69,0xC4,0xBB,0x7D] := by
  intro key iv aad pt
  have hk : key.length = 16 := rfl
  rw [sm4GCMGo_enc, if_pos hk]
  exact congrArg some Props.C12.rfc8998_ciphertext

end Props.C12Top
