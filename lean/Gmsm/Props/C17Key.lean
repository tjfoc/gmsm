/-
C17 (PKCS#12): the private key that `Encode` puts into a bundle is the key the decoders give back, and
`ToPEM` writes it out.

Decoding (`parse_marshal`, `accepted_key_decodes`; hypotheses `P.Sane`, `k.Valid P`): what
`marshalPKCS8PrivateKey` writes for an RSA, NIST-curve ECDSA or SM2 key, `ParsePKCS8PrivateKey` reads back
as that key.  Before the repair `ParsePKCS8PrivateKey` had no case for `oidPublicKeyRSA`: `parse_marshal`
was false for every `Key.rsa k` (`Encode` accepted the key, `Decode` / `DecodeAll` / `ToPEM` answered
"PKCS#8 wrapping contained private key with unknown algorithm: 1.2.840.113549.1.1.1").

ToPEM (`topem_writes_inner_key`, `sm2_bundle_topem`, `topem_total`): for such a key the PRIVATE KEY block
is the inner structure `Encode` wrapped, and `toPEM` answers for every decoded key; before the repair of
`convertBag` it refused every key on the SM2 curve.
-/
import Gmsm.Model.PKCS8
import Gmsm.Proofs.BytesNat
namespace Props.C17Key
open Gmsm Gmsm.Model.PKCS8

theorem stripLeading_of_length_le (bs : Bytes) (size : Nat) (h : bs.length ≤ size) : stripLeading bs size = some bs := by
  cases bs with
  | nil => rfl
  | cons b bs =>
    unfold stripLeading
    rw [if_neg (by omega)]

/-- The key types `Encode` (marshalPKCS8PrivateKey) accepts: RSA keys, ECDSA keys
    on the four NIST curves, SM2 keys. -/
theorem encode_accepts_iff (k : Key) :
    (marshal k).isSome ↔ (∃ r, k = .rsa r) ∨ (∃ c d, k = .ecdsa c d ∧ c ≠ .sm2) ∨ (∃ c d, k = .sm2 c d) := by
  cases k with
  | rsa r => simp [marshal]
  | ecdsa c d =>
    by_cases hc : c = .sm2
    · simp [marshal, hc]
    · simp [marshal, hc]
  | sm2 c d => simp [marshal]
  | other => simp [marshal]

/-- The repaired behaviour: whatever `Encode` writes for a usable key - RSA, ECDSA on a NIST curve, SM2 -
    `ParsePKCS8PrivateKey` reads back as that key: the same RSA key, the same curve and scalar. -/
theorem parse_marshal (P : Params) (hP : P.Sane) (k : Key) (p : P8) (hv : k.Valid P) (h : marshal k = some p) :
    (parse P p).toOption = view k := by
  have ec (c : Curve) (d : Nat) (hd : d < P.order c) :
      parse P ⟨.ecPublicKey, some (.known c), .sec1 1 (i2ospR c.size d) (.known c)⟩ = .ok (.ecdsa c d) := by
    have hlt : d < 256 ^ c.size := Nat.lt_of_lt_of_le hd (hP c)
    simp only [parse, parseEC]
    rw [if_neg (by decide)]
    simp only [os2ip_i2ospR_of_lt _ _ hlt]
    rw [if_neg (by omega), stripLeading_of_length_le _ _ (by rw [i2ospR_length]; exact Nat.le_refl _)]
  cases k with
  | rsa r =>
    simp only [marshal, Option.some.injEq] at h
    subst h
    rfl
  | ecdsa c d =>
    simp only [marshal] at h
    split at h
    · exact absurd h (by simp)
    · simp only [Option.some.injEq] at h
      subst h
      rw [ec c d hv]; rfl
  | sm2 c d =>
    simp only [marshal, Option.some.injEq] at h
    subst h
    rw [ec c d hv]; rfl
  | other => simp [marshal] at h

/-- no key type is accepted on the way in and unknown on the way out -/
theorem accepted_key_decodes (P : Params) (hP : P.Sane) (k : Key) (hv : k.Valid P) (ha : (marshal k).isSome) :
    ∃ p pk, marshal k = some p ∧ parse P p = .ok pk ∧ view k = some pk := by
  obtain ⟨p, hp⟩ := Option.isSome_iff_exists.mp ha
  have h := parse_marshal P hP k p hv hp
  refine ⟨p, ?_⟩
  cases hq : parse P p with
  | error e =>
    rw [hq] at h
    have hv2 : view k = none := h.symm
    cases k <;> simp [view, marshal] at hv2 hp
  | ok pk =>
    rw [hq] at h
    exact ⟨pk, hp, rfl, h.symm⟩

/-- The case that failed before the repair, stated on its own. -/
theorem rsa_bundle_decodes (P : Params) (r : RsaKey) :
    ∃ p, marshal (.rsa r) = some p ∧ parse P p = .ok (.rsa r) := ⟨_, rfl, rfl⟩

/-- With the repair of `convertBag`: for every usable key that `Encode` accepts `ToPEM` succeeds and its
    PRIVATE KEY block carries the very key structure that `Encode` wrapped (PKCS#1 resp. SEC 1 with the
    scalar padded to the size of the curve).
    Before the repair the statement had an exception: `toPEM (.ecdsa .sm2 d) = none`, every SM2 bundle was
    refused ("x509: unknown elliptic curve"). -/
theorem topem_writes_inner_key (P : Params) (hP : P.Sane) (k : Key) (p : P8) (pk : PKey) (hv : k.Valid P)
    (h : marshal k = some p) (hq : parse P p = .ok pk) :
    toPEM pk = some p.inner := by
  have hm : some pk = view k := by rw [← parse_marshal P hP k p hv h, hq]; rfl
  have hk : (view k).bind toPEM = some p.inner := by
    cases k with
    | rsa r => cases h; rfl
    | ecdsa c d =>
      simp only [marshal] at h
      split at h
      · cases h
      · cases h; rfl
    | sm2 c d => cases h; rfl
    | other => cases h
  rw [← hm] at hk
  exact hk

/-- The repaired behaviour on its own: an SM2 key below the group order goes through
    `Encode`, comes back from the decoder as an EC key on the SM2 curve with the same scalar, and `ToPEM`
    writes it as SEC 1 on that curve - no error. -/
theorem sm2_bundle_topem (P : Params) (hP : P.Sane) (d : Nat) (hd : d < P.order .sm2) :
    ∃ p, marshal (.sm2 .sm2 d) = some p ∧ parse P p = .ok (.ecdsa .sm2 d) ∧
      toPEM (.ecdsa .sm2 d) = some (.sec1 1 (i2ospR 32 d) (.known .sm2)) := by
  obtain ⟨p, pk, hp, hq, hv⟩ := accepted_key_decodes P hP (.sm2 .sm2 d) hd rfl
  simp only [view, Option.some.injEq] at hv
  subst hv
  exact ⟨p, hp, hq, rfl⟩

/-- `ToPEM` converts every key the decoder can return -/
theorem topem_total (pk : PKey) : (toPEM pk).isSome := by
  cases pk <;> rfl

/-- other algorithm identifiers are still refused -/
theorem unknown_algorithm_rejected (P : Params) (param : Option CurveOID) (i : Inner) :
    parse P ⟨.other, param, i⟩ = .error .unknownAlgorithm := rfl

/-- an RSA algorithm identifier over something that is not an RSA key is refused -/
theorem rsa_alg_needs_rsa_key (P : Params) (param : Option CurveOID) (v : Nat) (b : Bytes) (c : CurveOID) :
    parse P ⟨.rsaEncryption, param, .sec1 v b c⟩ = .error .badRSA ∧ parse P ⟨.rsaEncryption, param, .junk⟩ = .error .badRSA :=
  ⟨rfl, rfl⟩

/-- the real curve orders fit the byte lengths the code computes from them -/
theorem stdParams_sane : stdParams.Sane := by
  intro c
  cases c <;> decide

/-- for the real curves -/
theorem parse_marshal_std (k : Key) (p : P8) (hv : k.Valid stdParams) (h : marshal k = some p) :
    (parse stdParams p).toOption = view k := parse_marshal stdParams stdParams_sane k p hv h

def toyP : Params := ⟨fun c => 256 ^ c.size - 1⟩
example : toyP.Sane := fun _ => Nat.sub_le _ _
example : (marshal (.rsa ⟨3233, 17, 413⟩)).isSome = true := rfl
example : parse toyP ⟨.rsaEncryption, none, .pkcs1 ⟨3233, 17, 413⟩⟩ = .ok (.rsa ⟨3233, 17, 413⟩) := rfl
example : (marshal (.ecdsa .p256 5)).bind (fun p => (parse toyP p).toOption) = some (.ecdsa .p256 5) := by decide
example : (marshal (.sm2 .sm2 7)).bind (fun p => (parse toyP p).toOption) = some (.ecdsa .sm2 7) := by decide
example : marshal (.ecdsa .sm2 7) = none := rfl
example : toPEM (.ecdsa .sm2 7) = some (.sec1 1 (i2ospR 32 7) (.known .sm2)) := rfl
example : ∃ p, marshal (.sm2 .sm2 7) = some p ∧ toPEM (.ecdsa .sm2 7) = some p.inner := ⟨_, rfl, rfl⟩

end Props.C17Key
