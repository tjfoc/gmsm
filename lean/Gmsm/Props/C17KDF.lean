/-
C17 — the PKCS#12 key derivation and integrity check that tjfoc/gmsm carries itself
(pkcs12/pbkdf.go, mac.go, the MAC part of pkcs12.go `getSafeContents`), theorems about `Model.PKCS12`
for ALL inputs.  Serves: "A PKCS#12 bundle encoded with a password decodes, with that password, to the same
private key and certificates, is rejected with any other password, and no modification of its bytes makes
it decode to a different key or certificate."

 * `pbkdf_eq_spec`    the big.Int / buffer code of pbkdf.go computes RFC 7292 B.2 (`Spec.PKCS12KDF.kdf`) for
                      every hash with 20-byte output (iteration count 0 counts as 1: `pbkdf_r0`);
                      `updateBlock_eq` (the truncate / left-pad code is "mod 2^(8v), v bytes");
                      `pbkdf_literal20_gap` / `pbkdf_literal20_panic`: with u ≠ 20 the code is NOT the RFC.
 * `mac_accepts_iff`  verifyMac accepts exactly the digest HMAC(kdf(password), message).
 * `empty_password_rule`, `getSafeContents_ok_iff`  which (password, stored MAC) pairs are accepted.
 Distinct passwords have distinct BMP encodings: `Props.C17.bmpString_injective` (not repeated here).
Core Lean only (no Mathlib).
-/
import Gmsm.Model.PKCS12
import Gmsm.Spec.PKCS12KDF
import Gmsm.Spec.SHA1
import Gmsm.Proofs.BytesNat
namespace Props.C17KDF
open Gmsm Model.PKCS12

/-- pbkdf.go:136-153: whatever the length of `Ij.Bytes()`, after the two adjustments `Ijb` is the
    v-byte big-endian encoding of `(I_j + B + 1) mod 2^(8v)` -/
theorem updateBlock_eq (v b : Nat) (blk : Bytes) :
    updateBlock v b blk = i2ospR v ((os2ip blk + b + 1) % 2 ^ (8 * v)) := by
  rw [show 2 ^ (8 * v) = 256 ^ v from Nat.pow_mul 2 8 v]
  simp only [updateBlock]
  generalize os2ip blk + b + 1 = n
  have hv := os2ip_natBytes n
  by_cases h1 : (natBytes n).length > v
  · -- a carry out of the top byte: the leading bytes are dropped
    have hd : ((natBytes n).drop ((natBytes n).length - v)).length = v :=
      List.length_drop.trans (Nat.sub_sub_self (Nat.le_of_lt h1))
    rw [if_pos h1, if_neg (by omega)]
    exact eq_i2ospR_of hd (by rw [os2ip_drop, ← List.length_drop, hd, hv, Nat.mod_mod])
  · have hm : n % 256 ^ v = n := Nat.mod_eq_of_lt (lt_of_natBytes_length_le n v (by omega))
    rw [if_neg h1]
    split
    · exact eq_i2ospR_of (by rw [List.length_append, List.length_replicate]; omega)
        (by rw [os2ip_replicate_zero_append, hv, Nat.mod_mod, hm])
    · exact eq_i2ospR_of (by omega) (by rw [hv, Nat.mod_mod, hm])


open Spec.PKCS12KDF

theorem repeatBytes_length (p : Bytes) (k : Nat) : (repeatBytes p k).length = k * p.length := by
  induction k with
  | zero => simp [repeatBytes]
  | succ k ih => simp [repeatBytes, ih, Nat.add_mul, Nat.add_comm]

theorem repeatBytes_succ_right (p : Bytes) (k : Nat) : repeatBytes p k ++ p = repeatBytes p (k + 1) := by
  induction k with
  | zero => simp [repeatBytes]
  | succ k ih => rw [repeatBytes, List.append_assoc, ih]; rfl

theorem repeatBytes_get (p : Bytes) (k i : Nat) (h : i < k * p.length) :
    (repeatBytes p k)[i]? = p[i % p.length]? := by
  induction k generalizing i with
  | zero => simp at h
  | succ k ih =>
    rw [repeatBytes]
    by_cases hi : i < p.length
    · rw [List.getElem?_append_left hi, Nat.mod_eq_of_lt hi]
    · have hge : p.length ≤ i := by omega
      rw [List.getElem?_append_right hge, ih _ (by rw [Nat.add_mul] at h; omega), ← Nat.mod_eq_sub_mod hge]

theorem cycleTo_length (p : Bytes) (n : Nat) : (cycleTo p n).length = n := by simp [cycleTo]

theorem cycleTo_get (p : Bytes) (n i : Nat) (h : i < n) : (cycleTo p n)[i]? = some (p.getD (i % p.length) 0) := by
  simp [cycleTo, List.getElem?_map, List.getElem?_range h]

theorem take_repeatBytes (p : Bytes) (k n : Nat) (hp : 0 < p.length) (h : n ≤ k * p.length) :
    (repeatBytes p k).take n = cycleTo p n := by
  apply List.ext_getElem?
  intro i
  by_cases hi : i < n
  · rw [List.getElem?_take, if_pos hi, repeatBytes_get p k i (by omega), cycleTo_get p n i hi]
    have : i % p.length < p.length := Nat.mod_lt _ hp
    rw [List.getD_eq_getElem?_getD, List.getElem?_eq_getElem this]; rfl
  · rw [List.getElem?_take, if_neg hi]
    symm; rw [List.getElem?_eq_none_iff, cycleTo_length]; omega

theorem ceil_mul_ge (a b : Nat) (hb : 0 < b) : a ≤ (a + b - 1) / b * b := by
  have h1 := Nat.div_add_mod (a + b - 1) b
  have h2 := Nat.mod_lt (a + b - 1) hb
  rw [Nat.mul_comm] at h1
  omega

theorem extend_nil (v : Nat) (hv : 1 ≤ v) : extend [] v = [] := by
  have : (v - 1) / v = 0 := Nat.div_eq_of_lt (by omega)
  simp [extend, ceilDiv, cycleTo, this]

/-- pbkdf.go:25-31 is steps 2 / 3 of the RFC -/
theorem fillWithRepeats_eq_extend (p : Bytes) (v : Nat) (hv : 1 ≤ v) : fillWithRepeats p v = extend p v := by
  by_cases hp : p.length = 0
  · rw [List.eq_nil_of_length_eq_zero hp, extend_nil v hv]; rfl
  · unfold fillWithRepeats extend ceilDiv
    rw [if_neg hp]
    exact take_repeatBytes p _ _ (by omega) (ceil_mul_ge _ _ (by omega))


/-- the loop of pbkdf.go:120-122 started with `k` copies in `B`: what `B[:v]` then reads -/
theorem take_fillBLoop (Ai : Bytes) (v : Nat) (hA : 0 < Ai.length) (fuel k : Nat) (h : v ≤ k * Ai.length + fuel) :
    (fillBLoop Ai v fuel (repeatBytes Ai k)).take v = cycleTo Ai v := by
  induction fuel generalizing k with
  | zero => exact take_repeatBytes Ai k v hA h
  | succ fuel ih =>
    unfold fillBLoop
    by_cases hl : (repeatBytes Ai k).length < v
    · rw [if_pos hl, repeatBytes_succ_right]
      exact ih (k + 1) (by rw [Nat.add_mul]; omega)
    · rw [if_neg hl]
      rw [repeatBytes_length] at hl
      exact take_repeatBytes Ai k v hA (by omega)

/-- pbkdf.go:119-123 is step 6.B -/
theorem fillB_eq (Ai : Bytes) (v : Nat) (hA : 0 < Ai.length) : fillB Ai v = some (cycleTo Ai v) := by
  rw [fillB, if_neg (by omega)]
  exact congrArg some (take_fillBLoop Ai v hA v 0 (by omega))

theorem addBlocks_length (v b k : Nat) (I : Bytes) : (addBlocks v b k I).length = k * v := by
  induction k generalizing I with
  | zero => simp [addBlocks]
  | succ k ih => simp [addBlocks, i2ospR_length, ih, Nat.add_mul, Nat.add_comm]

theorem goCopy_same (dst src : Bytes) (h : src.length = dst.length) : goCopy dst src = src := by
  rw [goCopy, List.take_of_length_le (Nat.le_of_eq h), List.drop_eq_nil_of_le (Nat.le_of_eq h.symm), List.append_nil]

/-- pbkdf.go:132-155 with `j` blocks done (`P`) and `n` to go (`R`): the in-place loop is `addBlocks` -/
theorem updateILoop_spec (v b : Nat) (n j : Nat) (P R : Bytes) (hP : P.length = j * v) (hR : n * v ≤ R.length) :
    updateILoop v b n j (P ++ R) = P ++ addBlocks v b n R ++ R.drop (n * v) := by
  induction n generalizing j P R with
  | zero => simp [updateILoop, addBlocks]
  | succ n ih =>
    rw [Nat.add_mul, Nat.one_mul] at hR
    have hl : (updateBlock v b (R.take v)).length = v := by rw [updateBlock_eq, i2ospR_length]
    -- block j is the first v bytes of R; it is overwritten whole, and moves over to the finished part
    rw [updateILoop, Nat.add_mul, Nat.one_mul, ← hP, List.drop_left, List.take_left, ← List.drop_drop, List.drop_left,
      goCopy_same _ _ (by rw [hl, List.length_take]; omega), List.append_assoc, ← List.append_assoc P,
      ih (j + 1) _ (R.drop v) (by rw [List.length_append, hP, hl, Nat.add_mul, Nat.one_mul])
        (by rw [List.length_drop]; omega),
      addBlocks, updateBlock_eq, List.drop_drop, Nat.add_comm v]
    simp only [List.append_assoc, Nat.add_mul, Nat.one_mul]

/-- pbkdf.go:128-156 is step 6.C, when I consists of whole v-byte blocks -/
theorem updateI_eq_stepI (v : Nat) (B I : Bytes) (hI : I.length % v = 0) : updateI v B I = stepI v B I := by
  unfold updateI stepI
  have hd : I.length / v * v = I.length := Nat.div_mul_cancel (Nat.dvd_of_mod_eq_zero hI)
  have := updateILoop_spec v (os2ip B) (I.length / v) 0 [] I (by simp) (by omega)
  rw [List.nil_append, List.nil_append] at this
  rw [this, hd, List.drop_length, List.append_nil]

theorem stepI_length (v : Nat) (B I : Bytes) (hI : I.length % v = 0) : (stepI v B I).length = I.length := by
  rw [stepI, addBlocks_length, Nat.div_mul_cancel (Nat.dvd_of_mod_eq_zero hI)]


theorem applyN_comm (H : Bytes → Bytes) (n : Nat) (a : Bytes) : applyN H n (H a) = H (applyN H n a) := by
  induction n generalizing a with
  | zero => rfl
  | succ n ih => simp only [applyN]; rw [ih]

theorem applyN_eq_hpow (H : Bytes → Bytes) (n : Nat) (a : Bytes) : applyN H n a = hpow H n a := by
  induction n generalizing a with
  | zero => rfl
  | succ n ih => rw [applyN, applyN_comm, ih, hpow]

/-- `r = 0` hashes once, exactly like `r = 1` -/
theorem hashIter_zero (H : Bytes → Bytes) (x : Bytes) : hashIter H 0 x = hashIter H 1 x := rfl

/-- pbkdf.go:110-113 is H^r for r ≥ 1 (and H^1 for r = 0) -/
theorem hashIter_eq_hpow (H : Bytes → Bytes) (r : Nat) (x : Bytes) : hashIter H r x = hpow H (max 1 r) x := by
  cases r with
  | zero => rfl
  | succ k => rw [Nat.max_eq_right (Nat.le_add_left 1 k), hashIter, Nat.add_sub_cancel, applyN_comm, applyN_eq_hpow, hpow]

theorem hpow_length (H : Bytes → Bytes) (u : Nat) (hH : ∀ x, (H x).length = u) (r : Nat) (hr : 1 ≤ r) (x : Bytes) :
    (hpow H r x).length = u := by
  obtain ⟨k, rfl⟩ : ∃ k, r = k + 1 := ⟨r - 1, by omega⟩
  rw [hpow, hH]

theorem blocksA_flatten_length (H : Bytes → Bytes) (u : Nat) (hH : ∀ x, (H x).length = u) (r v : Nat) (hr : 1 ≤ r)
    (D : Bytes) (c : Nat) (I : Bytes) : (blocksA H r v D c I).flatten.length = c * u := by
  induction c generalizing I with
  | zero => simp [blocksA]
  | succ c ih =>
    simp only [blocksA, List.flatten_cons, List.length_append]
    rw [ih, hpow_length H u hH r hr, Nat.add_mul, Nat.one_mul, Nat.add_comm]

theorem copyInto_block (pre Ai : Bytes) (n i : Nat) (hp : pre.length = i * 20) (hA : Ai.length = 20) :
    copyInto (pre ++ List.replicate ((n + 1) * 20) 0) (i * 20) Ai = pre ++ Ai ++ List.replicate (n * 20) 0 := by
  unfold copyInto goCopy
  rw [← hp, List.take_left, List.drop_left, List.length_replicate, hA,
    List.take_of_length_le (by omega), List.drop_replicate, Nat.add_mul, Nat.one_mul, Nat.add_sub_cancel,
    List.append_assoc]

/-- the loop of pbkdf.go:107-158 started at round `i` with `pre` = A_1‖…‖A_i already in the buffer -/
theorem pbkdfLoop_spec (H : Bytes → Bytes) (hH : ∀ x, (H x).length = 20) (r v c : Nat) (D : Bytes)
    (n i : Nat) (I pre : Bytes) (hc : i + n = c) (hp : pre.length = i * 20) (hI : I.length % v = 0) :
    pbkdfLoop H r v c D n i I (pre ++ List.replicate (n * 20) 0) =
      some (pre ++ (blocksA H (max 1 r) v D n I).flatten) := by
  induction n generalizing i I pre with
  | zero => simp [pbkdfLoop, blocksA]
  | succ n ih =>
    unfold pbkdfLoop
    have hA : (hpow H (max 1 r) (D ++ I)).length = 20 := hpow_length H 20 hH _ (Nat.le_max_left 1 r) _
    simp only [hashIter_eq_hpow H r]
    rw [copyInto_block pre _ n i hp hA]
    by_cases hn : i < c - 1
    · rw [if_pos hn, fillB_eq _ v (by omega)]
      simp only []
      rw [updateI_eq_stepI v _ I hI]
      have := ih (i + 1) (stepI v (cycleTo (hpow H (max 1 r) (D ++ I)) v) I) (pre ++ hpow H (max 1 r) (D ++ I)) (by omega)
        (by rw [List.length_append, hp, hA, Nat.add_mul]) (by rw [stepI_length v _ I hI]; exact hI)
      rw [this, blocksA, List.flatten_cons, List.append_assoc]
    · rw [if_neg hn]
      have hn0 : n = 0 := by omega
      subst hn0
      simp [pbkdfLoop, blocksA]

theorem extend_length (p : Bytes) (v : Nat) : (extend p v).length = v * ceilDiv p.length v := by
  simp [extend, cycleTo_length]

theorem pbkdfLoop_r0 (H : Bytes → Bytes) (v c : Nat) (D : Bytes) (n i : Nat) (I A : Bytes) :
    pbkdfLoop H 0 v c D n i I A = pbkdfLoop H 1 v c D n i I A := by
  induction n generalizing i I A with
  | zero => rfl
  | succ n ih => simp only [pbkdfLoop, hashIter_zero, ih]

/-- an iteration count of 0 gives what an iteration count of 1 gives (`for j := 1; j < r; j++` runs neither
    time); the same holds for a negative Go `int`, see `pbkdfInt` -/
theorem pbkdf_r0 (H : Bytes → Bytes) (u v : Nat) (salt password : Bytes) (ID : Byte) (size : Nat) :
    pbkdf H u v salt password 0 ID size = pbkdf H u v salt password 1 ID size := by
  unfold pbkdf
  simp only [pbkdfLoop_r0]

/-- **pbkdf.go:33-170 = RFC 7292 B.2.**  For every hash function `H` whose output has 20 bytes (the length the
    literal `20` in `A := make([]byte, c*20)` / `copy(A[i*20:], Ai[:])` presupposes — SHA-1 in every call of
    the library), every block size v ≥ 1, salt, password, ID, size and iteration count r, the Go function returns
    (never panics) and its result is the RFC's.  r = 0 is treated as r = 1 by the code (the RFC's H^0 would be
    the identity: see the example `spec_r0_differs`); size = 0 gives the empty key in both (c = 0, no hash is
    computed).  The I_j update of lines 128-156 (SetBytes / Add / Add / Bytes / drop leading / left-pad) is
    `(I_j + B + 1) mod 2^(8v)` by `updateBlock_eq`, including the cases where `Ij.Bytes()` is longer (carry out
    of the top byte) or shorter (leading zero bytes) than v. -/
theorem pbkdf_eq_spec (H : Bytes → Bytes) (hH : ∀ x, (H x).length = 20) (v : Nat) (hv : 1 ≤ v)
    (salt password : Bytes) (r : Nat) (ID : Byte) (size : Nat) :
    pbkdf H 20 v salt password r ID size = some (kdf H 20 v salt password (max 1 r) ID size) := by
  unfold pbkdf kdf
  rw [if_neg (by omega), if_neg (by omega)]
  simp only [fillWithRepeats_eq_extend _ v hv]
  have hI : (extend salt v ++ extend password v).length % v = 0 := by
    rw [List.length_append, extend_length, extend_length, ← Nat.mul_add, Nat.mul_mod_right]
  have := pbkdfLoop_spec H hH r v ((size + 20 - 1) / 20) (List.replicate v ID) ((size + 20 - 1) / 20) 0
    (extend salt v ++ extend password v) [] (by omega) (by simp) hI
  rw [List.nil_append, List.nil_append] at this
  rw [this]
  simp only []
  rw [if_pos]
  · rfl
  · rw [blocksA_flatten_length H 20 hH _ v (Nat.le_max_left 1 r)]
    exact ceil_mul_ge size 20 (by omega)

theorem kdf_length (H : Bytes → Bytes) (u : Nat) (hu : 1 ≤ u) (hH : ∀ x, (H x).length = u) (v : Nat)
    (salt password : Bytes) (r : Nat) (hr : 1 ≤ r) (ID : Byte) (size : Nat) :
    (kdf H u v salt password r ID size).length = size := by
  unfold kdf
  simp only [List.length_take, blocksA_flatten_length H u hH r v hr, ceilDiv]
  have := ceil_mul_ge size u hu
  omega

/-- pbkdf.go:163 `return A[:size]`: the derived key has exactly `size` bytes (and the slice expression is in range) -/
theorem pbkdf_length (H : Bytes → Bytes) (hH : ∀ x, (H x).length = 20) (v : Nat) (hv : 1 ≤ v)
    (salt password : Bytes) (r : Nat) (ID : Byte) (size : Nat) :
    ∃ key, pbkdf H 20 v salt password r ID size = some key ∧ key.length = size :=
  ⟨_, pbkdf_eq_spec H hH v hv salt password r ID size,
    kdf_length H 20 (by omega) hH v salt password (max 1 r) (by omega) ID size⟩

/-- the same for a Go `int` iteration count (the `Iterations` field of a file may be 0 or negative): everything ≤ 1 is one iteration -/
theorem pbkdfInt_eq_spec (H : Bytes → Bytes) (hH : ∀ x, (H x).length = 20) (v : Nat) (hv : 1 ≤ v)
    (salt password : Bytes) (r : Int) (ID : Byte) (size : Nat) :
    pbkdfInt H 20 v salt password r ID size = some (kdf H 20 v salt password (max 1 r.toNat) ID size) :=
  pbkdf_eq_spec H hH v hv salt password r.toNat ID size

/-- pbkdf.go:25-31 `fillWithRepeats` (RFC steps 2 and 3) for v ≥ 1: the empty pattern gives the empty string; the
    length is v·⌈len/v⌉, i.e. the least multiple of v that is ≥ len(pattern); byte i is pattern[i mod len].
    (With v = 0 and a non-empty pattern Go panics: integer divide by zero — see `Model.PKCS12.pbkdf`.) -/
theorem fillWithRepeats_spec (pattern : Bytes) (v : Nat) (hv : 1 ≤ v) :
    (pattern = [] → fillWithRepeats pattern v = []) ∧
    (fillWithRepeats pattern v).length = v * ((pattern.length + v - 1) / v) ∧
    (pattern.length ≤ (fillWithRepeats pattern v).length ∧ (fillWithRepeats pattern v).length < pattern.length + v ∧
      (fillWithRepeats pattern v).length % v = 0) ∧
    (∀ i, i < (fillWithRepeats pattern v).length →
      (fillWithRepeats pattern v)[i]? = some (pattern.getD (i % pattern.length) 0)) := by
  rw [fillWithRepeats_eq_extend pattern v hv]
  have hl : (extend pattern v).length = v * ((pattern.length + v - 1) / v) := extend_length pattern v
  refine ⟨?_, hl, ⟨?_, ?_, ?_⟩, ?_⟩
  · rintro rfl; exact extend_nil v hv
  · rw [hl, Nat.mul_comm]; exact ceil_mul_ge _ _ (by omega)
  · rw [hl, Nat.mul_comm]
    exact Nat.lt_of_le_of_lt (Nat.div_mul_le_self _ v) (by omega)
  · rw [hl, Nat.mul_mod_right]
  · intro i hi
    rw [extend_length] at hi
    exact cycleTo_get pattern _ i hi


/-- the instantiation every caller in the library uses (mac.go:35/52, crypto.go:38-56): `pbkdf(sha1Sum, 20, 64, …)`
    with FIPS 180-4 SHA-1 is RFC 7292 B.2 over SHA-1, for every salt, password, iteration count, ID and size -/
theorem pbkdf_sha1_eq_spec (salt password : Bytes) (r : Int) (ID : Byte) (size : Nat) :
    pbkdfInt Spec.SHA1.hash 20 64 salt password r ID size =
      some (kdf Spec.SHA1.hash 20 64 salt password (max 1 r.toNat) ID size) :=
  pbkdfInt_eq_spec Spec.SHA1.hash Spec.SHA1.hash_length 64 (by omega) salt password r ID size

/-- mac.go:35 / 52: the MAC key is the RFC derivation with ID 3, 20 bytes, SHA-1 parameters u = 20, v = 64 -/
theorem macKey_eq_spec (H : Bytes → Bytes) (hH : ∀ x, (H x).length = 20) (m : MacData) (password : Bytes) :
    macKey H m password = some (kdf H 20 64 m.salt password (max 1 m.iterations.toNat) 3 20) :=
  pbkdfInt_eq_spec H hH 64 (by omega) m.salt password m.iterations 3 20

/-- mac.go:30-45 once the algorithm is SHA-1 and `pbkdf` has returned a key: the comparison `hmac.Equal` decides -/
theorem verifyMac_of_key {H : Bytes → Bytes} {hmac : Bytes → Bytes → Bytes} {m : MacData} {message password key : Bytes}
    (ha : m.algIsSHA1 = true) (hk : macKey H m password = some key) :
    verifyMac H hmac m message password =
      if m.digest = hmac key message then .ok () else .error .incorrectPassword := by
  unfold verifyMac
  rw [ha, hk]
  rfl

/-- mac.go:30-45 without any assumption on the hash: accepted iff the algorithm is SHA-1, pbkdf returns a key, and the stored digest is the HMAC under it -/
theorem mac_accepts_iff_key (H : Bytes → Bytes) (hmac : Bytes → Bytes → Bytes) (m : MacData) (message password : Bytes) :
    verifyMac H hmac m message password = .ok () ↔
      m.algIsSHA1 = true ∧ ∃ key, macKey H m password = some key ∧ m.digest = hmac key message := by
  cases ha : m.algIsSHA1 with
  | false => simp [verifyMac, ha]
  | true =>
    cases hk : macKey H m password with
    | none => simp [verifyMac, ha, hk]
    | some key => rw [verifyMac_of_key ha hk]; by_cases hd : m.digest = hmac key message <;> simp [hd]

/-- **mac.go:30-45 `verifyMac`** accepts iff the digest algorithm is SHA-1 and the stored digest equals
    HMAC(kdf(salt, password, iterations, ID 3, 20 bytes), message) — `hmac.Equal` is byte-string equality; `hmac`
    is any function (HMAC-SHA1 in the code), `H` any hash with 20-byte output (SHA-1 in the code:
    `Spec.SHA1.hash_length`). -/
theorem mac_accepts_iff (H : Bytes → Bytes) (hH : ∀ x, (H x).length = 20) (hmac : Bytes → Bytes → Bytes)
    (m : MacData) (message password : Bytes) :
    verifyMac H hmac m message password = .ok () ↔
      m.algIsSHA1 = true ∧
      m.digest = hmac (kdf H 20 64 m.salt password (max 1 m.iterations.toNat) 3 20) message := by
  rw [mac_accepts_iff_key, macKey_eq_spec H hH]
  simp

/-- … and the only other answer for a SHA-1 MAC is `ErrIncorrectPassword`, exactly when the digest differs -/
theorem mac_rejects_iff (H : Bytes → Bytes) (hH : ∀ x, (H x).length = 20) (hmac : Bytes → Bytes → Bytes)
    (m : MacData) (message password : Bytes) (ha : m.algIsSHA1 = true) :
    verifyMac H hmac m message password = .error .incorrectPassword ↔
      m.digest ≠ hmac (kdf H 20 64 m.salt password (max 1 m.iterations.toNat) 3 20) message := by
  rw [verifyMac_of_key ha (macKey_eq_spec H hH m password)]
  split
  · simp [*]
  · simpa using ‹_›

/-- mac.go:47-59 then 30-45: the MAC `computeMac` stores (what `Encode` writes) is accepted by `verifyMac` for the same message and password; salt and iteration count are untouched -/
theorem verify_computeMac (H : Bytes → Bytes) (hmac : Bytes → Bytes → Bytes) (m m2 : MacData) (message password : Bytes)
    (h : computeMac H hmac m message password = .ok m2) :
    verifyMac H hmac m2 message password = .ok () ∧ m2.salt = m.salt ∧ m2.iterations = m.iterations := by
  unfold computeMac at h
  cases ha : m.algIsSHA1 with
  | false => simp [ha] at h
  | true =>
    cases hk : macKey H m password with
    | none => simp [ha, hk] at h
    | some key =>
      simp only [ha, hk, Bool.not_true, Bool.false_eq_true, if_false, Except.ok.injEq] at h
      subst h
      exact ⟨(verifyMac_of_key (m := ⟨true, hmac key message, m.salt, m.iterations⟩) rfl hk).trans (if_pos rfl), rfl, rfl⟩

/-- **a bundle whose authenticated bytes differ is rejected for the same password** — under the explicit
    hypothesis that the abstract HMAC does not collide on the two messages under the derived key (for
    HMAC-SHA1 a cryptographic assumption; `toyHmac_no_collision` shows the hypothesis is satisfiable).
    The result is `ErrIncorrectPassword`, which `getSafeContents` returns without decoding anything
    (`mac_failure_returns_nothing`). -/
theorem mac_rejects_modified (H : Bytes → Bytes) (hmac : Bytes → Bytes → Bytes) (m : MacData)
    (message message2 password : Bytes)
    (hok : verifyMac H hmac m message password = .ok ())
    (hnc : ∀ key, macKey H m password = some key → hmac key message ≠ hmac key message2) :
    verifyMac H hmac m message2 password = .error .incorrectPassword := by
  obtain ⟨ha, key, hk, hd⟩ := (mac_accepts_iff_key H hmac m message password).mp hok
  rw [verifyMac_of_key ha hk, if_neg (hd ▸ hnc key hk)]

/-- **another password is rejected unless the keys / tags collide.**  If the MAC verifies under `pw1` (key `k1`)
    then it verifies under `pw2` (key `k2`) iff HMAC(k2, message) = HMAC(k1, message); so it is rejected
    with `ErrIncorrectPassword` whenever the two tags differ, and accepted when the KDF collides (k1 = k2).
    Distinct password strings give distinct `pw1 ≠ pw2` by `Props.C17.bmpString_injective`. -/
theorem wrong_password_rejected_unless_kdf_collision (H : Bytes → Bytes) (hmac : Bytes → Bytes → Bytes) (m : MacData)
    (message pw1 pw2 k1 k2 : Bytes)
    (hok : verifyMac H hmac m message pw1 = .ok ())
    (h1 : macKey H m pw1 = some k1) (h2 : macKey H m pw2 = some k2) :
    (verifyMac H hmac m message pw2 = .ok () ↔ hmac k2 message = hmac k1 message) ∧
    (hmac k2 message ≠ hmac k1 message → verifyMac H hmac m message pw2 = .error .incorrectPassword) ∧
    (k1 = k2 → verifyMac H hmac m message pw2 = .ok ()) := by
  obtain ⟨ha, key, hk, hd⟩ := (mac_accepts_iff_key H hmac m message pw1).mp hok
  rw [h1] at hk; cases hk
  rw [verifyMac_of_key ha h2, hd]
  refine ⟨?_, fun hne => if_neg fun e => hne e.symm, fun e => if_pos (e ▸ rfl)⟩
  split <;> simp [*, eq_comm]


/-- the PFX passed the checks of pkcs12.go:337-357 (parsed, version 3, `data` content type, inner unmarshal gave
    `content`, a MAC algorithm is present) -/
def WellFormed (pfx : Pfx) (content : Bytes) : Prop :=
  pfx.version = 3 ∧ pfx.authSafeIsData = true ∧ pfx.content = some content ∧ pfx.macAlgLen ≠ 0

/-- what `getSafeContents` returns once the MAC has been accepted with `pw` -/
def behindMac {β : Type} (rest : Bytes → Bytes → Except Err β) (content pw : Bytes) : Except Err (β × Bytes) :=
  match rest content pw with
  | .ok bags => .ok (bags, pw)
  | .error e => .error e

/-- pkcs12.go:359-370 for a PFX that passed the structural checks: the decision tree around `verifyMac` -/
theorem getSafeContents_wf {β : Type} (H : Bytes → Bytes) (hmac : Bytes → Bytes → Bytes)
    (rest : Bytes → Bytes → Except Err β) (pfx : Pfx) (content password : Bytes) (wf : WellFormed pfx content) :
    getSafeContents H hmac rest (some pfx) password =
      match verifyMac H hmac pfx.macData content password with
      | .ok () => behindMac rest content password
      | .error err =>
        if err = .incorrectPassword ∧ password = [0, 0] then
          match verifyMac H hmac pfx.macData content [] with
          | .ok () => behindMac rest content []
          | .error err => .error err
        else .error err := by
  obtain ⟨h1, h2, h3, h4⟩ := wf
  unfold getSafeContents
  simp only [h1, h2, h3, h4, ne_eq, not_true_eq_false, if_false, Bool.not_true, Bool.false_eq_true]
  rfl

theorem behindMac_ok_iff {β : Type} (rest : Bytes → Bytes → Except Err β) (content pw : Bytes) (bags : β) (pw2 : Bytes) :
    behindMac rest content pw = .ok (bags, pw2) ↔ rest content pw = .ok bags ∧ pw2 = pw := by
  unfold behindMac
  cases rest content pw with
  | ok b => simp; exact fun _ => eq_comm
  | error e => simp

/-- pkcs12.go:337-357: either the structural checks pass, or the error they give depends neither on the password
    nor on the code behind the MAC -/
theorem getSafeContents_structural {β : Type} (H : Bytes → Bytes) (hmac : Bytes → Bytes → Bytes) (p : Option Pfx) :
    (∃ pfx content, p = some pfx ∧ WellFormed pfx content) ∨
    ∃ e, ∀ (rest : Bytes → Bytes → Except Err β) (password : Bytes),
      getSafeContents H hmac rest p password = .error e := by
  cases p with
  | none => exact .inr ⟨.parse, fun _ _ => rfl⟩
  | some pfx =>
    by_cases h1 : pfx.version = 3
    · by_cases h2 : pfx.authSafeIsData = true
      · cases h3 : pfx.content with
        | none => exact .inr ⟨.parse, fun _ _ => by unfold getSafeContents; simp [h1, h2, h3]⟩
        | some content =>
          by_cases h4 : pfx.macAlgLen = 0
          · exact .inr ⟨.noMac, fun _ _ => by unfold getSafeContents; simp [h1, h2, h3, h4]⟩
          · exact .inl ⟨pfx, content, rfl, h1, h2, h3, h4⟩
      · exact .inr ⟨.notImplemented, fun _ _ => by unfold getSafeContents; simp [h1, h2]⟩
    · exact .inr ⟨.notImplemented, fun _ _ => by unfold getSafeContents; simp [h1]⟩

/-- only a well-formed PFX gets anywhere -/
theorem getSafeContents_ok_wf {β : Type} (H : Bytes → Bytes) (hmac : Bytes → Bytes → Bytes)
    (rest : Bytes → Bytes → Except Err β) (p : Option Pfx) (password : Bytes) (r : β × Bytes)
    (h : getSafeContents H hmac rest p password = .ok r) : ∃ pfx content, p = some pfx ∧ WellFormed pfx content := by
  rcases getSafeContents_structural (β := β) H hmac p with w | ⟨e, he⟩
  · exact w
  · rw [he] at h; cases h

/-- pkcs12.go:336-412: `getSafeContents` returns bags exactly when (a) the MAC verifies under the given encoded
    password, which is handed back unchanged, and the code behind the MAC succeeds with it, or (b) the given
    password is `00 00` (BMP of the empty string), the MAC fails under it with `ErrIncorrectPassword`, verifies
    under the nil password, nil is handed back, and the code behind the MAC succeeds with nil. -/
theorem getSafeContents_ok_iff {β : Type} (H : Bytes → Bytes) (hmac : Bytes → Bytes → Bytes)
    (rest : Bytes → Bytes → Except Err β) (pfx : Pfx) (content password : Bytes) (wf : WellFormed pfx content)
    (bags : β) (pw2 : Bytes) :
    getSafeContents H hmac rest (some pfx) password = .ok (bags, pw2) ↔
      (verifyMac H hmac pfx.macData content password = .ok () ∧ pw2 = password ∧ rest content password = .ok bags) ∨
      (password = [0, 0] ∧ verifyMac H hmac pfx.macData content password = .error .incorrectPassword ∧
        verifyMac H hmac pfx.macData content [] = .ok () ∧ pw2 = [] ∧ rest content [] = .ok bags) := by
  rw [getSafeContents_wf H hmac rest pfx content password wf]
  cases hv : verifyMac H hmac pfx.macData content password with
  | ok u => simp [behindMac_ok_iff, and_comm]
  | error err =>
    by_cases hc : err = .incorrectPassword ∧ password = [0, 0]
    · obtain ⟨rfl, rfl⟩ := hc
      cases hv2 : verifyMac H hmac pfx.macData content [] <;> simp [behindMac_ok_iff, and_comm]
    · simp only [if_neg hc]
      exact ⟨fun c => (nomatch c), fun h => h.elim (fun c => (nomatch c.1)) fun ⟨hp, c, _⟩ => absurd ⟨Except.error.inj c, hp⟩ hc⟩

/-- when no tried password verifies, the error does not depend on the code behind the MAC (it is not run) -/
theorem mac_failure_never_reaches_rest {β : Type} (H : Bytes → Bytes) (hmac : Bytes → Bytes → Bytes)
    (p : Option Pfx) (password : Bytes)
    (hfail : ∀ pfx content, p = some pfx → WellFormed pfx content →
      verifyMac H hmac pfx.macData content password ≠ .ok () ∧
      (password = [0, 0] → verifyMac H hmac pfx.macData content [] ≠ .ok ())) :
    ∃ e, ∀ rest : Bytes → Bytes → Except Err β, getSafeContents H hmac rest p password = .error e := by
  rcases getSafeContents_structural (β := β) H hmac p with ⟨pfx, content, rfl, wf⟩ | ⟨e, he⟩
  · obtain ⟨f1, f2⟩ := hfail pfx content rfl wf
    simp only [getSafeContents_wf H hmac _ pfx content password wf]
    cases hv : verifyMac H hmac pfx.macData content password with
    | ok u => exact absurd hv f1
    | error err =>
      by_cases hc : err = .incorrectPassword ∧ password = [0, 0]
      · cases hv2 : verifyMac H hmac pfx.macData content [] with
        | ok u => exact absurd hv2 (f2 hc.2)
        | error e2 => exact ⟨e2, fun _ => if_pos hc⟩
      · exact ⟨err, fun _ => if_neg hc⟩
  · exact ⟨e, fun rest => he rest password⟩

/-- **pkcs12.go:359-370: a failed MAC returns `ErrIncorrectPassword` and nothing else.**  If `verifyMac` says
    `ErrIncorrectPassword` for the given password and — when that password is `00 00` — also for the nil
    password, the result is the error `ErrIncorrectPassword` (Go: `nil, nil, err`), whatever the code behind the
    MAC (`rest`: unmarshal, pbDecrypt, bag collection) would have produced: it is not run. -/
theorem mac_failure_returns_nothing {β : Type} (H : Bytes → Bytes) (hmac : Bytes → Bytes → Bytes)
    (rest : Bytes → Bytes → Except Err β) (pfx : Pfx) (content password : Bytes) (wf : WellFormed pfx content)
    (h1 : verifyMac H hmac pfx.macData content password = .error .incorrectPassword)
    (h2 : password = [0, 0] → verifyMac H hmac pfx.macData content [] = .error .incorrectPassword) :
    getSafeContents H hmac rest (some pfx) password = .error .incorrectPassword := by
  rw [getSafeContents_wf H hmac rest pfx content password wf, h1]
  by_cases hp : password = [0, 0]
  · simp only [hp, and_self, if_true]
    rw [h2 hp]
  · simp only [hp, and_false, if_false]


theorem bmp_empty : Model.BER.bmpString [] = some [0, 0] := by decide

/-- the BMP encoding of a non-empty string is at least four bytes: it is neither `00 00` nor nil -/
theorem bmp_nonempty_ne (runes : List Nat) (enc : Bytes) (hr : runes ≠ []) (h : Model.BER.bmpString runes = some enc) :
    enc ≠ [0, 0] ∧ enc ≠ [] := by
  unfold Model.BER.bmpString at h
  split at h
  · cases h
    cases runes with
    | nil => exact absurd rfl hr
    | cons r rs => simp [List.flatMap_cons]
  · cases h

theorem bmp_zz_iff {runes : List Nat} {enc : Bytes} (h : Model.BER.bmpString runes = some enc) :
    enc = [0, 0] ↔ runes = [] := by
  constructor
  · intro he
    cases runes with
    | nil => rfl
    | cons r rs => exact absurd he (bmp_nonempty_ne _ _ (List.cons_ne_nil r rs) h).1
  · rintro rfl
    rw [bmp_empty] at h
    exact (Option.some.inj h).symm

/-- **the empty-password rule, for the exported decoders** (`Decode` / `DecodeAll`: `bmpString(password)` then
    `getSafeContents`).  A bundle is opened with the password string `runes` iff the string is BMP-encodable
    and either the MAC verifies under BMP(runes) — then BMP(runes) is also the decryption password — or the string
    is empty, the MAC fails under `00 00` and verifies under the nil password — then nil is the decryption
    password.  For a non-empty password only its own BMP encoding counts (`nonempty_password_only_bmp`): the
    nil password is never tried. -/
theorem empty_password_rule {β : Type} (H : Bytes → Bytes) (hmac : Bytes → Bytes → Bytes)
    (rest : Bytes → Bytes → Except Err β) (pfx : Pfx) (content : Bytes) (wf : WellFormed pfx content)
    (runes : List Nat) (bags : β) (pw2 : Bytes) :
    decodeGate H hmac rest (some pfx) runes = .ok (bags, pw2) ↔
      ∃ enc, Model.BER.bmpString runes = some enc ∧
        ((verifyMac H hmac pfx.macData content enc = .ok () ∧ pw2 = enc ∧ rest content enc = .ok bags) ∨
         (runes = [] ∧ verifyMac H hmac pfx.macData content [0, 0] = .error .incorrectPassword ∧
           verifyMac H hmac pfx.macData content [] = .ok () ∧ pw2 = [] ∧ rest content [] = .ok bags)) := by
  unfold decodeGate
  cases hb : Model.BER.bmpString runes with
  | none => simp
  | some enc =>
    simp only [Option.some.injEq, exists_eq_left']
    rw [getSafeContents_ok_iff H hmac rest pfx content enc wf, ← bmp_zz_iff hb]
    exact or_congr Iff.rfl (and_congr_right fun he => by rw [he])

/-- a non-empty password is accepted only when the MAC verifies under its own BMP encoding -/
theorem nonempty_password_only_bmp {β : Type} (H : Bytes → Bytes) (hmac : Bytes → Bytes → Bytes)
    (rest : Bytes → Bytes → Except Err β) (pfx : Pfx) (content : Bytes) (wf : WellFormed pfx content)
    (runes : List Nat) (hr : runes ≠ []) (bags : β) (pw2 : Bytes)
    (h : decodeGate H hmac rest (some pfx) runes = .ok (bags, pw2)) :
    ∃ enc, Model.BER.bmpString runes = some enc ∧ verifyMac H hmac pfx.macData content enc = .ok () ∧ pw2 = enc := by
  obtain ⟨enc, he, h | ⟨h0, _⟩⟩ := (empty_password_rule H hmac rest pfx content wf runes bags pw2).mp h
  · exact ⟨enc, he, h.1, h.2.1⟩
  · exact absurd h0 hr


/-! ## Non-vacuity: the statements evaluated on toy functions (kernel `decide`) -/
section Examples

/-- a toy hash with 20-byte output: the input incremented bytewise and reversed, filled up with ff -/
def toyH : Bytes → Bytes := fun x => ((x.map (· + 1)).reverse ++ List.replicate 20 0xff).take 20
theorem toyH_length (x : Bytes) : (toyH x).length = 20 := by simp [toyH]

/-- toy hashes with 16 and 24 bytes of output -/
def toyH16 : Bytes → Bytes := fun x => (x ++ List.replicate 16 1).take 16
def toyH24 : Bytes → Bytes := fun x => (x ++ List.replicate 24 1).take 24

instance {α : Type} [DecidableEq α] : DecidableEq (Except Err α) := fun a b =>
  match a, b with
  | .ok x, .ok y => if h : x = y then isTrue (by rw [h]) else isFalse (by intro e; cases e; exact h rfl)
  | .error x, .error y => if h : x = y then isTrue (by rw [h]) else isFalse (by intro e; cases e; exact h rfl)
  | .ok _, .error _ => isFalse (by intro e; cases e)
  | .error _, .ok _ => isFalse (by intro e; cases e)

/-- an injective "HMAC": key ‖ message -/
def toyHmac (key msg : Bytes) : Bytes := key ++ msg

/-- the hypothesis of `mac_rejects_modified` is satisfiable: this HMAC never collides on distinct messages -/
theorem toyHmac_no_collision (key m1 m2 : Bytes) (h : m1 ≠ m2) : toyHmac key m1 ≠ toyHmac key m2 := by
  unfold toyHmac; intro e; exact h (List.append_cancel_left e)

example (m : MacData) (msg1 msg2 pw : Bytes) (hok : verifyMac toyH toyHmac m msg1 pw = .ok ()) (hne : msg1 ≠ msg2) :
    verifyMac toyH toyHmac m msg2 pw = .error .incorrectPassword :=
  mac_rejects_modified toyH toyHmac m msg1 msg2 pw hok (fun key _ => toyHmac_no_collision key msg1 msg2 hne)

-- the three shapes of `Ij.Bytes()` (pbkdf.go:136-153), v = 2 and 3:
-- fffe + 0102 + 1 = 1 0101: three bytes, the leading one is dropped
example : natBytes (os2ip [0xff, 0xfe] + 0x0102 + 1) = [1, 1, 1] ∧ updateBlock 2 0x0102 [0xff, 0xfe] = [1, 1] := by decide +kernel
-- 0000 + 0 + 1 = 1: one byte, one zero byte is put in front
example : natBytes (os2ip [0, 0] + 0 + 1) = [1] ∧ updateBlock 2 0 [0, 0] = [0, 1] := by decide +kernel
-- 000009 + 5 + 1 = f: one byte for v = 3, two zero bytes in front
example : updateBlock 3 5 [0, 0, 9] = [0, 0, 0x0f] := by decide +kernel
-- exactly v bytes: untouched
example : updateBlock 2 0x0100 [0x10, 0x20] = [0x11, 0x21] := by decide +kernel

-- fillWithRepeats: 3 bytes to blocks of 2 and 4; 5 bytes to blocks of 3; nothing stays nothing
example : fillWithRepeats [1, 2, 3] 2 = [1, 2, 3, 1] ∧ fillWithRepeats [1, 2, 3] 4 = [1, 2, 3, 1] ∧
    fillWithRepeats [1, 2, 3, 4, 5] 3 = [1, 2, 3, 4, 5, 1] ∧ fillWithRepeats [] 7 = [] := by decide +kernel

-- pbkdf, three rounds (size 45 > 2·20) over 2-byte blocks with carries: some key, equal to the RFC function
example : pbkdf toyH 20 2 [0xff, 0xfe] [0, 0] 1 3 45 = some (kdf toyH 20 2 [0xff, 0xfe] [0, 0] 1 3 45) := by decide +kernel
example : (pbkdf toyH 20 2 [0xff, 0xfe] [0, 0] 1 3 45).map (·.take 6) = some [1, 1, 0xff, 0, 4, 4] := by decide +kernel
-- size 0: the empty key, no hash computed
example : pbkdf toyH 20 2 [1] [0, 0] 5 3 0 = some [] ∧ kdf toyH 20 2 [1] [0, 0] 5 3 0 = [] := by decide +kernel

/-- r = 0: the code hashes once (as for r = 1) while the RFC's H^0 would be the identity -/
theorem spec_r0_differs :
    pbkdf toyH 20 2 [0, 3] [0, 0] 0 0 20 = pbkdf toyH 20 2 [0, 3] [0, 0] 1 0 20 ∧
    pbkdf toyH 20 2 [0, 3] [0, 0] 0 0 20 ≠ some (kdf toyH 20 2 [0, 3] [0, 0] 0 0 20) := by decide +kernel

/-- **the literal 20.**  `A := make([]byte, c*20)` and `copy(A[i*20:], Ai[:])` use 20 where the RFC has u.  With a
    16-byte hash (MD5's u) and 17 bytes requested, byte 16 of the result is the zero the buffer was made with,
    not the first byte of A_2: the function is not RFC 7292 B.2 for u ≠ 20.  No caller in the library passes
    u ≠ 20 (mac.go, crypto.go: always `sha1Sum, 20, 64`). -/
theorem pbkdf_literal20_gap :
    pbkdf toyH16 16 2 [] [] 1 9 17 = some ([9, 9] ++ List.replicate 14 1 ++ [0]) ∧
    kdf toyH16 16 2 [] [] 1 9 17 = [9, 9] ++ List.replicate 14 1 ++ [9] := by decide +kernel

/-- … and with a hash longer than 20 bytes `A[:size]` is out of range (run-time panic) as soon as size > 20·⌈size/u⌉ -/
theorem pbkdf_literal20_panic :
    pbkdf toyH24 24 2 [] [] 1 9 24 = none ∧ pbkdf toyH24 24 2 [] [] 1 9 21 = none ∧
    (pbkdf toyH24 24 2 [] [] 1 9 20).isSome = true := by decide +kernel

-- the MAC: computeMac's digest is accepted; another message, another password, a flipped digest are not
def toyMac : MacData := ⟨true, [], [5], 2⟩
example : (computeMac toyH toyHmac toyMac [1, 2, 3] [0, 0x61, 0, 0]).toOption.map
    (fun m => (verifyMac toyH toyHmac m [1, 2, 3] [0, 0x61, 0, 0], verifyMac toyH toyHmac m [1, 2, 4] [0, 0x61, 0, 0],
      verifyMac toyH toyHmac m [1, 2, 3] [0, 0x62, 0, 0])) =
    some (.ok (), .error .incorrectPassword, .error .incorrectPassword) := by decide +kernel
example : verifyMac toyH toyHmac { toyMac with algIsSHA1 := false } [] [] = .error .notImplemented := by decide +kernel

-- getSafeContents: MAC made under the nil password; the empty password opens it (and nil is handed back), "a" does not;
-- with a MAC that verifies under nothing the code behind the MAC (here: it would return 7) is not reached
def toyPfx (sealPw : Bytes) : Option Pfx :=
  (computeMac toyH toyHmac toyMac [0x30, 0] sealPw).toOption.map fun m => ⟨3, true, some [0x30, 0], 6, m⟩
example : decodeGate toyH toyHmac (fun _ _ => .ok 7) (toyPfx []) [] = .ok (7, []) := by decide +kernel
example : decodeGate toyH toyHmac (fun _ _ => .ok 7) (toyPfx [0, 0]) [] = .ok (7, [0, 0]) := by decide +kernel
example : decodeGate toyH toyHmac (fun _ _ => .ok 7) (toyPfx []) [0x61] = .error .incorrectPassword := by decide +kernel
example : decodeGate toyH toyHmac (fun _ _ => .ok 7) (toyPfx [0, 0x61, 0, 0]) [0x61] = .ok (7, [0, 0x61, 0, 0]) := by decide +kernel
example : decodeGate toyH toyHmac (fun _ _ => .ok 7) (toyPfx [9]) [] = .error .incorrectPassword := by decide +kernel
example : decodeGate toyH toyHmac (fun _ _ => .ok 7) (toyPfx [0, 0]) [0x1F600] = .error .parse := by decide +kernel

end Examples

end Props.C17KDF
