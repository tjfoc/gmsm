/-
C18 / C14 (hexadecimal public keys) — "every function that decodes externally supplied bytes … returns a value or
an error": the value `x509.ReadPublicKeyFromHex` returns is a public key, i.e. a point of the SM2 curve with
reduced coordinates - what every consumer of an `*sm2.PublicKey` in the library (elliptic.Marshal in
MarshalSm2PublicKey / WritePublicKeyToPem / CreateCertificate) takes for granted and panics without.  Before the
repair any 64 bytes were accepted (`readPublicKeyOld`, witness below).  Tie: op `pubhexdec` (harness/c18pubhex.go,
Driver/PubHex.lean) on every single-byte substitution and truncation of valid keys.
-/
import Gmsm.Model.PubHex
import Gmsm.Props.C03Mult
namespace Props.C18PubHex
open Gmsm Model.PubHex
open Spec.SM2 (p onCurve)

/-- the repair: the decoder as found, followed by `IsOnCurve` -/
theorem readPublicKey_eq_filter (q : Bytes) :
    readPublicKey q = (readPublicKeyOld q).filter fun k => Model.SM2Curve.isOnCurve k.1 k.2 := by
  unfold readPublicKey readPublicKeyOld
  by_cases hl : (stripPrefix q).length ≠ 64
  · rw [if_pos hl, if_pos hl]; rfl
  · rw [if_neg hl, if_neg hl]; rfl

/-- whatever the decoder accepts is a point of the curve with coordinates below p, read from the two 32-byte
    halves of the (prefix-stripped) input -/
theorem readPublicKey_sound (q : Bytes) (x y : Nat) (h : readPublicKey q = some (x, y)) :
    (stripPrefix q).length = 64 ∧ x = os2ip ((stripPrefix q).take 32) ∧ y = os2ip ((stripPrefix q).drop 32) ∧
      x < p ∧ y < p ∧ onCurve x y = true := by
  rw [readPublicKey_eq_filter, Option.filter_eq_some_iff] at h
  obtain ⟨ho, hc⟩ := h
  unfold readPublicKeyOld at ho
  by_cases hl : (stripPrefix q).length ≠ 64
  · rw [if_pos hl] at ho; cases ho
  · rw [if_neg hl] at ho; cases ho
    exact ⟨Classical.not_not.mp hl, rfl, rfl, (Props.C03Mult.isOnCurve_iff _ _).mp hc⟩

/-- the repair only removes inputs: what is accepted now was accepted before, with the same coordinates -/
theorem readPublicKey_le_old (q : Bytes) (k : Nat × Nat) (h : readPublicKey q = some k) :
    readPublicKeyOld q = some k := by
  rw [readPublicKey_eq_filter, Option.filter_eq_some_iff] at h
  exact h.1

/-- nothing else is refused: a 64-byte string whose halves are the coordinates of a curve point is accepted -/
theorem readPublicKey_complete (q : Bytes) (hl : q.length = 64)
    (hc : Model.SM2Curve.isOnCurve (os2ip (q.take 32)) (os2ip (q.drop 32)) = true) :
    readPublicKey q = some (os2ip (q.take 32), os2ip (q.drop 32)) := by
  have hs : stripPrefix q = q := by
    unfold stripPrefix; rw [if_neg]; intro h; omega
  unfold readPublicKey
  simp only [hs, hl, ne_eq, not_true_eq_false, if_false, hc, if_true]

/-- witness: the unrepaired decoder accepted the all-zero string - (0, 0) is not a point - -/
theorem old_accepts_non_point :
    readPublicKeyOld (List.replicate 64 (0 : Byte)) = some (0, 0) ∧ onCurve 0 0 = false ∧
      readPublicKey (List.replicate 64 (0 : Byte)) = none := by
  refine ⟨by decide, by decide, by decide⟩

end Props.C18PubHex
