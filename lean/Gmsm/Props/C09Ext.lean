/-
C09 (extension codecs) — the KeyUsage and BasicConstraints encoders / decoders that x509/x509.go implements by
hand around encoding/asn1, on which "issued certificates parse back" relies.  Theorems about `Model.X509Ext`;
the model is run against x509.CreateCertificate / x509.ParseCertificate by the ops `kuext` (all 512 key
usages) and `bcext` (harness/c09ext.go, Driver/X509Ext.lean), extension value bytes and parsed fields compared.
-/
import Gmsm.Model.X509Ext
import Gmsm.Proofs.ByteSweep
import Gmsm.Proofs.BytesNat
namespace Props.C09Ext
open Gmsm Model.X509Ext

/-- Go `reverseBitsInAByte`: bit i of the result is bit 7-i of the argument. -/
theorem reverseBits_spec (b : BitVec 8) (i : Nat) (hi : i < 8) :
    (reverseBits b).getLsbD i = b.getLsbD (7 - i) := by
  revert i
  revert b
  apply byte_forall
  decide +kernel

theorem reverseBits_involutive (b : BitVec 8) : reverseBits (reverseBits b) = b := by
  apply BitVec.eq_of_getLsbD_eq
  intro i hi
  rw [reverseBits_spec _ i hi, reverseBits_spec _ _ (by omega), show 7 - (7 - i) = i by omega]

/-- number of trailing (least significant) zero bits of a byte, 8 for the zero byte -/
def ctz8 (b : Byte) : Nat := ((List.range 8).takeWhile (fun i => !b.getLsbD i)).length

theorem ctz8_spec (b : Byte) :
    ctz8 b ≤ 8 ∧ (ctz8 b = 8 ↔ b = 0) ∧ (∀ j, j < ctz8 b → b.getLsbD j = false) ∧ (b ≠ 0 → b.getLsbD (ctz8 b) = true) := by
  revert b
  apply byte_forall
  decide +kernel

theorem ctz8_lt (b : Byte) (hb : b ≠ 0) : ctz8 b < 8 := by
  obtain ⟨hle, h8, _⟩ := ctz8_spec b
  have := mt h8.1 hb
  omega

/-- the mask `parseBitString` tests the last byte with covers only trailing zero bits -/
theorem ctz8_mask (b : Byte) : b &&& BitVec.ofNat 8 ((1 <<< ctz8 b) - 1) = 0 := by
  apply BitVec.eq_of_getLsbD_eq
  intro j hj
  have := (ctz8_spec b).2.2.1 j
  simp only [BitVec.getLsbD_and, BitVec.getLsbD_ofNat, Nat.one_shiftLeft, Nat.testBit_two_pow_sub_one]
  by_cases h : j < ctz8 b
  · simp [this h]
  · simp [h]

theorem scanByte_eq (b : Byte) : scanByte b 8 = if b = 0 then none else some (ctz8 b) := by
  revert b
  apply byte_forall
  decide +kernel

theorem asn1BitLengthRev_cons (b : Byte) (rest : List Byte) (L : Nat) :
    asn1BitLengthRev (b :: rest) L = if b = 0 then asn1BitLengthRev rest (L - 8) else L - ctz8 b := by
  rw [asn1BitLengthRev, scanByte_eq]
  by_cases hb : b = 0
  · rw [if_pos hb, if_pos hb]
  · rw [if_neg hb, if_neg hb]

/-- number of trailing zero bits of a byte string given last byte first -/
def trailingZeroBits : List Byte → Nat
  | [] => 0
  | b :: rest => if b = 0 then 8 + trailingZeroBits rest else ctz8 b

theorem asn1BitLengthRev_spec (r : List Byte) (L : Nat) :
    asn1BitLengthRev r L = if r.all (· = 0) then 0 else L - trailingZeroBits r := by
  induction r generalizing L with
  | nil => simp [asn1BitLengthRev]
  | cons b rest ih =>
    rw [asn1BitLengthRev_cons, trailingZeroBits]
    by_cases hb : b = 0
    · simp only [hb, if_true, List.all_cons, decide_true, Bool.true_and]
      rw [ih]
      split <;> omega
    · have hb2 : ¬ b = 0#8 := hb
      simp [hb2]

/-- `asn1BitLength` is 0 when all bytes are zero and otherwise 8·len minus the number of trailing zero bits:
    the ASN.1 index of the last set bit, plus one. -/
theorem asn1BitLength_spec (bs : Bytes) :
    asn1BitLength bs = if bs.all (· = 0) then 0 else 8 * bs.length - trailingZeroBits bs.reverse := by
  unfold asn1BitLength
  rw [asn1BitLengthRev_spec]
  simp [Nat.mul_comm]

theorem asn1BitLength_snoc (xs : Bytes) (b : Byte) (hb : b ≠ 0) :
    asn1BitLength (xs ++ [b]) = 8 * (xs.length + 1) - ctz8 b := by
  have hb' : ¬ b = 0#8 := hb
  simp [asn1BitLength, asn1BitLengthRev_cons, hb', Nat.mul_comm]

example : asn1BitLength [0x80] = 1 ∧ asn1BitLength [0x01] = 8 ∧ asn1BitLength [0xff, 0x80] = 9 ∧
    asn1BitLength [0x05, 0x00] = 8 ∧ asn1BitLength [0, 0] = 0 ∧ asn1BitLength [] = 0 := by decide

/-- named bit `i` (ASN.1 numbering: bit 0 is the most significant bit of the first byte), whatever the BitLength
    says: what `BitString.At` reads once its length check has passed -/
def rawBit (bs : Bytes) (i : Nat) : Bool := (bs.getD (i / 8) 0).getLsbD (7 - i % 8)

theorem bit_toNat (b : Byte) (k : Nat) : ((b >>> k) &&& 1).toNat = (b.getLsbD k).toNat := by
  simp [BitVec.toNat_and, BitVec.toNat_ushiftRight, Nat.and_one_is_mod, BitVec.getLsbD, Nat.toNat_testBit,
    Nat.shiftRight_eq_div_pow]

theorem bitAt_eq (bs : Bytes) (L i : Nat) : bitAt bs L i = if L ≤ i then 0 else (rawBit bs i).toNat := by
  unfold bitAt rawBit
  rw [bit_toNat]

theorem rawBit_snoc (xs : Bytes) (b : Byte) (i : Nat) :
    rawBit (xs ++ [b]) i =
      if i / 8 < xs.length then rawBit xs i else (decide (i / 8 = xs.length) && b.getLsbD (7 - i % 8)) := by
  unfold rawBit
  rw [List.getD_eq_getElem?_getD, List.getD_eq_getElem?_getD, List.getElem?_append]
  split
  · rfl
  · by_cases h : i / 8 = xs.length
    · simp [h]
    · have : i / 8 - xs.length ≠ 0 := by omega
      simp [h, this]

theorem rawBit_beyond_rev (r : List Byte) (i : Nat) (h : asn1BitLengthRev r (8 * r.length) ≤ i) :
    rawBit r.reverse i = false := by
  induction r with
  | nil => simp [rawBit]
  | cons b rest ih =>
    have hlow := (ctz8_spec b).2.2.1
    rw [asn1BitLengthRev_cons, List.length_cons] at h
    rw [List.reverse_cons, rawBit_snoc, List.length_reverse]
    split at h
    · next hb =>
      subst hb
      split
      · exact ih h
      · simp
    · next hb =>
      have := ctz8_lt b hb
      rw [if_neg (by omega)]
      by_cases hi : i / 8 = rest.length
      · simp only [hi, decide_true, Bool.true_and]
        exact hlow _ (by omega)
      · simp [hi]

/-- `asn1BitLength` cuts off zero bits only, so `At` reads every bit of the bytes -/
theorem rawBit_beyond (bs : Bytes) (i : Nat) (h : asn1BitLength bs ≤ i) : rawBit bs i = false := by
  have := rawBit_beyond_rev bs.reverse i (by simpa [asn1BitLength, Nat.mul_comm] using h)
  simpa using this

theorem encodeKeyUsage_getD (ku j : Nat) :
    (encodeKeyUsage ku).1.getD j 0 = if j < 2 then reverseBits (BitVec.ofNat 8 (ku >>> (8 * j))) else 0 := by
  unfold encodeKeyUsage
  have h2 (j : Nat) : ¬ j + 1 + 1 < 2 := by omega
  by_cases h : reverseBits (BitVec.ofNat 8 (ku >>> 8)) = 0#8
  · rcases j with _ | _ | j <;> simp [h, h2]
  · rcases j with _ | _ | j <;> simp [h, h2]

theorem rawBit_encodeKeyUsage (ku i : Nat) :
    rawBit (encodeKeyUsage ku).1 i = (decide (i < 16) && ku.testBit i) := by
  unfold rawBit
  rw [encodeKeyUsage_getD]
  by_cases h : i < 16
  · rw [if_pos (by omega), reverseBits_spec _ _ (by omega), BitVec.getLsbD_ofNat, Nat.testBit_shiftRight,
      show 7 - (7 - i % 8) = i % 8 by omega, Nat.div_add_mod]
    simp [h, Nat.mod_lt]
  · rw [if_neg (by omega)]
    simp [h]

theorem bitAt_encodeKeyUsage (ku i : Nat) (hi : i < 16) :
    bitAt (encodeKeyUsage ku).1 (encodeKeyUsage ku).2 i = (ku >>> i) % 2 := by
  have hbit : ((decide (i < 16) && ku.testBit i).toNat) = (ku >>> i) % 2 := by
    rw [Nat.shiftRight_eq_div_pow, ← Nat.toNat_testBit]
    simp [hi]
  rw [bitAt_eq, ← hbit, ← rawBit_encodeKeyUsage]
  split
  · next h => rw [rawBit_beyond (encodeKeyUsage ku).1 i h]; rfl
  · rfl

/-- the loop of `parseCertificate` over bits that are those of `n` assembles `n` modulo `2^k` -/
theorem foldl_bits (n : Nat) (g : Nat → Nat) (k : Nat) (h : ∀ i, i < k → g i = (n >>> i) % 2) :
    (List.range k).foldl (fun usage i => if g i ≠ 0 then usage ||| (1 <<< i) else usage) 0 = n % 2 ^ k := by
  induction k with
  | zero => simp [Nat.mod_one]
  | succ k ih =>
    rw [List.range_succ, List.foldl_append, ih (fun i hi => h i (by omega)), List.foldl_cons, List.foldl_nil,
      h k (by omega), Nat.mod_pow_succ, Nat.shiftRight_eq_div_pow, Nat.one_shiftLeft]
    rcases Nat.mod_two_eq_zero_or_one (n / 2 ^ k) with e | e
    · simp [e]
    · rw [e, if_pos (by decide), Nat.add_comm, Nat.two_pow_add_eq_or_of_lt (Nat.mod_lt _ (Nat.two_pow_pos k)),
        Nat.mul_one, Nat.or_comm]

/-- The encoder alone is the RFC 5280 one: named bit i of the BIT STRING (bit 7 - i%8 of byte i/8) is bit i of
    the KeyUsage value (`KeyUsageDigitalSignature = 1 << 0` is named bit 0 …), independently of the decoder. -/
theorem keyUsage_named_bits (ku : Nat) (h : ku < 2 ^ 9) :
    ∀ i, i < 9 → bitAt (encodeKeyUsage ku).1 (encodeKeyUsage ku).2 i = (ku >>> i) % 2 :=
  fun i hi => bitAt_encodeKeyUsage ku i (by omega)

theorem decode_encodeKeyUsage (ku : Nat) : decodeKeyUsage (encodeKeyUsage ku) = ku % 2 ^ 9 :=
  foldl_bits _ _ _ fun i hi => bitAt_encodeKeyUsage ku i (by omega)

/-- For every KeyUsage value the package defines (the nine bits digitalSignature … decipherOnly, `ku < 2^9`),
    what `parseCertificate`'s nine `At(i)` reads compute from the BitString that `buildExtensions` builds is the
    template's value. -/
theorem keyUsage_roundtrip (ku : Nat) (h : ku < 2 ^ 9) : decodeKeyUsage (encodeKeyUsage ku) = ku := by
  rw [decode_encodeKeyUsage, Nat.mod_eq_of_lt h]

theorem keyUsage_injective (a b : Nat) (ha : a < 2 ^ 9) (hb : b < 2 ^ 9)
    (h : encodeKeyUsage a = encodeKeyUsage b) : a = b := by
  have ra := keyUsage_roundtrip a ha
  rw [h, keyUsage_roundtrip b hb] at ra
  exact ra.symm

/-- Bits the parser does not read are lost: a template value with bits above decipherOnly comes back reduced
    modulo 2^9 (`KeyUsage` has no such constants). -/
theorem keyUsage_high_bit_dropped (ku : Nat) (h : ku < 2 ^ 10) : decodeKeyUsage (encodeKeyUsage ku) = ku % 2 ^ 9 :=
  decode_encodeKeyUsage ku

/-- for a non-zero key usage the last byte kept is not zero (the `l = 2` rule), so the BitLength ends at its last
    set bit -/
theorem encodeKeyUsage_shape (ku : Nat) (h : ku < 2 ^ 9) (h0 : ku ≠ 0) :
    ∃ xs b, b ≠ 0 ∧ xs.length ≤ 1 ∧ encodeKeyUsage ku = (xs ++ [b], 8 * (xs.length + 1) - ctz8 b) := by
  by_cases h1 : reverseBits (BitVec.ofNat 8 (ku >>> 8)) = 0#8
  · have hb : reverseBits (BitVec.ofNat 8 ku) ≠ 0#8 := by
      intro h2
      apply h0
      apply keyUsage_injective ku 0 h (by decide)
      simp [encodeKeyUsage, h1, h2]
      decide
    refine ⟨[], reverseBits (BitVec.ofNat 8 ku), hb, by simp, ?_⟩
    rw [← asn1BitLength_snoc _ _ hb]
    simp [encodeKeyUsage, h1]
  · refine ⟨[reverseBits (BitVec.ofNat 8 ku)], reverseBits (BitVec.ofNat 8 (ku >>> 8)), h1, by simp, ?_⟩
    rw [← asn1BitLength_snoc _ _ h1]
    simp [encodeKeyUsage, h1]

/-- DER, X.690 11.2.2 for named-bit lists: for every non-zero `ku < 2^9` the BitString has one or two bytes, its
    last byte is not zero (the `l = 2` rule), its BitLength is positive, needs exactly that many bytes, names a
    set bit last, and the padding bits (at or beyond BitLength) are zero. -/
theorem keyUsage_minimal (ku : Nat) (h : ku < 2 ^ 9) (h0 : ku ≠ 0) :
    let s := encodeKeyUsage ku
    (s.1.length = 1 ∨ s.1.length = 2) ∧ s.1.getLastD 0 ≠ 0 ∧
    0 < s.2 ∧ s.1.length = (s.2 + 7) / 8 ∧
    bitAt s.1 s.2 (s.2 - 1) = 1 ∧
    (∀ i, i < 16 → s.2 ≤ i → ((s.1.getD (i / 8) 0 >>> (7 - i % 8)) &&& 1) = 0) := by
  intro s
  have beyond : ∀ i, i < 16 → s.2 ≤ i → ((s.1.getD (i / 8) 0 >>> (7 - i % 8)) &&& 1) = 0 := by
    intro i _ hi
    apply BitVec.eq_of_toNat_eq
    rw [bit_toNat]
    exact congrArg Bool.toNat (rawBit_beyond s.1 i hi)
  obtain ⟨xs, b, hb, hxs, e⟩ := encodeKeyUsage_shape ku h h0
  have hc := ctz8_lt b hb
  have hset := (ctz8_spec b).2.2.2 hb
  rw [show s = _ from e] at beyond ⊢
  refine ⟨?_, ?_, ?_, ?_, ?_, beyond⟩
  · simp only [List.length_append, List.length_cons, List.length_nil]; omega
  · simpa using hb
  · simp; omega
  · simp; omega
  · -- the last named bit is bit `ctz8 b` of the last byte
    rw [bitAt_eq, if_neg (by simp; omega), rawBit_snoc, if_neg (by simp; omega)]
    have e1 : (8 * (xs.length + 1) - ctz8 b - 1) / 8 = xs.length := by omega
    have e2 : 7 - (8 * (xs.length + 1) - ctz8 b - 1) % 8 = ctz8 b := by omega
    simp [e1, e2, hset]

/-- a BitString whose last byte is not zero and whose BitLength ends at the last set bit (what DER asks of a
    named-bit list) is read back from its BIT STRING as it was written -/
theorem unmarshal_marshalBitString (xs : Bytes) (b : Byte) (hb : b ≠ 0) (hl : xs.length < 126) :
    unmarshalBitString (marshalBitString (xs ++ [b], 8 * (xs.length + 1) - ctz8 b)) =
      some (xs ++ [b], 8 * (xs.length + 1) - ctz8 b) := by
  have hc := ctz8_lt b hb
  have hp : (8 - (8 * (xs.length + 1) - ctz8 b) % 8) % 8 = ctz8 b := by omega
  simp [marshalBitString, unmarshalBitString, hp, toNat_ofNat8 (xs.length + 1 + 1) (by omega),
    toNat_ofNat8 (ctz8 b) (by omega), ctz8_mask]
  omega

/-- The value of extension 2.5.29.15 is `03 <len+1> <unused> <b0> [<b1>]` with the unused-bits octet equal to
    `8*len - BitLength` (what `bitStringEncoder` computes as `(8 - BitLength%8) % 8`), for every non-zero `ku < 2^9`. -/
theorem keyUsage_ext_shape (ku : Nat) (h : ku < 2 ^ 9) (h0 : ku ≠ 0) :
    let s := encodeKeyUsage ku
    keyUsageExt ku = some ([0x03, BitVec.ofNat 8 (s.1.length + 1), BitVec.ofNat 8 (8 * s.1.length - s.2)] ++ s.1) := by
  obtain ⟨_, _, hpos, hlen, _⟩ := keyUsage_minimal ku h h0
  have e : (8 - (encodeKeyUsage ku).2 % 8) % 8 = 8 * (encodeKeyUsage ku).1.length - (encodeKeyUsage ku).2 := by
    rw [hlen]; omega
  simp only [keyUsageExt, if_neg h0, marshalBitString, e]
  rfl

/-- Through the DER layer as well: the extension value written (or no extension, for `ku = 0`) is accepted by
    the BIT STRING parser (padding ≤ 7, padding bits zero) and yields `ku`. -/
theorem keyUsage_ext_roundtrip (ku : Nat) (h : ku < 2 ^ 9) : parseKeyUsageExt (keyUsageExt ku) = some ku := by
  by_cases h0 : ku = 0
  · subst h0; rfl
  · obtain ⟨xs, b, hb, hxs, e⟩ := encodeKeyUsage_shape ku h h0
    rw [keyUsageExt, if_neg h0, parseKeyUsageExt, e, unmarshal_marshalBitString xs b hb (by omega), ← e]
    exact congrArg some (keyUsage_roundtrip ku h)

/-- digitalSignature|keyEncipherment, cRLSign|keyCertSign, decipherOnly alone, none -/
example : keyUsageExt 5 = some [0x03, 0x02, 0x05, 0xa0] ∧ keyUsageExt 96 = some [0x03, 0x02, 0x01, 0x06] ∧
    keyUsageExt 256 = some [0x03, 0x03, 0x07, 0x00, 0x80] ∧ keyUsageExt 0 = none := by decide +kernel

/-- For every template (IsCA, MaxPathLen, MaxPathLenZero) with BasicConstraintsValid — the creator refuses
    none — the parsed certificate has BasicConstraintsValid, the same IsCA, MaxPathLen = the effective path
    length (the template's MaxPathLen, except that 0 without MaxPathLenZero means "unset" and is -1) and
    MaxPathLenZero = (effective length = 0). -/
theorem basicConstraints_roundtrip (t : BCTemplate) :
    decodeBC (encodeBC t) = ⟨true, t.isCA, effectivePathLen t, effectivePathLen t == 0⟩ := rfl

theorem effectivePathLen_cases (t : BCTemplate) :
    (t.maxPathLen = 0 ∧ t.maxPathLenZero = false ∧ effectivePathLen t = -1) ∨
    (¬ (t.maxPathLen = 0 ∧ t.maxPathLenZero = false) ∧ effectivePathLen t = t.maxPathLen) := by
  unfold effectivePathLen
  by_cases h : t.maxPathLen = 0 ∧ t.maxPathLenZero = false
  · left; simp [h]
  · right; refine ⟨h, ?_⟩
    rw [if_neg]; simpa using h

/-- The template fields come back literally exactly when MaxPathLenZero is set iff MaxPathLen is 0; the two
    combinations that do not survive follow. -/
theorem basicConstraints_survives_iff (t : BCTemplate) :
    decodeBC (encodeBC t) = ⟨true, t.isCA, t.maxPathLen, t.maxPathLenZero⟩ ↔ (t.maxPathLenZero = true ↔ t.maxPathLen = 0) := by
  obtain ⟨ca, n, z⟩ := t
  simp only [decodeBC, encodeBC, effectivePathLen, BCParsed.mk.injEq, true_and]
  by_cases hn : n = 0 <;> cases z <;> simp [hn]

/-- MaxPathLen = 0 with MaxPathLenZero = false is "unset": no pathLenConstraint is written, -1 comes back. -/
theorem basicConstraints_unset (ca : Bool) : decodeBC (encodeBC ⟨ca, 0, false⟩) = ⟨true, ca, -1, false⟩ := rfl

/-- MaxPathLenZero = true with a non-zero MaxPathLen: the length is kept, the flag is not. -/
theorem basicConstraints_flag_lost (ca : Bool) (n : Int) (h : n ≠ 0) :
    decodeBC (encodeBC ⟨ca, n, true⟩) = ⟨true, ca, n, false⟩ := by
  simp [decodeBC, encodeBC, effectivePathLen, h]

/-- the effective path length (what a verifier will enforce) always survives a second round: issuing again from
    the parsed fields gives the same wire struct -/
theorem basicConstraints_stable (t : BCTemplate) :
    let p := decodeBC (encodeBC t)
    encodeBC ⟨p.isCA, p.maxPathLen, p.maxPathLenZero⟩ = encodeBC t := by
  obtain ⟨ca, n, z⟩ := t
  simp only [decodeBC, encodeBC, effectivePathLen, BCWire.mk.injEq, true_and]
  by_cases hn : n = 0 <;> cases z <;> simp [hn] <;> omega

theorem byte_facts (b : Byte) :
    (b &&& 0x80 = 0 ↔ b.toNat < 128) ∧ (b &&& 0x80 = 0x80 ↔ 128 ≤ b.toNat) ∧ (b = 0 ↔ b.toNat = 0) ∧ (b = 0xff ↔ b.toNat = 255) := by
  revert b
  apply byte_forall
  decide +kernel

theorem toNat_ofInt8 (i : Int) : ((BitVec.ofInt 8 i).toNat : Int) = i % 256 := by
  simp [BitVec.toNat_ofInt]
  omega

theorem toInt_ofInt8 (i : Int) (h1 : -128 ≤ i) (h2 : i ≤ 127) : (BitVec.ofInt 8 i).toInt = i := by
  rw [BitVec.toInt_ofInt]
  unfold Int.bmod
  have e : ((2 ^ 8 : Nat) : Int) = 256 := by decide
  simp only [e]
  split <;> omega

theorem signedValue_snoc (xs : Bytes) (h : xs ≠ []) (b : Byte) :
    signedValue (xs ++ [b]) = signedValue xs * 256 + (b.toNat : Int) := by
  cases xs with
  | nil => exact absurd rfl h
  | cons a rest => simp [signedValue, List.foldl_append]

theorem encodeIntAux_ne_nil (f : Nat) (i : Int) : encodeIntAux f i ≠ [] := by
  cases f with
  | zero => simp [encodeIntAux]
  | succ f => unfold encodeIntAux; split <;> simp

theorem encodeIntAux_length (f : Nat) (i : Int) : (encodeIntAux f i).length ≤ f + 1 := by
  induction f generalizing i with
  | zero => simp [encodeIntAux]
  | succ f ih =>
    unfold encodeIntAux; split
    · have := ih (i / 256); simp; omega
    · simp

/-- the bytes of `int64Encoder` denote the number, given enough room (`f` extra bytes) -/
theorem signedValue_encodeIntAux (f : Nat) (i : Int) (h1 : -(128 * 256 ^ f) ≤ i) (h2 : i < 128 * 256 ^ f) :
    signedValue (encodeIntAux f i) = i := by
  induction f generalizing i with
  | zero =>
    simp only [Int.pow_zero] at h1 h2
    simp only [encodeIntAux, signedValue, List.foldl_nil]
    exact toInt_ofInt8 i (by omega) (by omega)
  | succ f ih =>
    rw [Int.pow_succ] at h1 h2
    unfold encodeIntAux
    split
    · rw [signedValue_snoc _ (encodeIntAux_ne_nil _ _), ih (i / 256) (by omega) (by omega), toNat_ofInt8]
      omega
    · simp only [signedValue, List.foldl_nil]
      exact toInt_ofInt8 i (by omega) (by omega)

/-- `checkInteger`'s minimality condition -/
def minimalInt : Bytes → Prop
  | b0 :: b1 :: _ => ¬ ((b0 = 0 ∧ b1 &&& 0x80 = 0) ∨ (b0 = 0xff ∧ b1 &&& 0x80 = 0x80))
  | _ => True

theorem minimalInt_append (xs ys : Bytes) (hl : 2 ≤ xs.length) (h : minimalInt xs) : minimalInt (xs ++ ys) := by
  match xs, hl with
  | a :: b :: tl, _ => exact h

theorem encodeIntAux_small (f : Nat) (q : Int) (h1 : -128 ≤ q) (h2 : q ≤ 127) : encodeIntAux f q = [BitVec.ofInt 8 q] := by
  cases f with
  | zero => rfl
  | succ f => unfold encodeIntAux; rw [if_neg (by omega)]

theorem encodeIntAux_long (f : Nat) (q : Int) (h : q > 127 ∨ q < -128) : 2 ≤ (encodeIntAux (f + 1) q).length := by
  unfold encodeIntAux
  rw [if_pos h]
  have := List.length_pos_iff.mpr (encodeIntAux_ne_nil f (q / 256))
  simp only [List.length_append, List.length_cons, List.length_nil]
  omega

/-- `int64Length` never produces a redundant leading 00 / ff: `checkInteger` accepts what `int64Encoder` writes -/
theorem encodeIntAux_minimal (f : Nat) (i : Int) (h1 : -(128 * 256 ^ f) ≤ i) (h2 : i < 128 * 256 ^ f) :
    minimalInt (encodeIntAux f i) := by
  induction f generalizing i with
  | zero => simp [encodeIntAux, minimalInt]
  | succ f ih =>
    rw [Int.pow_succ] at h1 h2
    unfold encodeIntAux
    split
    · rename_i hout
      by_cases hq : -128 ≤ i / 256 ∧ i / 256 ≤ 127
      · rw [encodeIntAux_small f _ hq.1 hq.2]
        simp only [List.cons_append, List.nil_append, minimalInt]
        obtain ⟨_, _, z0, zf⟩ := byte_facts (BitVec.ofInt 8 (i / 256))
        obtain ⟨m0, m1, _, _⟩ := byte_facts (BitVec.ofInt 8 i)
        have t0 := toNat_ofInt8 (i / 256)
        have t1 := toNat_ofInt8 i
        rw [z0, zf, m0, m1]
        omega
      · cases f with
        | zero => simp only [Int.pow_zero] at h1 h2; omega
        | succ f =>
          apply minimalInt_append
          · exact encodeIntAux_long f _ (by omega)
          · exact ih _ (by omega) (by omega)
    · simp [minimalInt]

theorem parseInt64_eq (bs : Bytes) (hne : bs ≠ []) (hmin : minimalInt bs) (hlen : bs.length ≤ 8) :
    parseInt64 bs = some (signedValue bs) := by
  match bs, hne with
  | [_], _ => rfl
  | b0 :: b1 :: tl, _ =>
    simp only [minimalInt] at hmin
    simp only [parseInt64]
    rw [if_neg hmin, if_neg (by omega)]

theorem int_roundtrip (i : Int) (h1 : -(2 ^ 63) ≤ i) (h2 : i < 2 ^ 63) : parseInt64 (encodeInt i) = some i := by
  have e : (128 : Int) * 256 ^ 7 = 2 ^ 63 := by decide
  unfold encodeInt
  rw [parseInt64_eq _ (encodeIntAux_ne_nil _ _) (encodeIntAux_minimal 7 i (by omega) (by omega)) (encodeIntAux_length 7 i),
    signedValue_encodeIntAux 7 i (by omega) (by omega)]

theorem readTLV_tlv (tag : Byte) (c rest : Bytes) (ht : ¬ tag &&& 0x1f = 0x1f) (hc : c.length < 128) :
    readTLV (tlv tag c ++ rest) = some (tag, c, rest) := by
  simp only [tlv, List.cons_append, readTLV, toNat_ofNat8 c.length (by omega)]
  have hcond : ¬ (tag &&& 0x1f = 0x1f ∨ c.length ≥ 128 ∨ (c ++ rest).length < c.length) := by
    simp only [List.length_append]
    intro h
    rcases h with h | h | h
    · exact ht h
    · omega
    · omega
  rw [if_neg hcond]
  simp

theorem encodeInt_length (i : Int) : 1 ≤ (encodeInt i).length ∧ (encodeInt i).length ≤ 8 :=
  ⟨List.length_pos_iff.mpr (encodeIntAux_ne_nil 7 i), encodeIntAux_length 7 i⟩

theorem readTLV_tlv_only (tag : Byte) (c : Bytes) (ht : ¬ tag &&& 0x1f = 0x1f) (hc : c.length < 128) :
    readTLV (tag :: BitVec.ofNat 8 c.length :: c) = some (tag, c, []) := by
  have r := readTLV_tlv tag c [] ht hc
  rwa [List.append_nil] at r

/-- the INTEGER field, present or not, is not taken for the BOOLEAN -/
theorem parseOptBool_intField (n : Int) :
    parseOptBool (if n = -1 then [] else tlv 0x02 (encodeInt n)) = some (false, if n = -1 then [] else tlv 0x02 (encodeInt n)) := by
  split
  · rfl
  · have hl := encodeInt_length n
    simp only [tlv, parseOptBool, readTLV_tlv_only 0x02 (encodeInt n) (by decide) (by omega)]
    rfl

theorem parseOptInt_field (i : Int) (h1 : -(2 ^ 63) ≤ i) (h2 : i < 2 ^ 63) :
    parseOptInt (if i = -1 then [] else tlv 0x02 (encodeInt i)) = some i := by
  split
  · next h => subst h; rfl
  · have hl := encodeInt_length i
    simp only [tlv, parseOptInt, readTLV_tlv_only 0x02 (encodeInt i) (by decide) (by omega)]
    exact int_roundtrip i h1 h2

/-- `asn1.Marshal` then `asn1.Unmarshal` of the wire struct, for every int64 MaxPathLen (-1, the `default`, is
    omitted and comes back as the default) -/
theorem marshalBC_roundtrip (w : BCWire) (h1 : -(2 ^ 63) ≤ w.maxPathLen) (h2 : w.maxPathLen < 2 ^ 63) :
    unmarshalBC (marshalBC w) = some w := by
  obtain ⟨ca, n⟩ := w
  have hl := encodeInt_length n
  have pf := parseOptInt_field n h1 h2
  have pb := parseOptBool_intField n
  unfold marshalBC unmarshalBC
  generalize hI : (if n = -1 then [] else tlv 0x02 (encodeInt n)) = I at pf pb
  have hIlen : I.length ≤ 10 := by
    rw [← hI]; split
    · simp
    · simp [tlv]; omega
  have pb1 : parseOptBool ((if ca = true then tlv 0x01 [0xff] else []) ++ I) = some (ca, I) := by
    cases ca with
    | false => exact pb
    | true => rfl  -- `01 01 ff` in front of any bytes evaluates
  have r := readTLV_tlv 0x30 ((if ca = true then tlv 0x01 [0xff] else []) ++ I) [] (by decide) (by
    cases ca <;> simp [tlv] <;> omega)
  rw [List.append_nil] at r
  simp only [r, pb1, pf]
  simp

/-- Through the DER layer: the extension value bytes written for any template whose MaxPathLen is a Go `int` are
    parsed back to (valid, IsCA, effective length, effective length = 0). -/
theorem basicConstraints_ext_roundtrip (t : BCTemplate) (h1 : -(2 ^ 63) ≤ t.maxPathLen) (h2 : t.maxPathLen < 2 ^ 63) :
    parseBasicConstraintsExt (basicConstraintsExt t) =
      some ⟨true, t.isCA, effectivePathLen t, effectivePathLen t == 0⟩ := by
  unfold parseBasicConstraintsExt basicConstraintsExt
  have hr : -(2 ^ 63) ≤ (encodeBC t).maxPathLen ∧ (encodeBC t).maxPathLen < 2 ^ 63 := by
    simp only [encodeBC]
    rcases effectivePathLen_cases t with ⟨_, _, e⟩ | ⟨_, e⟩ <;> rw [e] <;> omega
  rw [marshalBC_roundtrip _ hr.1 hr.2]
  rfl

/-- CA with pathLenConstraint 0, CA without, end entity, a two-byte length -/
example : basicConstraintsExt ⟨true, 0, true⟩ = [0x30, 0x06, 0x01, 0x01, 0xff, 0x02, 0x01, 0x00] ∧
    basicConstraintsExt ⟨true, 0, false⟩ = [0x30, 0x03, 0x01, 0x01, 0xff] ∧
    basicConstraintsExt ⟨false, -1, false⟩ = [0x30, 0x00] ∧
    basicConstraintsExt ⟨true, 255, false⟩ = [0x30, 0x07, 0x01, 0x01, 0xff, 0x02, 0x02, 0x00, 0xff] := by decide +kernel
example : parseBasicConstraintsExt [0x30, 0x06, 0x01, 0x01, 0xff, 0x02, 0x01, 0x00] = some ⟨true, true, 0, true⟩ := by decide +kernel
/-- a redundant leading zero in the INTEGER is refused, as `checkInteger` does -/
example : parseBasicConstraintsExt [0x30, 0x04, 0x02, 0x02, 0x00, 0x05] = none := by decide +kernel

end Props.C09Ext
