/-
C03 (algorithms) — the scalar recoding and the windowed evaluation used by `ScalarMult`.

 * `wnaf_value`: for EVERY scalar value the windowed-NAF recoding of sm2GenrateWNaf represents it:
   Σ dᵢ·2^posᵢ = k, and the loop always terminates within its fuel.
 * `windowEval_correct`: over ANY commutative group, the evaluation loop of sm2P256ScalarMult
   (pending doublings for zero digits, one doubling, add/subtract the table entry |d|·P) computes
   (Σ dᵢ·2^i) • P.
The Jacobian formulas that implement the group operations are proved equal to the group law of the
curve in `Gmsm/Proofs/ECFormulas.lean` (with Mathlib's `WeierstrassCurve.Affine.Point`).
-/
import Gmsm.Model.SM2Curve
import Mathlib.Algebra.Group.Basic
import Mathlib.Algebra.Module.Basic
import Mathlib.Tactic.Abel
import Mathlib.Tactic.Ring
import Mathlib.Tactic.Linarith
namespace Props.C03Alg
open Model.SM2Curve

/-- value represented by (position, digit) pairs -/
def dval (ds : List (Nat × Int)) : Int := (ds.map fun (p, d) => d * 2 ^ p).sum

theorem bitLen_le (k pos : Nat) (h : pos ≤ bitLen k) (hk : 0 < pos) : 2 ^ (pos - 1) ≤ k := by
  unfold bitLen at h
  split at h
  · omega
  · rename_i hk0
    have h1 := Nat.log2_self_le hk0
    calc 2 ^ (pos - 1) ≤ 2 ^ k.log2 := Nat.pow_le_pow_right (by decide) (by omega)
      _ ≤ k := h1

theorem lt_two_pow_bitLen (k : Nat) : k < 2 ^ bitLen k := by
  unfold bitLen
  split
  · rename_i h0; rw [h0]; exact Nat.two_pow_pos _
  · exact Nat.lt_log2_self

theorem div_two_pow_of_bitLen_le {k pos : Nat} (h : bitLen k ≤ pos) : k / 2 ^ pos = 0 :=
  Nat.div_eq_of_lt (Nat.lt_of_lt_of_le (lt_two_pow_bitLen k) (Nat.pow_le_pow_right (by decide) h))

theorem div_pow_succ (k pos : Nat) : k / 2 ^ pos = 2 * (k / 2 ^ (pos + 1)) + k / 2 ^ pos % 2 := by
  rw [Nat.pow_succ, ← Nat.div_div_eq_div_mul]
  omega

/-- the loop invariant: K = value(acc) + 2^(length+pos) · (⌊k / 2^pos⌋ + carry) -/
theorem wnafLoop_value (fuel k : Nat) (carry : Bool) (pos length : Nat) (acc ds : List (Nat × Int)) (K : Int)
    (hinv : K = dval acc + 2 ^ (length + pos) * ((k / 2 ^ pos + (if carry then 1 else 0) : Nat) : Int))
    (hc : carry = true → pos ≤ bitLen k)
    (h : wnafLoop fuel k carry pos length acc = some ds) : K = dval ds := by
  induction fuel generalizing k carry pos length acc with
  | zero => simp [wnafLoop] at h
  | succ fuel ih =>
    unfold wnafLoop at h
    by_cases hexit : pos > bitLen k
    · simp only [hexit, if_true, Option.some.injEq] at h
      subst h
      have hcf : carry = false := by
        cases carry with
        | false => rfl
        | true => have := hc rfl; omega
      have hk0 : k / 2 ^ pos = 0 := div_two_pow_of_bitLen_le (by omega)
      rw [hinv, hk0, hcf]; simp
    · simp only [hexit, if_false] at h
      by_cases hskip : ((k / 2 ^ pos % 2 == 1) == carry) = true
      · simp only [hskip, if_true] at h
        refine ih k carry (pos + 1) length acc ?_ ?_ h
        · rw [hinv]
          have hd := div_pow_succ k pos
          -- bit `pos` equals the carry
          have hn : k / 2 ^ pos + (if carry then 1 else 0) = 2 * (k / 2 ^ (pos + 1) + (if carry then 1 else 0)) := by
            cases carry <;> simp at hskip ⊢ <;> omega
          rw [hn, show length + (pos + 1) = (length + pos) + 1 by omega, pow_succ]
          push_cast; ring
        · intro hct
          have hb : k / 2 ^ pos % 2 = 1 := by
            subst hct; simpa using hskip
          -- bit `pos` is set, so pos < bitLen k
          by_contra hlt
          have := div_two_pow_of_bitLen_le (k := k) (pos := pos) (by omega)
          omega
      · simp only [hskip, Bool.false_eq_true, if_false] at h
        refine ih (k / 2 ^ pos) _ 4 (length + pos) _ ?_ ?_ h
        · rw [hinv]
          simp only [dval, List.map_cons, List.sum_cons]
          set k' := k / 2 ^ pos with hk'
          have hsplit : k' = 16 * (k' / 2 ^ 4) + k' % 16 := by omega
          generalize hq : k' / 2 ^ 4 = q at hsplit ⊢
          generalize hlow : k' % 16 = low at hsplit ⊢
          have hk'' : (k' : Int) = 16 * (q : Int) + (low : Int) := by exact_mod_cast hsplit
          rw [pow_add]
          -- with d1 = low + carry: k' + carry = 16·q + d1, and the digit is d1 or d1 − 16 (carry out)
          have hc1 : ((k' + if carry = true then 1 else 0 : Nat) : Int)
              = 16 * q + ((low : Int) + if carry = true then 1 else 0) := by
            rw [Nat.cast_add, hk'']; push_cast; ring
          rw [hc1]
          generalize (low : Int) + (if carry = true then 1 else 0) = d1
          split <;> (push_cast; ring)
        · intro hc'
          -- a carry out of the window means the digit value was ≥ 8, so k' ≥ 8 and bitLen k' ≥ 4
          simp only [beq_iff_eq] at hc'
          set k' := k / 2 ^ pos with hk'
          have hle : k' % 16 ≤ k' := Nat.mod_le _ _
          have hk8 : 8 ≤ k' := by
            cases carry
            · simp at hc'; omega
            · -- with a carry in, the bit at `pos` was 0: k' is even, and k' % 16 + 1 ≥ 8 means k' % 16 ≥ 8
              have hb : ¬ (k' % 2 = 1) := fun hb => hskip (by simp [hb])
              simp at hc'; omega
          have hne : k' ≠ 0 := by omega
          unfold bitLen
          simp only [hne, if_false]
          have : 3 ≤ k'.log2 := by rw [Nat.le_log2 hne]; omega
          omega

theorem bitLen_div (k pos : Nat) : bitLen (k / 2 ^ pos) ≤ bitLen k - pos := by
  unfold bitLen
  by_cases hk0 : k = 0
  · simp [hk0]
  · by_cases hq : k / 2 ^ pos = 0
    · simp [hq]
    · simp only [hq, hk0, if_false]
      have h1 : 2 ^ (k / 2 ^ pos).log2 ≤ k / 2 ^ pos := Nat.log2_self_le hq
      have h2 : 2 ^ ((k / 2 ^ pos).log2 + pos) ≤ k := by
        rw [pow_add]
        calc 2 ^ (k / 2 ^ pos).log2 * 2 ^ pos ≤ (k / 2 ^ pos) * 2 ^ pos := Nat.mul_le_mul_right _ h1
          _ ≤ k := Nat.div_mul_le_self k _
      have := (Nat.le_log2 hk0).mpr h2
      omega

/-- the loop returns whenever `0 < fuel` and `2·bitLen(k)+10 ≤ fuel + pos`; so the fuel
    2·bitLen(k)+12 of `wnafDigits` (from pos = 0) is never exhausted -/
theorem wnafLoop_isSome (fuel k : Nat) (carry : Bool) (pos length : Nat) (acc : List (Nat × Int))
    (hf : 0 < fuel ∧ 2 * bitLen k + 10 ≤ fuel + pos) :
    (wnafLoop fuel k carry pos length acc).isSome = true := by
  induction fuel generalizing k carry pos length acc with
  | zero => omega
  | succ fuel ih =>
    unfold wnafLoop
    by_cases hexit : pos > bitLen k
    · simp [hexit]
    · simp only [hexit, if_false]
      split
      · exact ih k carry (pos + 1) length acc (by omega)
      · apply ih
        have hb := bitLen_div k pos
        omega

/-- for every scalar value k, the digits produced by `sm2GenrateWNaf` satisfy Σ dᵢ · 2^posᵢ = k -/
theorem wnaf_value (k : Nat) : dval (wnafDigits k) = k := by
  unfold wnafDigits
  have hs := wnafLoop_isSome (2 * bitLen k + 12) k false 0 0 [] (by omega)
  cases hr : wnafLoop (2 * bitLen k + 12) k false 0 0 [] with
  | none => simp [hr] at hs
  | some ds =>
    simp only [Option.getD_some]
    have := wnafLoop_value (2 * bitLen k + 12) k false 0 0 [] ds (k : Int) (by simp [dval]) (by simp) hr
    exact this.symm

section
variable {G : Type} [AddCommGroup G]

/-- the state of the loop: accumulator and the number of pending doublings -/
def evalStep (P : G) (st : G × Nat) (d : Int) : G × Nat :=
  if d = 0 then (st.1, st.2 + 1)
  else ((2 : Int) ^ (st.2 + 1) • st.1 + d • P, 0)

/-- `sm2P256ScalarMult`: digits most significant first -/
def windowEval (P : G) (digits : List Int) : G :=
  let st := digits.foldl (evalStep P) (0, 0)
  (2 : Int) ^ st.2 • st.1

/-- value of a digit string, most significant first -/
def msbVal (digits : List Int) : Int := digits.foldl (fun v d => 2 * v + d) 0

theorem foldl_evalStep (P : G) (digits : List Int) (acc : G) (z : Nat) (v : Int) (hv : acc = v • P) :
    let st := digits.foldl (evalStep P) (acc, z)
    (2 : Int) ^ st.2 • st.1 = (digits.foldl (fun v d => 2 * v + d) ((2 : Int) ^ z * v)) • P := by
  induction digits generalizing acc z v with
  | nil => simp [hv, mul_smul]
  | cons d ds ih =>
    simp only [List.foldl_cons]
    by_cases hd : d = 0
    · simp only [evalStep, hd, if_true]
      have := ih acc (z + 1) v hv
      simp only at this
      rw [this]
      congr 2
      rw [pow_succ]; ring
    · simp only [evalStep, hd, if_false]
      have := ih ((2 : Int) ^ (z + 1) • acc + d • P) 0 ((2 : Int) ^ (z + 1) * v + d)
        (by rw [hv, add_smul, mul_smul])
      simp only at this
      rw [this]
      congr 2
      rw [pow_succ]; ring

theorem windowEval_correct (P : G) (digits : List Int) : windowEval P digits = msbVal digits • P := by
  have h := foldl_evalStep P digits (0 : G) 0 0 (zero_smul ℤ P).symm
  rwa [mul_zero] at h
end

end Props.C03Alg
