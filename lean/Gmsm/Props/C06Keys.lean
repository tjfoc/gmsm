/-
C06 (continued) — both ends of a GMSSL ECC handshake derive the same keys.
The client encrypts the 48-byte pre-master secret to the server's encryption certificate key with SM2
(GM/T 0003.4); the server decrypts it; both feed it, with the two randoms, to the GM/T 0024 PRF.
With `Props.SM2Group.decrypt_encrypt` (the executable SM2 spec is a group action) this is unconditional.
-/
import Gmsm.Props.SM2Group
import Gmsm.Spec.TLSPRF
namespace Props.C06
open Spec.SM2 Spec.TLSPRF Gmsm

/-- for every server decryption key 1 ≤ d < n, every client nonce 1 ≤ k < n and
    every (non-empty) pre-master secret, what the server decrypts from the ClientKeyExchange is the client's
    pre-master secret. -/
theorem gm_premaster_agree (d k : Nat) (pm ct : Bytes) (ord : Order) (hd : 1 ≤ d ∧ d < n) (hk : 1 ≤ k ∧ k < n)
    (h : encryptWith (enc (smul d G)).1 (enc (smul d G)).2 pm k ord = some ct) :
    decrypt d ct ord = some pm :=
  Props.SM2Group.decrypt_encrypt d k pm ct ord hd hk h

/-- hence both ends compute the same master secret and cut the same key block (MAC keys,
    cipher keys, IVs in the same order), for every pair of randoms and every suite's lengths. -/
theorem gm_keys_agree (d k : Nat) (pm ct : Bytes) (ord : Order) (hd : 1 ≤ d ∧ d < n) (hk : 1 ≤ k ∧ k < n)
    (h : encryptWith (enc (smul d G)).1 (enc (smul d G)).2 pm k ord = some ct)
    (crand srand : Bytes) (macLen keyLen ivLen : Nat) :
    ∃ pmS, decrypt d ct ord = some pmS ∧
      masterSecret pmS crand srand = masterSecret pm crand srand ∧
      keyBlock (masterSecret pmS crand srand) crand srand macLen keyLen ivLen =
        keyBlock (masterSecret pm crand srand) crand srand macLen keyLen ivLen :=
  ⟨pm, gm_premaster_agree d k pm ct ord hd hk h, rfl, rfl⟩

end Props.C06
