/-
C18 (memory clause) for the session state parser of gmtls/ticket.go: `sessionState.unmarshal` allocates its
certificate table (`make([][]byte, numCerts)`) only after it has checked that the remaining input holds at
least the 4-byte length prefix of every announced certificate, so the table has at most len(input)/4 slots
(a linear bound).  Before the repair the table was allocated from the 16-bit count alone: a 56-byte input
made it allocate 65280 slots (1.5 MB) and then return false.  The check changes no verdict and no parsed
field (`unmarshal_accepts_same`).  Theorems about `Model.SessionState`, tied to the Go code by the ops
`sstate` / `sstatem` (harness/c16codec.go) and `sstalloc` (harness/c18ticketalloc.go; Driver/SessionState.lean).
-/
import Gmsm.Props.C16Codec
namespace Props.C18TicketAlloc
open Gmsm Model.SessionState Props.C16Codec

/-- the repaired decoder and the decoder before the repair return the same thing on
    every input — the same verdict and, when they accept, the same fields.  The check in front of `make`
    only refuses inputs the certificate loop refused later anyway. -/
theorem unmarshal_accepts_same (b : Bytes) : unmarshal b = unmarshalOld b := by
  unfold unmarshal unmarshalOld
  split
  · rfl
  · dsimp only
    split
    · rfl
    · split
      · rfl
      · split
        · rename_i hlt
          split
          · rename_i cs hcs
            have := unmarshalCerts_count_le _ _ _ hcs
            omega
          · rfl
        · rfl

/-- whenever the decoder proceeds past the certificate count to `make([][]byte, numCerts)`, the remaining input
    has at least 4 bytes per slot, and is the input without (at least) the 8 bytes of fixed fields. -/
theorem unmarshal_count_bounded (b : Bytes) (n : Nat) (rest : Bytes) (h : allocPoint b = some (n, rest)) :
    4 * n ≤ rest.length ∧ rest.length + 8 ≤ b.length := by
  simp only [allocPoint, Option.ite_none_left_eq_some, Option.some.injEq, Prod.mk.injEq] at h
  obtain ⟨h8, hm, h2, h4, rfl, rfl⟩ := h
  refine ⟨by omega, ?_⟩
  simp only [List.length_drop] at h2 hm ⊢
  omega

/-- the linear bound: the certificate table never has more than len(input)/4 slots (24 bytes per slot:
    at most 6 bytes allocated per input byte), whatever the input and whatever the verdict -/
theorem allocSlots_linear (b : Bytes) : 4 * allocSlots b ≤ b.length := by
  unfold allocSlots
  split
  · rename_i n rest h
    have := unmarshal_count_bounded b n rest h
    omega
  · omega

theorem allocPoint_of_accept (b : Bytes) (s : SState) (h : unmarshal b = some s) :
    ∃ rest, allocPoint b = some (s.certs.length, rest) := by
  simp only [unmarshal, Option.ite_none_left_eq_some] at h
  obtain ⟨h8, hm, h2, h4, h⟩ := h
  split at h
  · rename_i cs hcs
    cases h
    simp only [allocPoint, if_neg h8, if_neg hm, if_neg h2, if_neg h4, (unmarshalCerts_sound _ _ _ hcs).1]
    exact ⟨_, rfl⟩
  · simp at h

/-- for an accepted input the table is exactly as long as the list of certificates -/
theorem allocSlots_accept (b : Bytes) (s : SState) (h : unmarshal b = some s) : allocSlots b = s.certs.length := by
  obtain ⟨rest, hr⟩ := allocPoint_of_accept b s h
  unfold allocSlots
  rw [hr]

/-- an input the check in front of `make` refuses allocates nothing -/
theorem allocSlots_refused (b : Bytes) (h : allocPoint b = none) : allocSlots b = 0 := by
  unfold allocSlots
  rw [h]

/-- the 56-byte serialization of a state with a 48-byte master secret and no certificate,
    the high byte of the count substituted by 0xff -/
def demo : Bytes := [1, 1, 0xe0, 0x13, 0, 48] ++ (List.replicate 48 0 ++ [0xff, 0])

/-- what was false before the repair: the old decoder allocated 65280 slots for these 56 bytes (and then
    returned false); no bound of the form `4 * slots ≤ len` held for it -/
theorem old_decoder_unbounded :
    demo.length = 56 ∧ allocSlotsOld demo = 65280 ∧ unmarshalOld demo = none ∧ ¬ 4 * allocSlotsOld demo ≤ demo.length := by
  decide

/-- the repaired decoder on the same input: refused in front of `make`, nothing allocated -/
theorem demo_refused : allocPoint demo = none ∧ allocSlots demo = 0 ∧ unmarshal demo = none := by decide

-- Non-vacuity: an input that reaches `make` (two certificates, one empty), and the bound is tight for empty entries
example : allocPoint (marshal sample) = some (2, [0, 0, 0, 2, 1, 2, 0, 0, 0, 0]) := by decide
example : allocSlots (marshal sample) = 2 := by decide
example : allocPoint [1, 1, 0xe0, 0x13, 0, 0, 0, 2, 0, 0, 0, 0, 0, 0, 0, 0] = some (2, [0, 0, 0, 0, 0, 0, 0, 0]) := by decide
example : (unmarshal [1, 1, 0xe0, 0x13, 0, 0, 0, 2, 0, 0, 0, 0, 0, 0, 0, 0]).isSome = true := by decide
-- one byte short of 4 per entry: refused before the allocation
example : allocPoint [1, 1, 0xe0, 0x13, 0, 0, 0, 2, 0, 0, 0, 0, 0, 0, 0] = none := by decide
-- passes the check in front of `make` (8 bytes for 2 entries) and is refused in the loop: slots allocated, verdict false
example : allocSlots [1, 1, 0xe0, 0x13, 0, 0, 0, 2, 0, 0, 0, 4, 0, 0, 0, 0] = 2 ∧
    unmarshal [1, 1, 0xe0, 0x13, 0, 0, 0, 2, 0, 0, 0, 4, 0, 0, 0, 0] = none := by decide

end Props.C18TicketAlloc
