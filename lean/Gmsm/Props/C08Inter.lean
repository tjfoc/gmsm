/-
C08 / C06 — GMSSL certificates issued by an intermediate CA (repair of the intermediates pool of the GMSSL client
and of the layout of the GMSSL server's Certificate message).

As found, a client that trusts only the root could not complete with a server whose certificates come from an
intermediate CA: the client verified certificates 0 and 1 of the message against an EMPTY pool of intermediates
(`empty_pool_needs_direct_issuer`), and the server concatenated its two chains, so that a chain on the signing key pair
pushed the encryption certificate out of position 1.

What holds now (`Model.HandshakeAuth.serverChainOK`, `certList`):
  * the pool holds every certificate after the first two (`server_chain_uses_rest`), and a leaf → intermediate → root
    path through it is found (`chainOK_via_intermediate`, `client_verifies_via_intermediate`);
  * the server's message starts with the two end-entity certificates whatever chains the key pairs carry
    (`certList_leaves_first`), loses no CA certificate (`certList_complete`), repeats none (`certList_rest_nodup`),
    and is the old message when no key pair carries a chain (`certList_plain`).
-/
import Gmsm.Props.C08
namespace Props.C08Inter
open Model Model.HandshakeAuth

theorem dedupInto_mem (acc l : List Nat) (d : Nat) : d ∈ dedupInto acc l ↔ d ∈ acc ∨ d ∈ l := by
  induction l generalizing acc with
  | nil => simp [dedupInto]
  | cons x xs ih =>
    rw [dedupInto]
    split
    · rename_i hx
      have hx : x ∈ acc := by simpa using hx
      rw [ih, List.mem_cons]
      exact ⟨fun h => h.imp_right .inr, fun h => h.elim .inl (·.elim (· ▸ .inl hx) .inr)⟩
    · rw [ih, List.mem_append, List.mem_singleton, List.mem_cons, or_assoc]

theorem dedupInto_nodup (acc l : List Nat) (h : acc.Nodup) : (dedupInto acc l).Nodup := by
  induction l generalizing acc with
  | nil => exact h
  | cons x xs ih =>
    rw [dedupInto]
    split
    · exact ih acc h
    · next hx =>
      refine ih _ (List.nodup_append.mpr ⟨h, List.nodup_cons.mpr ⟨List.not_mem_nil, .nil⟩, fun a ha b hb e => hx ?_⟩)
      cases List.mem_singleton.mp hb
      exact List.contains_iff_mem.mpr (e ▸ ha)

/-- (repaired behaviour of the server) whatever chains the two key pairs carry and
    whatever further entries are configured, the message starts with the signing certificate and the encryption
    certificate; the CA certificates follow. -/
theorem certList_leaves_first (s e : Nat) (cs ce : List Nat) (more : List (List Nat)) :
    certList ((s :: cs) :: (e :: ce) :: more) = s :: e :: dedupInto [] (cs ++ (ce ++ more.flatten)) := by
  simp [certList]

/-- key pairs without chain: the message is what it always was (the wire format of existing deployments is unchanged) -/
theorem certList_plain (s e : Nat) : certList [[s], [e]] = [s, e] := by
  simp [certList, dedupInto]

theorem mem_certList_rest (s e : Nat) (cs ce : List Nat) (more : List (List Nat)) (d : Nat) :
    d ∈ (certList ((s :: cs) :: (e :: ce) :: more)).drop 2 ↔ d ∈ cs ∨ d ∈ ce ∨ ∃ m ∈ more, d ∈ m := by
  rw [certList_leaves_first]
  simp [dedupInto_mem]

/-- no certificate of a configured chain is lost … -/
theorem certList_complete (s e : Nat) (cs ce : List Nat) (more : List (List Nat)) (d : Nat)
    (h : d ∈ cs ∨ d ∈ ce ∨ ∃ m ∈ more, d ∈ m) : d ∈ (certList ((s :: cs) :: (e :: ce) :: more)).drop 2 :=
  (mem_certList_rest s e cs ce more d).mpr h

/-- … nothing is invented … -/
theorem certList_sound (s e : Nat) (cs ce : List Nat) (more : List (List Nat)) (d : Nat)
    (h : d ∈ (certList ((s :: cs) :: (e :: ce) :: more)).drop 2) : d ∈ cs ∨ d ∈ ce ∨ ∃ m ∈ more, d ∈ m :=
  (mem_certList_rest s e cs ce more d).mp h

/-- … and a CA certificate that both chains carry is sent once -/
theorem certList_rest_nodup (chains : List (List Nat)) :
    (dedupInto [] (((chains.take 2).map List.tail ++ chains.drop 2).flatten)).Nodup :=
  dedupInto_nodup [] _ List.nodup_nil

/-- the pool with which certificates 0 and 1 are verified: the rest of the message -/
theorem server_chain_uses_rest (P : Prims) (c : Client) (ds de : Nat) (rest : List Nat) (i : Nat) :
    serverChainOK P c (ds :: de :: rest) i =
      match certAt P (ds :: de :: rest) i with
      | some p => chainOK c.roots (rest.filterMap fun r => (P.parse r).map (·.x)) p.x c.opts
      | none => false := rfl

/-- The defect, stated for the model as it was (pool = []): verification against an empty pool of intermediates
    succeeds only for a certificate that is itself a trust anchor or that a trust anchor signed directly.  Certificates
    issued by an intermediate CA could therefore never be accepted, whatever the server sent. -/
theorem empty_pool_needs_direct_issuer (roots : List X509.Cert) (leaf : X509.Cert) (o : X509.Opts)
    (h : chainOK roots [] leaf o = true) :
    roots.any (·.id == leaf.id) = true ∨ ∃ r ∈ roots, X509.checkSigFrom leaf r = true := by
  obtain ⟨_, _, _, chains, hne, hall⟩ := Props.C08.client_chain_meaning roots [] leaf o h
  obtain ⟨ids, hids⟩ := List.exists_mem_of_ne_nil chains hne
  obtain ⟨chain, _, ⟨_, hr⟩ | ⟨suffix, _, hg⟩⟩ := hall ids hids
  · exact .inl hr
  · right
    -- with no intermediates to choose from, the suffix is a single root
    match suffix, hg with
    | [r], ⟨hr, ⟨c, hl, hs⟩, _⟩ =>
      obtain rfl : leaf = c := by simpa using hl
      exact ⟨r, hr, hs⟩
    | i :: r :: rest, hg => exact absurd hg.1 List.not_mem_nil

open Props.C10 in
/-- the first candidate intermediate is followed with the work budget left after this step, whatever the later
    candidates cost -/
theorem buildChains_first_inter {roots inters : List X509.Cert} {o : X509.Opts} {fuel steps : Nat}
    {chain more x : List X509.Cert} {c i : X509.Cert} (hs : steps ≠ 0) (hc : chain.getLast? = some c)
    (hcand : X509.findVerifiedParents inters c = i :: more) (hu : usable o .intermediate chain i = true)
    (hx : x ∈ (X509.buildChains roots inters o fuel (steps - 1) (chain ++ [i])).1) :
    x ∈ (X509.buildChains roots inters o (fuel + 1) steps chain).1 := by
  rw [buildChains_succ hs hc, hcand, List.foldl_cons]
  refine (foldl_interStep_mono (buildChains_budget roots inters o fuel) _ _).1 x ?_
  rw [interStep, if_pos hu]
  exact List.mem_append_right _ hx

/-- Completeness of `Verify` for the path leaf → intermediate → root: a leaf that is
    acceptable in itself, whose first candidate issuer in the pool of intermediates is a valid CA certificate that a
    trusted root signed, verifies — provided the path suits the requested key usages.  With the empty pool of the
    unrepaired client no such path exists (`empty_pool_needs_direct_issuer`). -/
theorem chainOK_via_intermediate (roots inters : List X509.Cert) (leaf inter root : X509.Cert) (more : List X509.Cert)
    (o : X509.Opts)
    (hcrit : leaf.critical = false) (hval : X509.isValid leaf .leaf [] o = none)
    (hhost : o.dnsName.length > 0 → X509.verifyHostname leaf o = true)
    (hnotroot : roots.any (·.id == leaf.id) = false)
    (hcand : X509.findVerifiedParents inters leaf = inter :: more)
    (hfresh : (leaf.id == inter.id) = false)
    (hiv : X509.isValid inter .intermediate [leaf] o = none)
    (hr : root ∈ X509.findVerifiedParents roots inter)
    (hrfresh : [leaf, inter].any (·.id == root.id) = false)
    (hrv : X509.isValid root .root [leaf, inter] o = none)
    (huse : X509.checkChainForKeyUsage [leaf, inter, root] (if o.usages.isEmpty then [1] else o.usages) = true) :
    chainOK roots inters leaf o = true := by
  open Props.C10 in
  have hmem : [leaf, inter, root] ∈ candidates roots inters leaf o := by
    rw [candidates, hnotroot]
    exact buildChains_first_inter (by decide) rfl hcand (usable_iff.mpr ⟨hiv, by simpa [Fresh] using hfresh⟩)
      (buildChains_root (chain := [leaf, inter]) (by decide) rfl hr (usable_iff.mpr ⟨hrv, hrfresh⟩))
  have hu : usageOK o [leaf, inter, root] = true := by rw [usageOK, reqUsages, huse, Bool.or_true]
  rw [chainOK, verify_ok_iff.mpr ⟨hcrit, hval, hhost, List.ne_nil_of_mem (List.mem_filter.mpr ⟨hmem, hu⟩), rfl⟩]

/-- (repaired behaviour of the client) in a message sign, enc, CA… the CA
    certificates that follow the two end-entity certificates are the pool against which BOTH are verified; a leaf whose
    issuer is the first matching certificate of that pool, signed by a trusted root, passes the chain check. -/
theorem client_verifies_via_intermediate (P : Prims) (c : Client) (ds de : Nat) (rest : List Nat) (i : Nat) (p : PCert)
    (inter root : X509.Cert) (more : List X509.Cert)
    (hp : certAt P (ds :: de :: rest) i = some p)
    (hcrit : p.x.critical = false) (hval : X509.isValid p.x .leaf [] c.opts = none)
    (hhost : c.opts.dnsName.length > 0 → X509.verifyHostname p.x c.opts = true)
    (hnotroot : c.roots.any (·.id == p.x.id) = false)
    (hcand : X509.findVerifiedParents (rest.filterMap fun r => (P.parse r).map (·.x)) p.x = inter :: more)
    (hfresh : (p.x.id == inter.id) = false)
    (hiv : X509.isValid inter .intermediate [p.x] c.opts = none)
    (hr : root ∈ X509.findVerifiedParents c.roots inter)
    (hrfresh : [p.x, inter].any (·.id == root.id) = false)
    (hrv : X509.isValid root .root [p.x, inter] c.opts = none)
    (huse : X509.checkChainForKeyUsage [p.x, inter, root] (if c.opts.usages.isEmpty then [1] else c.opts.usages) = true) :
    serverChainOK P c (ds :: de :: rest) i = true := by
  rw [server_chain_uses_rest, hp]
  exact chainOK_via_intermediate c.roots _ p.x inter root more c.opts hcrit hval hhost hnotroot hcand hfresh hiv hr hrfresh hrv huse

section Examples
open Props.C08

/-- root (id 1, key 2000) → intermediate (id 3, key 2400) → signing / encryption / client certificates -/
def exInter : X509.Cert := ⟨3, 300, 100, 2400, 2000, none, none, -48, 48, true, true, -1, 96, [], [], [], "intermediate", [], false, false, 3⟩
/-- same name, another key, signed by an unknown CA -/
def exForeign : X509.Cert := ⟨4, 300, 200, 2500, 2100, none, none, -48, 48, true, true, -1, 96, [], [], [], "intermediate", [], false, false, 3⟩
/-- the intermediate's name and key, validity ended -/
def exExpired : X509.Cert := ⟨5, 300, 100, 2400, 2000, none, none, -72, -1, true, true, -1, 96, [], [], [], "intermediate", [], false, false, 3⟩
def exLeafI (id subj key ku : Nat) (eku : List Nat) : X509.Cert :=
  ⟨id, subj, 300, key, 2400, none, none, -24, 24, false, false, -1, ku, [], [], ["10.1.2.3"], "", eku, false, false, 3⟩
def exTableI : List (Nat × PCert) :=
  [(3, ⟨exInter, true⟩), (4, ⟨exForeign, true⟩), (5, ⟨exExpired, true⟩),
   (80, ⟨exLeafI 80 110 2401 1 [1], true⟩), (81, ⟨exLeafI 81 111 2402 28 [1], true⟩), (82, ⟨exLeafI 82 182 2403 1 [2], true⟩)]
def exPI : Prims := ideal exTableI
/-- trusts the root only; presents a certificate of the intermediate CA together with it -/
def exClientI : Client := { exClient with cert := [82, 3], key := 2403 }
def exServerI (chains : List (List Nat)) (pol : Policy) : Server :=
  { exServer pol with certs := certList chains, encDer := 81, signKey := 2401, decKey := 2402 }

def both (o : Outcome) : Bool × Bool := (o.clientDone, o.serverDone)

/-- every way of supplying the chain completes, without and with mutual authentication … -/
example : both (run exPI exClientI (exServerI [[80], [81, 3]] .noClientCert) {}) = (true, true) := by decide +kernel
example : both (run exPI exClientI (exServerI [[80, 3], [81, 3]] .noClientCert) {}) = (true, true) := by decide +kernel
example : both (run exPI exClientI (exServerI [[80, 3], [81]] .requireAndVerifyClientCert) {}) = (true, true) := by decide +kernel
example : both (run exPI exClientI (exServerI [[80], [81], [3]] .requireAndVerifyClientCert) {}) = (true, true) := by decide +kernel
example : certList [[80, 3], [81, 3]] = [80, 81, 3] := by decide
/-- … while a server that does not send the intermediate, sends another CA's, or an expired one is refused -/
example : both (run exPI exClientI (exServerI [[80], [81]] .noClientCert) {}) = (false, false) := by decide +kernel
example : both (run exPI exClientI (exServerI [[80], [81, 4]] .noClientCert) {}) = (false, false) := by decide +kernel
example : both (run exPI exClientI (exServerI [[80], [81, 5]] .noClientCert) {}) = (false, false) := by decide +kernel
/-- a client certificate of the intermediate CA sent without it is refused by a verifying server -/
example : both (run exPI { exClientI with cert := [82] } (exServerI [[80], [81, 3]] .requireAndVerifyClientCert) {}) = (false, false) := by
  decide +kernel
/-- the hypotheses of `client_verifies_via_intermediate` hold for this message: the theorem is not vacuous -/
example : serverChainOK exPI exClientI [80, 81, 3] 0 = true :=
  client_verifies_via_intermediate exPI exClientI 80 81 [3] 0 ⟨exLeafI 80 110 2401 1 [1], true⟩ exInter exCA []
    (by decide) (by decide) (by decide) (by decide +kernel) (by decide) (by decide) (by decide) (by decide) (by decide) (by decide) (by decide)
    (by decide)

end Examples

end Props.C08Inter
