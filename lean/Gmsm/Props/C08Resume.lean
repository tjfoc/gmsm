/-
C08 across resumption — a server completes only with the client identity its CURRENT ClientAuth policy demands,
also when the client offers a ticket obtained under another policy (same session-ticket keys: an edited
`Config`, a second `Config` with the same `SetSessionTicketKeys`, a `Config` chosen by `GetConfigForClient`).
Theorems about `Model.Resume.checkForResumption` / `fullOutcome` through `Model.ResumeAuth`.
-/
import Gmsm.Model.ResumeAuth
import Gmsm.Props.C16
namespace Props.C08Resume
open Model.Resume Model.ResumeAuth

/-- `policyMet` spelled out: the Require* policies (2, 4) demand at least one certificate, the verifying
    policies (3, 4) demand that certificates which are there chain to the client CAs, NoClientCert (0) reports
    no client identity at all. -/
theorem policyMet_iff (a : Nat) (st : Sess) :
    policyMet a st = true ↔
      ((a = 2 ∨ a = 4) → st.ccerts ≠ 0) ∧ (a ≥ 3 → st.ccerts ≠ 0 → st.ctrust = true) ∧ (a = 0 → st.ccerts = 0) := by
  simp [policyMet, and_assoc, or_assoc, Decidable.imp_iff_not_or]

/-- Whatever ticket is offered and whatever policy was in force when it was issued, `checkForResumption` accepts it
    only if the client certificates stored in it satisfy the policy in force NOW — in particular never an anonymous
    session under RequireAnyClientCert / RequireAndVerifyClientCert. -/
theorem gate_meets_policy (m : Mode) (s : Server) (hello : List Suite) (t : Ticket) (st : Sess) (old : Bool)
    (h : checkForResumption m s hello t = some (st, old)) : policyMet s.auth st = true := by
  obtain ⟨_, _, _, _, _, _, _, _, h1, h2, h3⟩ := (Props.C16.gate_iff m s hello t st old).mp h
  rw [policyMet_iff]
  exact ⟨fun ha hc => h1 ⟨ha, hc⟩, fun ha hc => Bool.of_not_eq_false fun ht => h3 ⟨hc, ha, ht⟩,
    fun ha => Decidable.byContradiction fun hc => h2 ⟨hc, ha⟩⟩

/-- under a Require* policy a ticket that holds no client certificate is
    never resumed, for every key list, suite list, version and hello -/
theorem require_never_resumes_anonymous (m : Mode) (s : Server) (hello : List Suite) (t : Ticket)
    (ha : s.auth = 2 ∨ s.auth = 4) (hc : t.sess.ccerts = 0) : checkForResumption m s hello t = none :=
  Props.C16.never_resumes fun st old h => by
    obtain ⟨_, _, _, rfl, _, _, _, _, h1, _⟩ := (Props.C16.gate_iff m s hello t st old).mp h
    exact h1 ⟨ha, hc⟩

/-- a full handshake completes only with the identity the policy demands (`doFullHandshake`:
    `processCertsFromClient`) -/
theorem full_meets_policy (m : Mode) (w : World) (r : ConnReq) (st : Sess) (h : fullOutcome m w r = some st) :
    policyMet (w.srv r.srv).auth st = true := by
  obtain ⟨_, sent, hs, rfl, h1, h2⟩ := Props.C16.fullOutcome_eq_some m w r st h
  rw [policyMet_iff]
  cases sent
  · exact ⟨fun ha => absurd ⟨ha, rfl⟩ h1, fun _ hc => absurd rfl hc, fun _ => rfl⟩
  · refine ⟨fun _ => Nat.one_ne_zero, fun ha _ => beq_iff_eq.mpr (Decidable.byContradiction fun hc => h2 ⟨rfl, ha, hc⟩),
      fun ha => ?_⟩
    -- a certificate counts as sent only if the server asked for one
    simp [ha] at hs

/-- In EVERY world (any cache contents, any ticket, any history behind it), a
    connection that completes on the server — resumed or in full — ends with a client identity that satisfies the
    ClientAuth policy of the `Config` serving it. -/
theorem served_meets_policy (m : Mode) (w : World) (r : ConnReq) (st : Sess) (res : Bool)
    (h : served m w r = some (st, res)) : policyMet (w.srv r.srv).auth st = true := by
  unfold served at h
  split at h
  · rename_i st0 old hd
    obtain ⟨rfl, _⟩ := Prod.mk.inj (Option.some.inj h)
    obtain ⟨_, _, cs, _, _, hc⟩ := (Props.C16.resumeDecision_eq_some m w r _ old).mp hd
    exact gate_meets_policy m _ _ _ _ _ hc
  · obtain ⟨st1, hf, h⟩ := Option.map_eq_some_iff.mp h
    obtain ⟨rfl, _⟩ := Prod.mk.inj h
    exact full_meets_policy m w r _ hf

/-- `served` is what `conn` reports: the handshake fails exactly when there is no served session, and reports
    a resumption exactly when the served session came out of the ticket -/
theorem conn_outcome_served (m : Mode) (w : World) (r : ConnReq) :
    (conn m w r).2 = match served m w r with
      | some (st, true) => .resumed st.sid
      | some (_, false) => .full (w.n + 1)
      | none => .error := by
  unfold conn served
  cases resumeDecision m w r with
  | some p => rfl
  | none => cases fullOutcome m w r <;> rfl

theorem connect_auth (m : Mode) (w : World) (it : Item) (cs : Option (List Suite)) :
    ((prep (step m w (.auth 0 it.auth)).1 ⟨0, cs, it.ccert, false⟩).srv 0).auth = it.auth := by
  rw [Props.C16.prep_srv_self (step m w (.auth 0 it.auth)).1 ⟨0, cs, it.ccert, false⟩, Props.C16.ensureKeys_auth]
  simp [step, setSrv]

theorem connect_meets_policy (m : Mode) (w : World) (cs : Option (List Suite)) (it : Item) (res : Bool) (k : Nat)
    (h : (connect m w cs it).2 = .completed res k) :
    ((it.auth = 2 ∨ it.auth = 4) → k ≠ 0) ∧ (it.auth = 0 → k = 0) := by
  unfold connect at h
  dsimp only at h
  split at h
  · rename_i st res0 hs
    obtain ⟨_, rfl⟩ := Report.completed.inj h
    have hp := served_meets_policy m _ _ st res0 hs
    rw [connect_auth, policyMet_iff] at hp
    exact ⟨hp.1, hp.2.2⟩
  · cases h

/-- For EVERY history of connections under changing policies with the ticket keys
    kept (any length, any order of policies, whatever the client holds each time, from any starting world) every
    completed connection reports ≥ 1 client certificate if its own policy is RequireAnyClientCert or
    RequireAndVerifyClientCert, and none if it is NoClientCert. -/
theorem history_meets_policy (m : Mode) (cs : Option (List Suite)) (its : List Item) :
    ∀ (w : World) (i : Nat) (it : Item) (res : Bool) (k : Nat), its[i]? = some it →
      (runItems m cs w its)[i]? = some (.completed res k) →
      ((it.auth = 2 ∨ it.auth = 4) → k ≠ 0) ∧ (it.auth = 0 → k = 0) := by
  induction its with
  | nil => intro w i it res k h; cases h
  | cons it0 rest ih =>
    intro w i it res k h1 h2
    unfold runItems at h2
    cases i with
    | zero =>
      obtain rfl := Option.some.inj h1
      exact connect_meets_policy m w cs it0 res k (Option.some.inj h2)
    | succ j => exact ih _ j it res k h1 h2

/-- one report per connection -/
theorem runItems_length (m : Mode) (cs : Option (List Suite)) (its : List Item) :
    ∀ w : World, (runItems m cs w its).length = its.length := by
  induction its with
  | nil => intro w; rfl
  | cons it rest ih => intro w; unfold runItems; simp [ih]

/-- Non-vacuity (tests): an anonymous session under NoClientCert resumes there, is NOT resumed under
    RequireAndVerifyClientCert (the full handshake without certificate fails, with one it completes), and the new
    session resumes under the strict policy. -/
example : runItems .gm none (world (some [0xe013])) [⟨0, 0⟩, ⟨0, 0⟩, ⟨4, 0⟩, ⟨4, 1⟩, ⟨4, 1⟩]
    = [.completed false 0, .completed true 0, .failed, .completed false 1, .completed true 1] := by decide

/-- a certificate of an untrusted CA accepted under RequestClientCert does not survive the verifying policies -/
example : runItems .gm none (world (some [0xe013])) [⟨1, 2⟩, ⟨1, 2⟩, ⟨3, 2⟩, ⟨0, 0⟩]
    = [.completed false 1, .completed true 1, .failed, .completed false 0] := by decide

end Props.C08Resume
