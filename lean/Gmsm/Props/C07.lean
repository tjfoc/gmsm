/-
C07 — Protected records cannot be altered, reordered, replayed or truncated undetected.

Two layers:
 * byte level, real crypto (`Model.Record`, tied to gmtls/conn.go by the recwrite/recread/expad
   correspondence): sequence-number stepping, nonce construction, additional-data encoding.
 * an abstract authenticated channel over an ideal AEAD (DESIGN.md's `IdealAEAD`: the structure `AEAD` with the
   hypothesis `Authentic` — cryptographic hardness is a hypothesis here, never an axiom): prefix delivery under
   ANY adversarial record sequence, by induction over the records the receiver is fed.  `sm4gcm` is the
   instance the GCM suite of `halfConn.decrypt` uses (`decrypt_gcm_eq`).
-/
import Gmsm.Model.Record
import Gmsm.Util.I2osp
import Gmsm.Props.C12
namespace Props.C07
open Gmsm Model.Record

/-- Sender: every record advances the implicit sequence number by exactly one. -/
theorem seq_step_encrypt (h : Half) (typ : Byte) (explicit payload : Bytes) :
    (h.encrypt typ explicit payload).2.seq = h.seq + 1 ∧
    (h.encrypt typ explicit payload).2.suite = h.suite := by
  unfold Half.encrypt
  cases h.suite <;> exact ⟨rfl, rfl⟩

/-- What `halfConn.decrypt` (CBC suite) has checked when it accepts: a block-aligned body of at least 64 bytes,
    and the MAC over the data it returns, data and tag being cut at some offset `n` out of the CBC decryption of
    the body under its own first block as IV. -/
theorem decrypt_cbc_cases (k : Keys) (seq : Nat) (typ : Byte) (body : Bytes) :
    (⟨.cbc, k, seq⟩ : Half).decrypt typ body = (none, ⟨.cbc, k, seq⟩) ∨
    ∃ n, body.length % 16 = 0 ∧ 64 ≤ body.length ∧
      mac k seq typ ((cbcDecAll k.key (body.take 16) (body.drop 16)).take n) =
        ((cbcDecAll k.key (body.take 16) (body.drop 16)).drop n).take 32 ∧
      (⟨.cbc, k, seq⟩ : Half).decrypt typ body =
        (some ((cbcDecAll k.key (body.take 16) (body.drop 16)).take n), ⟨.cbc, k, seq + 1⟩) := by
  unfold Half.decrypt
  simp only
  by_cases hc : body.length % 16 ≠ 0 ∨ body.length < 64
  · rw [if_pos hc]; exact .inl rfl
  rw [if_neg hc]
  generalize cbcDecAll _ _ _ = pt
  by_cases h32 : pt.length < 32
  · rw [if_pos h32]; exact .inl rfl
  rw [if_neg h32]
  generalize (if pt.length < 32 + _ then 0 else _) = n
  by_cases hm : mac k seq typ (pt.take n) = (pt.drop n).take 32 ∧ (extractPadding pt).2 = true
  · rw [if_pos hm]; exact .inr ⟨n, by omega, by omega, hm.1, rfl⟩
  · rw [if_neg hm]; exact .inl rfl

theorem decrypt_cases (h : Half) (typ : Byte) (body : Bytes) :
    h.decrypt typ body = (none, h) ∨ ∃ d, h.decrypt typ body = (some d, { h with seq := h.seq + 1 }) := by
  rcases h with ⟨s, k, q⟩
  cases s
  · rcases decrypt_cbc_cases k q typ body with e | ⟨n, -, -, -, e⟩
    · exact .inl e
    · exact .inr ⟨_, e⟩
  · unfold Half.decrypt
    simp only
    by_cases h8 : body.length < 8
    · rw [if_pos h8]; exact .inl rfl
    rw [if_neg h8]
    by_cases h16 : (body.drop 8).length < 16
    · rw [if_pos h16]; exact .inl rfl
    rw [if_neg h16]
    generalize Spec.GCM.ad _ _ _ _ _ = r
    cases r
    · exact .inl rfl
    · exact .inr ⟨_, rfl⟩

/-- Receiver: an accepted record advances the sequence number by exactly one, a rejected one leaves the state
    untouched. -/
theorem seq_step_decrypt (h : Half) (typ : Byte) (body : Bytes) :
    ((h.decrypt typ body).1.isSome → (h.decrypt typ body).2.seq = h.seq + 1) ∧
    ((h.decrypt typ body).1 = none → (h.decrypt typ body).2 = h) := by
  rcases decrypt_cases h typ body with e | ⟨d, e⟩ <;> rw [e]
  · exact ⟨fun h => absurd h (by simp), fun _ => rfl⟩
  · exact ⟨fun _ => rfl, fun h => absurd h (by simp)⟩

theorem seqBytes_inj (a b : Nat) (ha : a < 2 ^ 64) (hb : b < 2 ^ 64) (h : seqBytes a = seqBytes b) : a = b :=
  i2ospR_inj 8 a b (by simpa using ha) (by simpa using hb) h

/-- The GCM nonce (4-byte salt ‖ 8-byte sequence number) never repeats as long as the sequence number does not
    wrap (and the code panics rather than let it wrap). -/
theorem nonce_injective (salt : Bytes) (a b : Nat) (ha : a < 2 ^ 64) (hb : b < 2 ^ 64)
    (h : salt ++ seqBytes a = salt ++ seqBytes b) : a = b :=
  seqBytes_inj a b ha hb (List.append_cancel_left h)

/-- The additional data / MAC prefix is `seq ‖ type ‖ version ‖ length`. -/
theorem aad_inj (s1 s2 : Nat) (t1 t2 : Byte) (l1 l2 : Nat)
    (h1 : s1 < 2 ^ 64) (h2 : s2 < 2 ^ 64) (hl1 : l1 < 2 ^ 16) (hl2 : l2 < 2 ^ 16)
    (h : aad s1 t1 l1 = aad s2 t2 l2) : s1 = s2 ∧ t1 = t2 ∧ l1 = l2 := by
  unfold aad header be16 at h
  have hl : (seqBytes s1).length = (seqBytes s2).length := by simp [seqBytes, i2ospR_length]
  have := List.append_inj h hl
  refine ⟨seqBytes_inj s1 s2 h1 h2 this.1, ?_, ?_⟩
  · have := this.2; simp at this; exact this.1
  · have := this.2
    simp at this
    exact i2ospR_inj 2 l1 l2 (by simpa using hl1) (by simpa using hl2) this.2

/-- An AEAD as a pair of functions. -/
structure AEAD where
  enc : Bytes → Bytes → Bytes → Bytes            -- nonce, additional data, plaintext ↦ ciphertext
  dec : Bytes → Bytes → Bytes → Option Bytes     -- nonce, additional data, ciphertext ↦ plaintext

/-- Authenticity with respect to what the sender sealed: anything that opens was sealed, under that
    nonce and that additional data, with that plaintext.  (INT-CTXT; a hypothesis, not an axiom.) -/
def Authentic (Æ : AEAD) (log : List (Bytes × Bytes × Bytes)) : Prop :=
  ∀ n a c p, Æ.dec n a c = some p → (n, a, p) ∈ log

/-- What the sender sealed for the application-data payloads `ps`, starting at sequence number `i`. -/
def sealLog (salt : Bytes) : Nat → List Bytes → List (Bytes × Bytes × Bytes)
  | _, [] => []
  | i, p :: ps => (salt ++ seqBytes i, aad i 23 p.length, p) :: sealLog salt (i + 1) ps

/-- A record as the receiver sees it: type, explicit nonce, claimed plaintext length, ciphertext —
    all four chosen by the adversary. -/
structure WireRec where
  typ : Byte
  explicit : Bytes
  len : Nat
  ct : Bytes

/-- The receiver: records are opened with its own sequence number in the additional data; the first
    failure is fatal (sticky error), application data (type 23) is delivered. -/
def receive (Æ : AEAD) (salt : Bytes) : Nat → List WireRec → List Bytes
  | _, [] => []
  | j, r :: rs =>
    match Æ.dec (salt ++ r.explicit) (aad j r.typ r.len) r.ct with
    | none => []
    | some p => p :: receive Æ salt (j + 1) rs

theorem mem_sealLog (salt : Bytes) (i : Nat) (ps : List Bytes) (n a p : Bytes)
    (h : (n, a, p) ∈ sealLog salt i ps) : ∃ k, ps[k]? = some p ∧ a = aad (i + k) 23 p.length := by
  induction ps generalizing i with
  | nil => simp [sealLog] at h
  | cons q qs ih =>
    simp only [sealLog, List.mem_cons, Prod.mk.injEq] at h
    rcases h with ⟨-, ha, rfl⟩ | h
    · exact ⟨0, rfl, ha⟩
    · obtain ⟨k, hk, ha⟩ := ih (i + 1) h
      exact ⟨k + 1, hk, by rw [ha, Nat.add_assoc, Nat.add_comm 1 k]⟩

/-- Under an authentic AEAD, whatever records the adversary feeds the receiver — flipped, truncated,
    extended, swapped, duplicated, dropped, injected, with edited headers, replayed from anywhere — the list of
    payloads delivered is a prefix of the list of payloads sent.
    (Payload lengths < 2^16 and fewer than 2^64 records, as the record layer guarantees: the sequence
    number is not allowed to wrap.) -/
theorem prefix_delivery (Æ : AEAD) (salt : Bytes) (ps : List Bytes)
    (hauth : Authentic Æ (sealLog salt 0 ps))
    (hlen : ∀ p ∈ ps, p.length < 2 ^ 16) (hcount : ps.length < 2 ^ 64)
    (wire : List WireRec) (hwl : ∀ r ∈ wire, r.len < 2 ^ 16) (j : Nat) (hj : j + wire.length < 2 ^ 64) :
    ∃ t, receive Æ salt j wire ++ t = ps.drop j := by
  induction wire generalizing j with
  | nil => exact ⟨ps.drop j, rfl⟩
  | cons r rs ih =>
    unfold receive
    cases hopen : Æ.dec (salt ++ r.explicit) (aad j r.typ r.len) r.ct with
    | none => exact ⟨ps.drop j, rfl⟩
    | some p =>
      obtain ⟨k, hk, ha⟩ := mem_sealLog salt 0 ps _ _ _ (hauth _ _ _ _ hopen)
      obtain ⟨hlt, rfl⟩ := List.getElem?_eq_some_iff.mp hk
      have hinj := aad_inj j (0 + k) r.typ 23 r.len ps[k].length
        (by simp at hj; omega) (by omega) (hwl r (by simp)) (hlen _ (List.getElem_mem hlt)) ha
      obtain rfl : j = k := by omega
      obtain ⟨t, ht⟩ := ih (fun x hx => hwl x (by simp [hx])) (j + 1) (by simp at hj ⊢; omega)
      exact ⟨t, by rw [List.drop_eq_getElem_cons hlt, List.cons_append, ht]⟩

/-- The receiver stops at the first rejected record: nothing after it is delivered. -/
theorem sticky_error (Æ : AEAD) (salt : Bytes) (j : Nat) (r : WireRec) (rs : List WireRec)
    (h : Æ.dec (salt ++ r.explicit) (aad j r.typ r.len) r.ct = none) :
    receive Æ salt j (r :: rs) = [] := by
  unfold receive; rw [h]

/-- What an honest network delivers: the sender's records, in order. -/
def honestWire (Æ : AEAD) (salt : Bytes) : Nat → List Bytes → List WireRec
  | _, [] => []
  | j, p :: ps =>
    ⟨23, seqBytes j, p.length, Æ.enc (salt ++ seqBytes j) (aad j 23 p.length) p⟩ :: honestWire Æ salt (j + 1) ps

/-- An untouched stream is delivered in full by a correct AEAD. -/
theorem honest_delivery (Æ : AEAD) (hc : ∀ n a p, Æ.dec n a (Æ.enc n a p) = some p)
    (salt : Bytes) (ps : List Bytes) (j : Nat) :
    receive Æ salt j (honestWire Æ salt j ps) = ps := by
  induction ps generalizing j with
  | nil => rfl
  | cons p ps ih =>
    simp only [honestWire, receive, hc]
    rw [ih (j + 1)]

/-- Non-vacuity: SM4-GCM (`Spec.GCM` over `Spec.SM4`) is a correct AEAD in the sense used above (C12). -/
def sm4gcm (key : Bytes) : AEAD where
  enc n a p := let (c, t) := Spec.GCM.ae (Spec.SM4.encrypt key) n p a; c ++ t
  dec n a c := if c.length < 16 then none else
    Spec.GCM.ad (Spec.SM4.encrypt key) n (c.take (c.length - 16)) a (c.drop (c.length - 16))

theorem sm4gcm_correct (key n a p : Bytes) : (sm4gcm key).dec n a ((sm4gcm key).enc n a p) = some p := by
  have hl := Props.C12.ae_lengths (Spec.SM4.encrypt key) (Props.C05.enc_length key) n p a
  have hd := Props.C12.sm4gcm_dec_enc key n p a
  simp only [sm4gcm]
  generalize Spec.GCM.ae (Spec.SM4.encrypt key) n p a = ct at hl hd
  obtain ⟨c, t⟩ := ct
  simp only at hl hd ⊢
  rw [if_neg (by rw [List.length_append, hl.2]; omega), List.length_append, hl.2, Nat.add_sub_cancel,
    List.take_left' rfl, List.drop_left' rfl]
  exact hd

/-- The SM4-GCM suite of `halfConn.decrypt` is `sm4gcm`: the nonce is salt ‖ the first 8 bytes of the body, the
    additional data carries the receiver's own sequence number and the length of what follows less the tag. -/
theorem decrypt_gcm_eq (k : Keys) (seq : Nat) (typ : Byte) (body : Bytes) :
    ((⟨.gcm, k, seq⟩ : Half).decrypt typ body).1 =
      (sm4gcm k.key).dec (k.iv ++ body.take 8) (aad seq typ ((body.drop 8).length - 16)) (body.drop 8) := by
  unfold Half.decrypt sm4gcm
  simp only
  by_cases h16 : (body.drop 8).length < 16
  · rw [if_pos h16]
    split <;> rfl
  · have h8 : ¬ body.length < 8 := by rw [List.length_drop] at h16; omega
    rw [if_neg h8, if_neg h16, if_neg h16, List.length_take, Nat.min_eq_left (Nat.sub_le _ _)]
    split <;> simp only [*]

/-- SM4-GCM suite: a record produced by `halfConn.encrypt` is accepted by `halfConn.decrypt` at the same sequence
    number and yields exactly the payload. -/
theorem decrypt_encrypt_gcm (keys : Keys) (seq : Nat) (typ : Byte) (explicit payload : Bytes)
    (he : explicit.length = 8) :
    let h : Half := ⟨.gcm, keys, seq⟩
    (h.decrypt typ ((h.encrypt typ explicit payload).1.drop 5)).1 = some payload := by
  intro h
  have hl := Props.C12.ae_lengths (Spec.SM4.encrypt keys.key) (Props.C05.enc_length keys.key)
    (keys.iv ++ explicit) payload (aad seq typ payload.length)
  have hc := sm4gcm_correct keys.key (keys.iv ++ explicit) (aad seq typ payload.length) payload
  have hbody : (h.encrypt typ explicit payload).1.drop 5 =
      explicit ++ (sm4gcm keys.key).enc (keys.iv ++ explicit) (aad seq typ payload.length) payload := by
    simp only [h, Half.encrypt, sm4gcm]
    rw [List.append_assoc, List.append_assoc, List.drop_left' (by simp [header, be16, i2ospR_length])]
  have hlen : ((sm4gcm keys.key).enc (keys.iv ++ explicit) (aad seq typ payload.length) payload).length
      = payload.length + 16 := by
    simp only [sm4gcm, List.length_append, hl.1, hl.2]
  rw [decrypt_gcm_eq, hbody, List.take_left' he, List.drop_left' he, hlen, Nat.add_sub_cancel, hc]

end Props.C07
