/-
C14 / C13 / C01: byte-level codec theorems about `Model.SM2Codec` (models of `keXHat`, `Compress`,
`Decompress`, `CipherMarshal`, `CipherUnmarshal`) and about the strict DER parser of `Spec.DER`:
`keXHat_eq` (the byte-twiddling `keXHat` is x̄ = 2^127 + (x mod 2^127)); `cipher_asn1_roundtrip`,
`cipher_asn1_roundtrip_der` (`CipherUnmarshal ∘ CipherMarshal` is the identity below the 2^31-byte limit of
`encoding/asn1`); `compress_roundtrip`, `decompress_sound`, `decompress_eq_none_iff`; `der_canonical`,
`der_canonical_iff` (the strict signature parser accepts exactly the canonical DER of a non-negative pair).

The model's encoders are those of `Spec.DER` (`marshalLength_eq_spec` …), so everything about lengths and about
INTEGER contents is taken from `Proofs.DER`; what is proved here about `encoding/asn1` is that its parser reads
`Spec.DER` encodings back.
-/
import Gmsm.Model.SM2Codec
import Gmsm.Proofs.DER
import Gmsm.Proofs.SM2Cubic
import Mathlib.Tactic.Ring
namespace Props.C14Codec
open Gmsm Model.SM2Codec Spec.DER

theorem clearTopBitAt_append (hi : Bytes) (c : Byte) (t : Bytes) :
    clearTopBitAt hi.length (hi ++ c :: t) = hi ++ (c &&& 0x7f) :: t := by
  induction hi with
  | nil => rfl
  | cons h hs ih => simp only [List.length_cons, List.cons_append, clearTopBitAt, ih]

theorem and7f_toNat (c : Byte) : (c &&& 0x7f).toNat = c.toNat % 128 := by
  rw [BitVec.toNat_and]
  exact Nat.and_two_pow_sub_one_eq_mod c.toNat 7

theorem os2ip_twoW : os2ip twoW = 2 ^ 127 := by decide

theorem mod_split (A q L : Nat) (hL : L < A) : (q * A + L) % (A * 128) = q % 128 * A + L := by
  rw [Nat.mod_mul, Nat.mul_comm q A, Nat.mul_add_mod, Nat.mod_eq_of_lt hL, Nat.mul_add_div (Nat.zero_lt_of_lt hL),
    Nat.div_eq_of_lt hL, Nat.add_zero, Nat.add_comm, Nat.mul_comm]

/-- C13: for EVERY x ≥ 0 the Go `keXHat` — `x.Bytes()`, all but the last 16 bytes zeroed, the top
    bit of byte len−16 cleared (only when there are at least 16 bytes), plus 2^127 — is the standard's
    x̄ = 2^127 + (x mod 2^127) (`Spec.SM2.xbar`, w = 127); in particular for x shorter than 16 bytes. -/
theorem keXHat_eq (x : Nat) : keXHat x = Spec.SM2.xbar x := by
  unfold keXHat Spec.SM2.xbar
  rw [os2ip_twoW, Nat.add_comm]
  congr 1
  have hx := os2ip_natBytes x
  generalize natBytes x = buf at hx
  by_cases hn : buf.length ≥ 16
  · simp only [hn, if_true]
    unfold zeroLeading
    have hlo : (buf.drop (buf.length - 16)).length = 16 := by rw [List.length_drop]; omega
    have hv := os2ip_drop buf (buf.length - 16)
    rw [hx, show buf.length - (buf.length - 16) = 16 by omega] at hv
    generalize buf.drop (buf.length - 16) = lo at hlo hv
    cases lo with
    | nil => cases hlo
    | cons c t =>
      have ht : t.length = 15 := Nat.succ.inj hlo
      have hr := clearTopBitAt_append (List.replicate (buf.length - 16) (0 : Byte)) c t
      rw [List.length_replicate] at hr
      rw [hr, os2ip_replicate_zero_append, os2ip_cons, and7f_toNat, ht]
      rw [os2ip_cons, ht] at hv
      have hL := os2ip_lt_of_length ht
      generalize os2ip t = L at hv hL ⊢
      -- the last 16 bytes are x mod 256^16 = c·256^15 + L, and 2^127 = 256^15·128 divides 256^16
      rw [← Nat.mod_mod_of_dvd x (show 2 ^ 127 ∣ 256 ^ 16 from ⟨2, by decide⟩), ← hv,
        show (2 : Nat) ^ 127 = 256 ^ 15 * 128 by decide, mod_split _ _ _ hL]
  · simp only [hn, if_false]
    unfold zeroLeading
    have h0 : buf.length - 16 = 0 := by omega
    rw [h0]
    simp only [List.replicate_zero, List.nil_append, List.drop_zero]
    have hL := os2ip_lt buf
    have : 256 ^ buf.length ≤ 256 ^ 15 := Nat.pow_le_pow_right (by decide) (by omega)
    rw [hx] at hL ⊢
    exact (Nat.mod_eq_of_lt (Nat.lt_of_lt_of_le hL (Nat.le_trans this (by decide)))).symm

theorem marshalLength_eq_spec (n : Nat) : marshalLength n = encLen n := by
  unfold marshalLength encLen
  by_cases h : n < 128
  · rw [if_neg (by omega), if_pos h]
  · rw [if_pos (by omega), if_neg h]

theorem marshalTLV_eq_spec (tag : Byte) (c : Bytes) : marshalTLV tag c = tlv tag c := by
  unfold marshalTLV tlv; rw [marshalLength_eq_spec]

theorem marshalBigInt_eq_spec (v : Nat) : marshalBigInt v = intContent v := by
  unfold marshalBigInt intContent
  cases natBytes v <;> rfl

/-- on every input of at least 97 bytes `CipherMarshal` produces exactly
    `Spec.DER.encCipher` of the components the specification's `parseCt` extracts -/
theorem cipherMarshal_eq_spec (raw : Bytes) (h : 97 ≤ raw.length) :
    cipherMarshal raw =
      some (Spec.DER.encCipher (os2ip ((raw.drop 1).take 32)) (os2ip (((raw.drop 1).drop 32).take 32))
        (((raw.drop 1).drop 64).take 32) ((raw.drop 1).drop 96)) := by
  unfold cipherMarshal
  rw [if_neg (by omega)]
  simp only [Spec.DER.encCipher, Spec.DER.encSeq, Spec.DER.encInt, Spec.DER.encOctets, marshalTLV_eq_spec,
    marshalBigInt_eq_spec, List.flatten_cons, List.flatten_nil, List.append_nil, List.append_assoc]

theorem cipherMarshal_short (raw : Bytes) (h : raw.length < 97) : cipherMarshal raw = none := by
  unfold cipherMarshal; rw [if_pos (by omega)]

theorem parseLenLoop_spec (bs rest : Bytes) (acc : Nat) (h0 : acc = 0 → ∀ b t, bs = b :: t → b.toNat ≠ 0)
    (hlt : acc * 256 ^ bs.length + os2ip bs < 2 ^ 31) :
    parseLenLoop bs.length (bs ++ rest) acc = some (acc * 256 ^ bs.length + os2ip bs, rest) := by
  induction bs generalizing acc with
  | nil => simp [parseLenLoop, os2ip_nil]
  | cons b t ih =>
    rw [List.length_cons, List.cons_append]
    unfold parseLenLoop
    have h1 : acc * 256 ≤ acc * 256 ^ (t.length + 1) :=
      Nat.mul_le_mul_left _ (Nat.le_self_pow (Nat.succ_ne_zero _) 256)
    rw [List.length_cons] at hlt
    have h3 : ¬ (acc * 256 + b.toNat = 0) := fun hc => h0 (by omega) b t rfl (by omega)
    rw [if_neg (by omega)]
    simp only [h3, if_false]
    have e : (acc * 256 + b.toNat) * 256 ^ t.length + os2ip t = acc * 256 ^ (t.length + 1) + os2ip (b :: t) := by
      rw [os2ip_cons, Nat.pow_succ]; ring
    rw [ih (acc * 256 + b.toNat) (fun hc => absurd hc h3) (by rw [e]; exact hlt), e]

/-- the long form, for any digit string `ds` with the properties of `natBytes n`, 128 ≤ n < 2^31 -/
theorem parseLength_long (ds rest : Bytes) (hl : ds.length ≤ 4) (hd : ∀ b t, ds = b :: t → b.toNat ≠ 0)
    (hv : 128 ≤ os2ip ds) (h31 : os2ip ds < 2 ^ 31) :
    parseLength (BitVec.ofNat 8 (0x80 + ds.length) :: (ds ++ rest)) = some (os2ip ds, rest) := by
  have hpos : 0 < ds.length := by
    cases ds with
    | nil => rw [os2ip_nil] at hv; omega
    | cons b t => exact Nat.succ_pos _
  unfold parseLength
  simp only [toNat_ofNat8 (0x80 + ds.length) (by omega)]
  have e : 128 + ds.length - 128 = ds.length := by omega
  rw [if_neg (by omega), e, if_neg (by omega), parseLenLoop_spec ds rest 0 (fun _ => hd) (by omega)]
  simp only [Nat.zero_mul, Nat.zero_add]
  rw [if_neg (by omega)]

theorem parseLength_encLen (n : Nat) (h : n < 2 ^ 31) (rest : Bytes) :
    parseLength (encLen n ++ rest) = some (n, rest) := by
  unfold encLen
  by_cases h0 : n < 128
  · rw [if_pos h0, List.singleton_append]
    unfold parseLength
    simp only [toNat_ofNat8 n (by omega)]
    rw [if_pos h0]
  · rw [if_neg h0]
    have := parseLength_long (natBytes n) rest (natBytes_length_le4 n (by omega)) (natBytes_head_ne_zero n)
      (by rw [os2ip_natBytes]; omega) (by rw [os2ip_natBytes]; exact h)
    rw [os2ip_natBytes] at this
    exact this

theorem parseLength_marshalLength (n : Nat) (h : n < 2 ^ 31) (rest : Bytes) :
    parseLength (marshalLength n ++ rest) = some (n, rest) := by
  rw [marshalLength_eq_spec]; exact parseLength_encLen n h rest

theorem parseField_tlv (tag : Byte) (c rest : Bytes) (h : c.length < 2 ^ 31) :
    parseField tag (tlv tag c ++ rest) = some (c, rest) := by
  unfold tlv parseField
  simp only [List.cons_append, List.append_assoc]
  rw [parseLength_encLen _ h]
  simp

theorem parseBigInt_one (x : Byte) :
    parseBigInt [x] = some (if x.toNat ≥ 128 then -((os2ip [~~~x] : Nat) + 1 : Int) else (x.toNat : Int)) := rfl

theorem parseBigInt_two (x y : Byte) (rest : Bytes) :
    parseBigInt (x :: y :: rest) =
      if (x.toNat = 0 ∧ y.toNat < 128) ∨ (x.toNat = 255 ∧ y.toNat ≥ 128) then none
      else if x.toNat ≥ 128 then some (-((os2ip ((x :: y :: rest).map (~~~ ·)) : Nat) + 1 : Int))
      else some ((os2ip (x :: y :: rest) : Nat) : Int) := rfl

theorem parseBigInt_of_isIntContent {c : Bytes} (h : IsIntContent c) : parseBigInt c = some (os2ip c : Int) := by
  match c, h with
  | [x], h => rw [parseBigInt_one, if_neg (Nat.not_le.mpr h), os2ip_singleton]
  | x :: y :: rest, ⟨hx, hz⟩ => rw [parseBigInt_two, if_neg (by omega), if_neg (Nat.not_le.mpr hx)]

theorem parseBigInt_intContent (v : Nat) : parseBigInt (intContent v) = some (v : Int) := by
  rw [parseBigInt_of_isIntContent (isIntContent_intContent v), os2ip_intContent]

theorem leftPad32_length (b : Bytes) (h : b.length ≤ 32) : (leftPad32 b).length = 32 := by
  unfold leftPad32
  split
  · simp; omega
  · omega

theorem os2ip_leftPad32 (b : Bytes) : os2ip (leftPad32 b) = os2ip b := by
  unfold leftPad32
  split
  · exact os2ip_replicate_zero_append _ _
  · rfl

theorem leftPad32_natBytes_os2ip (X : Bytes) (h : X.length = 32) : leftPad32 (natBytes (os2ip X)) = X := by
  apply eq_of_os2ip_eq
  · rw [leftPad32_length _ (natBytes_length_le _ 32 (os2ip_lt_of_length h)), h]
  · rw [os2ip_leftPad32, os2ip_natBytes]

theorem leftPad32_natBytes (v : Nat) (h : v < 256 ^ 32) : leftPad32 (natBytes v) = Spec.SM2.b32 v :=
  eq_i2ospR_of (leftPad32_length _ (natBytes_length_le _ 32 h))
    (by rw [os2ip_leftPad32, os2ip_natBytes, Nat.mod_eq_of_lt h])

/-- `CipherUnmarshal` reads the DER form of (x, y, H, C) — coordinates below 2^256, a 32-byte H — back as
    04 ‖ x ‖ y ‖ H ‖ C, whenever the DER form is shorter than 2^31 bytes (what `parseTagAndLength` accepts);
    bytes after the SEQUENCE are ignored -/
theorem cipherUnmarshal_encCipher (x y : Nat) (H C junk : Bytes) (hx : x < 256 ^ 32) (hy : y < 256 ^ 32)
    (hH : H.length = 32) (hl : (encCipher x y H C).length < 2 ^ 31) :
    cipherUnmarshal (encCipher x y H C ++ junk) =
      some (0x04 :: (leftPad32 (natBytes x) ++ leftPad32 (natBytes y) ++ H ++ C)) := by
  unfold encCipher encSeq at hl ⊢
  simp only [List.flatten_cons, List.flatten_nil, List.append_nil] at hl ⊢
  have hbody := Nat.lt_trans (length_lt_tlv 0x30 _) hl
  have hC : C.length < 2 ^ 31 := by
    have := length_lt_tlv 0x04 C
    simp only [List.length_append, encOctets] at hbody
    omega
  have ix := intContent_length x hx
  have iy := intContent_length y hy
  have lx := natBytes_length_le x 32 hx
  have ly := natBytes_length_le y 32 hy
  unfold cipherUnmarshal
  rw [parseField_tlv 0x30 _ junk hbody]
  unfold encInt encOctets
  simp only
  rw [parseField_tlv 0x02 _ _ (by omega)]
  simp only [parseBigInt_intContent]
  rw [parseField_tlv 0x02 _ _ (by omega)]
  simp only [parseBigInt_intContent]
  rw [parseField_tlv 0x04 _ _ (by omega)]
  have h2 := parseField_tlv 0x04 C [] hC
  rw [List.append_nil] at h2
  simp only [h2, Int.natAbs_natCast]
  rw [if_neg (by omega)]

theorem encCipher_length_le (x y : Nat) (H C : Bytes) (hx : x < 256 ^ 32) (hy : y < 256 ^ 32) (hH : H.length = 32)
    (hC : C.length + 110 < 2 ^ 31) : (encCipher x y H C).length ≤ C.length + 116 := by
  have := encInt_length_le x hx
  have := encInt_length_le y hy
  have := tlv_length_short 0x04 H (by omega)
  have := tlv_length_le 0x04 C (by omega)
  unfold encCipher encSeq encOctets
  simp only [List.flatten_cons, List.flatten_nil, List.append_nil]
  have hb : (encInt x ++ (encInt y ++ (tlv 0x04 H ++ tlv 0x04 C))).length ≤ C.length + 110 := by
    simp only [List.length_append]; omega
  have := tlv_length_le 0x30 _ (Nat.lt_of_le_of_lt hb (by omega))
  omega

theorem cipherMarshal_parts (X Y H C : Bytes) (hX : X.length = 32) (hY : Y.length = 32) (hH : H.length = 32) :
    cipherMarshal (0x04 :: (X ++ (Y ++ (H ++ C)))) = some (encCipher (os2ip X) (os2ip Y) H C) := by
  rw [cipherMarshal_eq_spec _ (by simp only [List.length_cons, List.length_append]; omega)]
  simp only [List.drop_succ_cons, List.drop_zero]
  have d1 : (X ++ (Y ++ (H ++ C))).drop 32 = Y ++ (H ++ C) := List.drop_left' hX
  have d2 : (X ++ (Y ++ (H ++ C))).drop 64 = H ++ C := by
    rw [show 64 = 32 + 32 from rfl, ← List.drop_drop, d1, List.drop_left' hY]
  have d3 : (X ++ (Y ++ (H ++ C))).drop 96 = C := by
    rw [show 96 = 64 + 32 from rfl, ← List.drop_drop, d2, List.drop_left' hH]
  rw [List.take_left' hX, d1, d2, d3, List.take_left' hY, List.take_left' hH]

theorem raw_split (raw : Bytes) (h : 97 ≤ raw.length) (h4 : raw.head? = some 0x04) :
    raw = 0x04 :: ((raw.drop 1).take 32 ++ (((raw.drop 1).drop 32).take 32 ++
      ((((raw.drop 1).drop 64).take 32) ++ (raw.drop 1).drop 96))) := by
  cases raw with
  | nil => simp at h4
  | cons b d =>
    simp only [List.head?_cons, Option.some.injEq] at h4
    subst h4
    simp only [List.drop_succ_cons, List.drop_zero]
    congr 1
    have e1 : d.drop 64 = (d.drop 32).drop 32 := by rw [List.drop_drop]
    have e2 : d.drop 96 = ((d.drop 32).drop 32).drop 32 := by rw [List.drop_drop, List.drop_drop]
    rw [e2, e1, List.take_append_drop, List.take_append_drop, List.take_append_drop]

theorem raw_parts_length (raw : Bytes) (h : 97 ≤ raw.length) :
    ((raw.drop 1).take 32).length = 32 ∧ (((raw.drop 1).drop 32).take 32).length = 32 ∧
      (((raw.drop 1).drop 64).take 32).length = 32 ∧ ((raw.drop 1).drop 96).length = raw.length - 97 := by
  simp only [List.length_take, List.length_drop]; omega

/-- whenever `CipherMarshal(raw)` (raw starting with 04)
    returns `der` with fewer than 2^31 bytes (the largest element `encoding/asn1` parses),
    `CipherUnmarshal(der ‖ junk)` returns `raw` — for every `junk`: bytes after the SEQUENCE are ignored. -/
theorem cipher_asn1_roundtrip_der (raw der junk : Bytes) (h4 : raw.head? = some 0x04)
    (hm : cipherMarshal raw = some der) (hl : der.length < 2 ^ 31) : cipherUnmarshal (der ++ junk) = some raw := by
  have h : 97 ≤ raw.length := by
    apply Nat.le_of_not_lt; intro hc; rw [cipherMarshal_short raw hc] at hm; cases hm
  obtain ⟨hX, hY, hH, _⟩ := raw_parts_length raw h
  rw [cipherMarshal_eq_spec raw h] at hm
  rw [← Option.some.inj hm] at hl ⊢
  rw [cipherUnmarshal_encCipher _ _ _ _ junk (os2ip_lt_of_length hX) (os2ip_lt_of_length hY) hH hl,
    leftPad32_natBytes_os2ip _ hX, leftPad32_natBytes_os2ip _ hY]
  conv_rhs => rw [raw_split raw h h4]
  simp only [List.append_assoc]

/-- for EVERY raw ciphertext `raw` = 04 ‖ x(32) ‖ y(32) ‖ C3(32) ‖ C2 (at least 97
    bytes, first byte 04; no condition on the coordinates: leading zero bytes and a set top bit are
    covered) of fewer than 2^31 − 19 bytes, `CipherUnmarshal(CipherMarshal(raw))` succeeds and returns
    `raw`. -/
theorem cipher_asn1_roundtrip (raw : Bytes) (h : 97 ≤ raw.length) (h4 : raw.head? = some 0x04)
    (hl : raw.length + 19 < 2 ^ 31) :
    (cipherMarshal raw).bind cipherUnmarshal = some raw := by
  have hm := cipherMarshal_eq_spec raw h
  obtain ⟨hX, hY, hH, hC⟩ := raw_parts_length raw h
  have hd := encCipher_length_le _ _ _ ((raw.drop 1).drop 96) (os2ip_lt_of_length hX) (os2ip_lt_of_length hY) hH
    (by omega)
  have := cipher_asn1_roundtrip_der raw _ [] h4 hm (by omega)
  rw [List.append_nil] at this
  rw [hm, Option.bind_some, this]

/-- the round trip in the shape the encryption specification produces (`Spec.SM2.encryptWith … .c1c3c2`): for every
    point coordinates x, y < 2^256 (in particular x < 2^248: leading zero bytes; x ≥ 2^255: a 00 is
    prepended in DER), 32-byte C3 and C2 of fewer than 2^31 − 116 bytes, the ASN.1 form is
    `Spec.DER.encCipher x y C3 C2` and reading it back gives the raw ciphertext again. -/
theorem cipher_asn1_roundtrip_xy (x y : Nat) (c3 c2 : Bytes) (hx : x < 256 ^ 32) (hy : y < 256 ^ 32)
    (h3 : c3.length = 32) (h2 : c2.length + 116 < 2 ^ 31) :
    cipherMarshal (0x04 :: (Spec.SM2.b32 x ++ Spec.SM2.b32 y ++ c3 ++ c2)) = some (Spec.DER.encCipher x y c3 c2) ∧
    cipherUnmarshal (Spec.DER.encCipher x y c3 c2) = some (0x04 :: (Spec.SM2.b32 x ++ Spec.SM2.b32 y ++ c3 ++ c2)) := by
  have lX : (Spec.SM2.b32 x).length = 32 := i2ospR_length 32 x
  have lY : (Spec.SM2.b32 y).length = 32 := i2ospR_length 32 y
  constructor
  · simp only [List.append_assoc]
    rw [cipherMarshal_parts _ _ _ _ lX lY h3]
    unfold Spec.SM2.b32
    rw [os2ip_i2ospR_of_lt 32 x hx, os2ip_i2ospR_of_lt 32 y hy]
  · have hd := encCipher_length_le x y c3 c2 hx hy h3 (by omega)
    have := cipherUnmarshal_encCipher x y c3 c2 [] hx hy h3 (by omega)
    rwa [List.append_nil, leftPad32_natBytes x hx, leftPad32_natBytes y hy] at this

/-- x with three leading zero bytes, y with the top bit set, a C2 long enough for the long
    length form (200 bytes) -/
example : (cipherMarshal (0x04 :: (Spec.SM2.b32 0x1234 ++ Spec.SM2.b32 (2 ^ 255 + 1) ++ List.replicate 32 0xaa ++ List.replicate 200 0xbb))).bind
    cipherUnmarshal = some (0x04 :: (Spec.SM2.b32 0x1234 ++ Spec.SM2.b32 (2 ^ 255 + 1) ++ List.replicate 32 0xaa ++ List.replicate 200 0xbb)) := by
  decide +kernel

set_option exponentiation.threshold 700
open Spec.SM2 (p a b onCurve powMod)
open Proofs.SM2Affine (F p_pos p_gt2 p_lt cast_inj powMod_cast powMod_lt)

theorem p_odd : p % 2 = 1 := by decide
theorem exp_half : (p - 1) / 2 * 2 = p - 1 := by decide
theorem exp_quarter : (p + 1) / 4 * 2 = (p - 1) / 2 + 1 := by decide
theorem exp_half_lt : (p - 1) / 2 < 2 ^ 600 := Nat.lt_of_le_of_lt (Nat.div_le_self _ _) (Nat.lt_of_le_of_lt (Nat.sub_le _ _) p_lt)
theorem exp_quarter_lt : (p + 1) / 4 < 2 ^ 600 :=
  Nat.lt_of_le_of_lt (Nat.div_le_of_le_mul (by have := p_pos; omega)) p_lt

theorem rhs_lt (x : Nat) : rhs x < p := Nat.mod_lt _ p_pos

theorem rhs_cast (x : Nat) : ((rhs x : Nat) : F) = (x : F) ^ 3 + (a : F) * (x : F) + (b : F) := by
  unfold rhs
  simp only [ZMod.natCast_mod, Nat.cast_add, Nat.cast_mul]
  ring

theorem natCast_eq_iff_of_lt {u v : Nat} (hu : u < p) (hv : v < p) : ((u : F) = (v : F)) ↔ u = v :=
  ⟨cast_inj hu hv, fun h => by rw [h]⟩

theorem onCurve_iff_rhs (x y : Nat) : onCurve x y = true ↔ ((y : F) ^ 2 = ((rhs x : Nat) : F)) := by
  rw [Proofs.SM2Affine.onCurve_iff, Proofs.ECFormulas.equation_iff_onCurve Proofs.SM2Affine.W_short,
    Proofs.ECFormulas.OnCurve, rhs_cast]

theorem modSqrt_sound (v y : Nat) (h : modSqrt v = some y) : y < p ∧ ((y : F) ^ 2 = (v : F)) := by
  revert h
  fun_cases modSqrt v <;> intro h
  case case1 h0 =>
    cases h
    exact ⟨p_pos, by
      rw [Nat.cast_zero, zero_pow two_ne_zero, (ZMod.natCast_eq_zero_iff v p).mpr (Nat.dvd_of_mod_eq_zero h0)]⟩
  case case2 => cases h
  case case3 h0 h1 =>
    rw [← Option.some.inj h]
    have c1 := powMod_cast v ((p - 1) / 2) p exp_half_lt
    rw [Classical.not_not.mp h1, Nat.cast_one] at c1
    refine ⟨powMod_lt _ _ _ (by have := p_gt2; omega), ?_⟩
    rw [powMod_cast v ((p + 1) / 4) p exp_quarter_lt, ← pow_mul, exp_quarter, pow_succ, ← c1, one_mul]

theorem modSqrt_none (v : Nat) (h : modSqrt v = none) (y : Nat) : (y : F) ^ 2 ≠ (v : F) := by
  intro hy
  revert h
  fun_cases modSqrt v <;> intro h
  case case2 h0 h1 =>
    apply h1
    have hv0 : (v : F) ≠ 0 := fun hc => h0 (Nat.mod_eq_zero_of_dvd ((ZMod.natCast_eq_zero_iff v p).mp hc))
    have hy0 : (y : F) ≠ 0 := by
      intro hc; apply hv0; rw [← hy, hc]; simp
    -- Fermat: v^((p-1)/2) = y^(p-1) = 1
    have c1 := powMod_cast v ((p - 1) / 2) p exp_half_lt
    rw [← hy, ← pow_mul, Nat.mul_comm, exp_half, ZMod.pow_card_sub_one_eq_one hy0, ← Nat.cast_one] at c1
    exact cast_inj (powMod_lt _ _ _ (by have := p_gt2; omega)) (by have := p_gt2; omega) c1
  all_goals cases h

theorem sqrt_unique (y0 y : Nat) (h0 : y0 < p) (hy : y < p) (h : (y0 : F) ^ 2 = (y : F) ^ 2) :
    y0 = y ∨ y0 + y = p := by
  have hm : ((y0 : F) - (y : F)) * ((y0 : F) + (y : F)) = 0 := by linear_combination h
  rcases mul_eq_zero.mp hm with h1 | h1
  · left; exact cast_inj h0 hy (sub_eq_zero.mp h1)
  · -- p divides y0 + y < 2p
    have h2 : p ∣ y0 + y := (ZMod.natCast_eq_zero_iff _ p).mp (by push_cast; exact h1)
    by_cases hz : y0 + y = 0
    · left; omega
    · right; exact Nat.eq_of_dvd_of_lt_two_mul hz h2 (by omega)

theorem rhs_cast_ne_zero (x : Nat) : ((rhs x : Nat) : F) ≠ 0 := by
  rw [rhs_cast]; exact Proofs.SM2Jacobian.cubic_no_root (x : F)

/-- no point of the SM2 curve has y ≡ 0 (mod p) (there is no point of order 2);
    so `Decompress` never takes the `ModSqrt = 0` branch and `p − y` is never p. -/
theorem no_point_with_y_zero (x y : Nat) (h : onCurve x y = true) : y % p ≠ 0 := by
  intro hy
  have hc := (onCurve_iff_rhs x y).mp h
  have hy0 : (y : F) = 0 := by
    rw [ZMod.natCast_eq_zero_iff]; exact Nat.dvd_of_mod_eq_zero hy
  rw [hy0] at hc
  exact rhs_cast_ne_zero x (by rw [← hc]; simp)

theorem decompress_cons (pre : Byte) (xs : Bytes) :
    decompress (pre :: xs) =
      if (pre :: xs).length ≠ 33 ∨ pre.toNat > 3 then none
      else if os2ip xs ≥ p then none
      else (modSqrt (rhs (os2ip xs))).map fun y => (os2ip xs, if y % 2 ≠ pre.toNat % 2 then p - y else y) := by
  simp only [decompress]
  cases modSqrt (rhs (os2ip xs)) <;> rfl

theorem parity_ne_of_add_odd {m u v : Nat} (hm : m % 2 = 1) (h : u + v = m) : u % 2 ≠ v % 2 := by omega

theorem parity_fix {m y0 q : Nat} (hm : m % 2 = 1) (h0 : y0 < m) (hne : y0 ≠ 0) :
    (if y0 % 2 ≠ q % 2 then m - y0 else y0) < m ∧ (if y0 % 2 ≠ q % 2 then m - y0 else y0) % 2 = q % 2 := by
  by_cases hc : y0 % 2 ≠ q % 2
  · rw [if_pos hc]
    -- y0 and m − y0 differ in parity, and so do y0 and q
    have hd := parity_ne_of_add_odd hm (Nat.add_sub_cancel' (Nat.le_of_lt h0))
    refine ⟨Nat.sub_lt (Nat.zero_lt_of_lt h0) (Nat.pos_of_ne_zero hne), ?_⟩
    generalize m - y0 = d at hd ⊢
    omega
  · rw [if_neg hc]
    exact ⟨h0, Classical.not_not.mp hc⟩

theorem sq_parity_fix {y0 : Nat} (h0 : y0 ≤ p) (c : Prop) [Decidable c] :
    (((if c then p - y0 else y0 : Nat)) : F) ^ 2 = (y0 : F) ^ 2 := by
  split
  · rw [Proofs.SM2Jacobian.cast_p_sub _ h0]; ring
  · rfl

/-- whatever `Decompress` returns for the input `a` — a 33-byte string whose first byte
    is at most 3 — is a point of the curve with reduced coordinates, whose x is the number in a[1:] and whose
    y has the parity bit a[0] & 1. -/
theorem decompress_sound (a : Bytes) (x y : Nat) (h : decompress a = some (x, y)) :
    a.length = 33 ∧ (a.headD 0).toNat ≤ 3 ∧ x = os2ip a.tail ∧ x < p ∧ y < p ∧ y % 2 = (a.headD 0).toNat % 2 ∧
      onCurve x y = true := by
  cases a with
  | nil => cases h
  | cons pre xs =>
    rw [decompress_cons] at h
    by_cases c1 : (pre :: xs).length ≠ 33 ∨ pre.toNat > 3
    · rw [if_pos c1] at h; cases h
    · rw [if_neg c1] at h
      by_cases c2 : os2ip xs ≥ p
      · rw [if_pos c2] at h; cases h
      · rw [if_neg c2] at h
        cases hs : modSqrt (rhs (os2ip xs)) with
        | none => rw [hs] at h; cases h
        | some y0 =>
          rw [hs] at h
          simp only [Option.map_some, Option.some.injEq, Prod.mk.injEq] at h
          obtain ⟨hx, hy⟩ := h
          obtain ⟨hy0, hsq⟩ := modSqrt_sound _ _ hs
          -- the root is not 0 (so p − y0 is reduced as well): the curve has no point with y = 0
          have hne : y0 ≠ 0 := fun hc => rhs_cast_ne_zero _ (by rw [← hsq, hc]; simp)
          obtain ⟨f1, f2⟩ := parity_fix (q := pre.toNat) p_odd hy0 hne
          rw [hy] at f1 f2
          refine ⟨Classical.not_not.mp fun hc => c1 (Or.inl hc), Nat.le_of_not_lt fun hc => c1 (Or.inr hc), hx.symm,
            hx ▸ Nat.lt_of_not_le c2, f1, f2, ?_⟩
          rw [onCurve_iff_rhs, ← hx, ← hsq, ← hy]
          exact sq_parity_fix (Nat.le_of_lt hy0) _

/-- the point is determined by the input: two accepted inputs with the same x bytes and the same parity bit
    give the same point, and `Compress` of the result restores the canonical 0/1 form -/
theorem compress_decompress (a : Bytes) (x y : Nat) (h : decompress a = some (x, y)) :
    compress x y = BitVec.ofNat 8 ((a.headD 0).toNat % 2) :: a.tail := by
  obtain ⟨h1, _, h3, _, _, h6, _⟩ := decompress_sound a x y h
  unfold compress
  rw [h6, h3]
  cases a with
  | nil => simp at h1
  | cons pre xs =>
    simp only [List.tail_cons, List.headD_cons]
    rw [leftPad32_natBytes_os2ip xs (by simpa using h1)]

/-- any accepted prefix byte (0/1 as written by `Compress`, or the standard's 02/03) with the parity of
    y, followed by the 32-byte x coordinate, decompresses to (x, y) -/
theorem decompress_of_parity (pre : Byte) (x y : Nat) (hx : x < p) (hy : y < p) (h : onCurve x y = true)
    (hpre : pre.toNat ≤ 3) (hpar : pre.toNat % 2 = y % 2) :
    decompress (pre :: leftPad32 (natBytes x)) = some (x, y) := by
  have hx32 : x < 256 ^ 32 := Nat.lt_trans hx (by decide)
  have hl : (leftPad32 (natBytes x)).length = 32 := leftPad32_length _ (natBytes_length_le x 32 hx32)
  have hv : os2ip (leftPad32 (natBytes x)) = x := by rw [os2ip_leftPad32, os2ip_natBytes]
  rw [decompress_cons, hv, List.length_cons, hl, if_neg (fun hc => hc.elim (fun hn => hn rfl) (Nat.not_lt.mpr hpre)),
    if_neg (Nat.not_le.mpr hx)]
  have hc := (onCurve_iff_rhs x y).mp h
  cases hs : modSqrt (rhs x) with
  | none => exact absurd hc (modSqrt_none _ hs y)
  | some y0 =>
    obtain ⟨hy0, hsq⟩ := modSqrt_sound _ _ hs
    simp only [Option.map_some, Option.some.injEq, Prod.mk.injEq, true_and]
    rcases sqrt_unique y0 y hy0 hy (by rw [hsq, hc]) with e | e
    · rw [e, if_neg (fun hn => hn hpar.symm)]
    · -- y0 = p − y: the parities differ
      rw [if_pos (hpar ▸ parity_ne_of_add_odd p_odd e)]
      exact Nat.sub_eq_of_eq_add (by rw [Nat.add_comm]; exact e.symm)

/-- for every point (x, y) of the curve with reduced coordinates,
    `Decompress(Compress(x, y))` is (x, y). -/
theorem compress_roundtrip (x y : Nat) (hx : x < p) (hy : y < p) (h : onCurve x y = true) :
    decompress (compress x y) = some (x, y) := by
  unfold compress
  have h2 : y % 2 < 2 := Nat.mod_lt y (by decide)
  have ht := toNat_ofNat8 (y % 2) (Nat.lt_trans h2 (by decide))
  exact decompress_of_parity _ x y hx hy h (by rw [ht]; exact Nat.le_of_lt (Nat.lt_trans h2 (by decide)))
    (by rw [ht, Nat.mod_mod])

/-- the compressed form is 33 bytes: parity byte, then `b32 x` -/
theorem compress_eq (x y : Nat) (hx : x < 256 ^ 32) : compress x y = BitVec.ofNat 8 (y % 2) :: Spec.SM2.b32 x := by
  unfold compress; rw [leftPad32_natBytes x hx]

/-- `Decompress` returns nil exactly for: a length other than 33, a first byte
    above 3, x ≥ p, or an x for which no reduced y satisfies the curve equation. -/
theorem decompress_eq_none_iff (a : Bytes) :
    decompress a = none ↔
      (a.length ≠ 33 ∨ (a.headD 0).toNat > 3 ∨ os2ip a.tail ≥ p ∨ ∀ y, y < p → onCurve (os2ip a.tail) y = false) := by
  cases a with
  | nil => simp [decompress]
  | cons pre xs =>
    rw [decompress_cons]
    simp only [List.headD_cons, List.tail_cons]
    by_cases c1 : (pre :: xs).length ≠ 33 ∨ pre.toNat > 3
    · rw [if_pos c1]
      constructor
      · intro _; rcases c1 with c | c
        · exact Or.inl c
        · exact Or.inr (Or.inl c)
      · intro _; rfl
    · rw [if_neg c1]
      by_cases c2 : os2ip xs ≥ p
      · rw [if_pos c2]
        exact ⟨fun _ => Or.inr (Or.inr (Or.inl c2)), fun _ => rfl⟩
      · rw [if_neg c2]
        cases hs : modSqrt (rhs (os2ip xs)) with
        | none =>
          simp only [Option.map_none, true_iff]
          refine Or.inr (Or.inr (Or.inr fun y _ => ?_))
          cases ho : onCurve (os2ip xs) y with
          | false => rfl
          | true => exact absurd ((onCurve_iff_rhs _ _).mp ho) (modSqrt_none _ hs y)
        | some y0 =>
          obtain ⟨hy0, hsq⟩ := modSqrt_sound _ _ hs
          simp only [Option.map_some, reduceCtorEq, false_iff]
          intro hc
          rcases hc with c | c | c | c
          · exact c1 (Or.inl c)
          · exact c1 (Or.inr c)
          · exact c2 c
          · have := c y0 hy0
            rw [(onCurve_iff_rhs _ _).mpr hsq] at this
            cases this

/-- if the strict parser accepts `sig` as the pair (r, s) of non-negative integers, then
    `sig` is byte for byte the DER encoding `encSig r s` — definite minimal lengths, minimal INTEGER contents,
    nothing before, between or after the elements.  No bound on r, s or on the lengths. -/
theorem der_canonical (sig : Bytes) (r s : Int) (h : decSig sig = some (r, s)) (hr : 0 ≤ r) (hs : 0 ≤ s) :
    encSig r.toNat s.toNat = sig := by
  obtain ⟨body, rc, rest, sc, h30, hrc, hsc, hr0, hs0⟩ := decSig_some h
  rw [decTLV_canonical _ _ _ _ h30, decTLV_canonical _ _ _ _ hrc, decTLV_canonical _ _ _ _ hsc,
    decIntContent_canonical _ _ hr0 hr, decIntContent_canonical _ _ hs0 hs]
  unfold encSig encSeq encInt
  simp only [List.flatten_cons, List.flatten_nil, List.append_nil]

/-- two byte strings that the strict parser maps to the same non-negative pair are
    equal (the accepted encoding is not malleable) -/
theorem der_unique (b1 b2 : Bytes) (r s : Int) (h1 : decSig b1 = some (r, s)) (h2 : decSig b2 = some (r, s))
    (hr : 0 ≤ r) (hs : 0 ≤ s) : b1 = b2 := by
  rw [← der_canonical b1 r s h1 hr hs, ← der_canonical b2 r s h2 hr hs]

/-- the converse direction without the 2^256 bound of `Props.C01.der_roundtrip`: the canonical encoding of
    any pair whose encoding is shorter than 2^32 bytes is accepted as that pair; together with `der_canonical`:
    `decSig sig = some (r, s)` ⇔ `sig = encSig r s`. -/
theorem der_canonical_iff (sig : Bytes) (r s : Nat) (hl : sig.length < 2 ^ 32) :
    decSig sig = some ((r : Int), (s : Int)) ↔ sig = encSig r s := by
  constructor
  · intro h
    have := der_canonical sig r s h (Int.natCast_nonneg r) (Int.natCast_nonneg s)
    simpa using this.symm
  · intro h
    subst h
    exact decSig_encSig r s hl

open Spec.SM2 (gx gy)

/-- `keXHat`: short x (fewer than 16 bytes), bit 127 set, more than 16 bytes -/
example : keXHat 0x1234 = 2 ^ 127 + 0x1234 ∧ keXHat (2 ^ 127 + 5) = 2 ^ 127 + 5 ∧
    keXHat (2 ^ 255 + 2 ^ 128 + 2 ^ 127 + 7) = 2 ^ 127 + 7 := by decide +kernel

/-- the base point, both parities, Compress's 0/1 prefix and the standard's 02/03 prefix -/
example : decompress (compress gx gy) = some (gx, gy) ∧ decompress (compress gx (p - gy)) = some (gx, p - gy) ∧
    decompress (0x02 :: Spec.SM2.b32 gx) = some (gx, gy) ∧ decompress (0x03 :: Spec.SM2.b32 gx) = some (gx, p - gy) ∧
    decompress (0x04 :: Spec.SM2.b32 gx) = none ∧ decompress (0x00 :: Spec.SM2.b32 p) = none ∧
    decompress (0x00 :: Spec.SM2.b32 2) = none := by
  decide +kernel

/-- an accepted signature, and the same pair with a non-minimal INTEGER or length is rejected -/
example : decSig [0x30, 0x06, 0x02, 0x01, 0x05, 0x02, 0x01, 0x07] = some (5, 7) ∧
    decSig [0x30, 0x07, 0x02, 0x02, 0x00, 0x05, 0x02, 0x01, 0x07] = none ∧
    decSig [0x30, 0x81, 0x06, 0x02, 0x01, 0x05, 0x02, 0x01, 0x07] = none := by decide +kernel

/-! General facts of `Proofs.BytesNat` and `Proofs.DER`, under the names by which `props.py` lists them for C01 and
C14. -/

theorem os2ip_inj (a b : Bytes) (hl : a.length = b.length) (h : os2ip a = os2ip b) : a = b :=
  eq_of_os2ip_eq a b hl h

theorem decLen_encLen_all (n : Nat) (h : n < 2 ^ 32) (rest : Bytes) : decLen (encLen n ++ rest) = some (n, rest) :=
  decLen_encLen n h rest

theorem der_roundtrip_all (r s : Nat) (hl : (encSig r s).length < 2 ^ 32) :
    decSig (encSig r s) = some ((r : Int), (s : Int)) :=
  decSig_encSig r s hl

end Props.C14Codec
