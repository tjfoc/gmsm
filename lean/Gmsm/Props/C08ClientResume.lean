/-
C08, client side of session resumption: a client with verification enabled completes an ABBREVIATED handshake
only from a cached session that carries a verified chain and whose end-entity certificates are, at the
configured time and for the configured ServerName, what a full handshake would also require of them.

Theorems about `Model.ClientResume` (`clientHandshake`'s offer gate `sessionServerCertsAcceptable` - the repair -
and the abbreviated handshake of `processServerHello`).  Before the repair the gate was `offerGateOld` alone and
`client_resumes_only_verified` was false (`old_gate_witness`).
-/
import Gmsm.Model.ClientResume
import Gmsm.Props.C08
namespace Props.C08ClientResume
open Model Model.HandshakeAuth Model.ClientResume

theorem leafAcceptable_iff (o : X509.Opts) (l : X509.Cert) :
    leafAcceptable o l = true ↔ (l.nb ≤ o.now ∧ o.now ≤ l.na) ∧ X509.verifyHostname l o = true := by
  simp only [leafAcceptable, Bool.and_eq_true, Bool.not_eq_true', Bool.or_eq_false_iff, decide_eq_false_iff_not,
    Int.not_lt]

/-- the gate's tests on a leaf (validity period, host name) are the two `Certificate.Verify` makes on the leaf itself
    before it builds chains: `isValid(leaf)` passes and the host name matches -/
theorem leafAcceptable_isValid (o : X509.Opts) (l : X509.Cert) (h : leafAcceptable o l = true) :
    X509.isValid l .leaf [] o = none := by
  refine (Props.C10.isValid_eq_none_iff l .leaf [] o).mpr
    ⟨(fun _ hc => nomatch hc), ((leafAcceptable_iff o l).1 h).1, fun hk => absurd rfl hk, nofun, fun _ hp => ?_⟩
  -- a path-length limit ≥ 0 is not exceeded by the -1 intermediates of a chain that is just the leaf
  rw [List.length_nil]
  omega

theorem certsAcceptable_verifying (c : Client) (s : CSess) (hv : c.insecureSkipVerify = false)
    (h : certsAcceptable c s = true) :
    s.chains ≠ [] ∧ s.certs ≠ [] ∧ ∀ l ∈ leaves s, leafAcceptable c.opts l = true := by
  simp only [certsAcceptable, hv, Bool.false_or, Bool.and_eq_true, Bool.not_eq_true', List.isEmpty_eq_false_iff,
    List.all_eq_true] at h
  exact ⟨h.1.1, h.1.2, h.2⟩

theorem attempt_resumed (k : Conf) (cache : Option CSess) (r : Reply) (s : CSess)
    (h : attempt k cache r = .resumed s) : cache = some s ∧ offerGate k s = true := by
  unfold attempt at h
  split at h
  · cases h
  · rename_i t ho
    split at h
    · cases h
    · split at h
      · cases h
      · cases h; exact Option.filter_eq_some_iff.mp ho

/-- **The repaired behaviour.**  If the client completes an abbreviated handshake under a verifying policy, the
    session it resumed (whose certificates and chains the connection reports) is the cached one, has a verified
    chain, and each of its end-entity certificates (TLS: the leaf; GMSSL: signing and encryption certificate) is
    inside its validity period at `Config.Time()`, valid for `Config.ServerName`, and passes the leaf tests of
    `Certificate.Verify` under the present options - the verdict a full handshake would also need on them. -/
theorem client_resumes_only_verified (k : Conf) (cache : Option CSess) (r : Reply) (s : CSess)
    (hv : k.client.insecureSkipVerify = false) (h : attempt k cache r = .resumed s) :
    cache = some s ∧ s.chains ≠ [] ∧
    ∀ l ∈ leaves s, (l.nb ≤ k.client.opts.now ∧ k.client.opts.now ≤ l.na) ∧
      X509.verifyHostname l k.client.opts = true ∧ X509.isValid l .leaf [] k.client.opts = none := by
  obtain ⟨hc, hg⟩ := attempt_resumed k cache r s h
  simp only [offerGate, Bool.and_eq_true] at hg
  obtain ⟨hch, _, hl⟩ := certsAcceptable_verifying k.client s hv hg.2
  exact ⟨hc, hch, fun l hlm =>
    ⟨((leafAcceptable_iff _ _).1 (hl l hlm)).1, ((leafAcceptable_iff _ _).1 (hl l hlm)).2, leafAcceptable_isValid _ _ (hl l hlm)⟩⟩

theorem refused_session_full_handshake (k : Conf) (s : CSess) (r : Reply)
    (h : certsAcceptable k.client s = false) : attempt k (some s) r = .full := by
  simp [attempt, offered, Option.filter, offerGate, h]

theorem gate_refuses (c : Client) (s : CSess) (hv : c.insecureSkipVerify = false)
    (h : s.chains = [] ∨ ∃ l ∈ leaves s, c.opts.now > l.na ∨ c.opts.now < l.nb ∨ X509.verifyHostname l c.opts = false) :
    certsAcceptable c s = false :=
  Bool.eq_false_iff.mpr fun hg => by
    obtain ⟨hch, _, hl⟩ := certsAcceptable_verifying c s hv hg
    rcases h with h | ⟨l, hlm, h⟩
    · exact hch h
    · obtain ⟨⟨h1, h2⟩, h3⟩ := (leafAcceptable_iff _ _).1 (hl l hlm)
      rcases h with h | h | h
      · omega
      · omega
      · rw [h3] at h; cases h

theorem insecure_store_no_chains (k : Conf) (srv : Srv) (n : Nat) (s : CSess) (hi : k.client.insecureSkipVerify = true)
    (h : fullHandshake k srv n = .ok s) : s.chains = [] := by
  simp only [fullHandshake, hi, if_true] at h
  cases h; rfl

/-- a verifying connection never resumes a session stored by an InsecureSkipVerify connection (it has no verified
    chain): it runs a full handshake, which verifies what the server presents now -/
theorem insecure_session_not_resumed (k1 k2 : Conf) (srv : Srv) (n : Nat) (s : CSess) (r : Reply)
    (hi : k1.client.insecureSkipVerify = true) (h : fullHandshake k1 srv n = .ok s)
    (hv : k2.client.insecureSkipVerify = false) : attempt k2 (some s) r = .full :=
  refused_session_full_handshake k2 s r
    (gate_refuses k2.client s hv (Or.inl (insecure_store_no_chains k1 srv n s hi h)))

theorem verifyLeaves_ok (c : Client) (inters : List X509.Cert) :
    ∀ (ls : List X509.Cert) (acc chains : List (List Nat)), verifyLeaves c inters ls acc = .ok chains →
      (∀ l ∈ ls, chainOK c.roots inters l c.opts = true) ∧ (ls ≠ [] → chains ≠ [])
  | [], acc, chains, h => by simp
  | l :: ls, acc, chains, h => by
    unfold verifyLeaves at h
    cases hv : X509.verify c.roots inters l c.opts with
    | ok ch =>
      simp only [hv] at h
      obtain ⟨h1, h2⟩ := verifyLeaves_ok c inters ls ch chains h
      refine ⟨fun x hx => ?_, fun _ => ?_⟩
      · rcases List.mem_cons.1 hx with rfl | hx
        · simp [chainOK, hv]
        · exact h1 x hx
      · cases ls with
        | nil => simp only [verifyLeaves] at h; cases h; exact Props.C08.verify_ok_nonempty _ _ _ _ _ hv
        | cons y ys => exact h2 (by simp)
    | _ => simp [hv] at h

/-- the session a verifying full handshake stores: every end-entity certificate of the server chained to the
    roots of that connection (`chainOK` is the test `Model.HandshakeAuth.serverChainOK` makes), and - when the
    server sent a certificate at all - the stored list of verified chains is not empty -/
theorem verifying_store (k : Conf) (srv : Srv) (n : Nat) (s : CSess) (hv : k.client.insecureSkipVerify = false)
    (h : fullHandshake k srv n = .ok s) :
    s.certs = srv.certs ∧ (∀ l ∈ srvLeaves srv, chainOK k.client.roots (srvInters srv) l k.client.opts = true) ∧
    (srvLeaves srv ≠ [] → s.chains ≠ []) := by
  simp only [fullHandshake, hv, Bool.false_eq_true, if_false] at h
  cases hl : verifyLeaves k.client (srvInters srv) (srvLeaves srv) [] with
  | error e => simp [hl] at h
  | ok chains =>
    simp only [hl] at h
    cases h
    obtain ⟨h1, h2⟩ := verifyLeaves_ok _ _ _ _ _ hl
    exact ⟨rfl, h1, h2⟩

/-- in a history every resumed connection under a verifying policy reports a session that satisfies the gate -/
theorem conn_resumed_verified (srv : Srv) (cache : Option CSess) (n : Nat) (k : Conf) (s : CSess)
    (hv : k.client.insecureSkipVerify = false) (h : (conn srv cache n k).2 = .resumed s) :
    cache = some s ∧ s.chains ≠ [] ∧
    ∀ l ∈ leaves s, (l.nb ≤ k.client.opts.now ∧ k.client.opts.now ≤ l.na) ∧
      X509.verifyHostname l k.client.opts = true ∧ X509.isValid l .leaf [] k.client.opts = none := by
  unfold conn at h
  split at h
  · rename_i t ha
    cases h
    exact client_resumes_only_verified k cache _ _ hv ha
  · cases h
  · split at h <;> cases h

/-- an IP-named server certificate (string functions of DNS matching do not reduce in the kernel) valid -24…24 -/
def exLeaf : X509.Cert :=
  ⟨10, 110, 100, 2001, 2000, none, none, -24, 24, false, false, -1, 1, [], [], ["10.1.2.3"], "ip", [1], false, false, 3⟩
def exSess (chains : List (List Nat)) : CSess := ⟨0x0303, 0xc02f, [exLeaf], chains, 1⟩
def exConf (isv : Bool) (now : Int) (ip : String) : Conf :=
  ⟨⟨isv, [], ⟨now, ip, true, ip, []⟩, [0xc02f], 0, [], 0, 0, []⟩, 0x0303, 0x0303⟩
def exReply : Reply := ⟨true, 0x0303, 0xc02f, true⟩

/-- the gate lets a verified, unexpired, rightly named session through (the theorem is not vacuous) … -/
example : (match attempt (exConf false 0 "10.1.2.3") (some (exSess [[10, 1]])) exReply with
    | .resumed _ => true | _ => false) = true := by decide
/-- … and refuses it a day after NotAfter, without a verified chain, or under another name -/
example : (match attempt (exConf false 25 "10.1.2.3") (some (exSess [[10, 1]])) exReply with
    | .full => true | _ => false) = true := by decide
example : (match attempt (exConf false 0 "10.1.2.3") (some (exSess [])) exReply with
    | .full => true | _ => false) = true := by decide
example : (match attempt (exConf false 0 "10.1.2.4") (some (exSess [[10, 1]])) exReply with
    | .full => true | _ => false) = true := by decide
/-- a client that does not verify resumes all of them -/
example : (match attempt (exConf true 25 "10.1.2.4") (some (exSess [])) exReply with
    | .resumed _ => true | _ => false) = true := by decide

/-- the defect: the gate the code had before the repair offers the expired, the unverified and the wrongly named
    session alike -/
theorem old_gate_witness :
    offerGateOld (exConf false 25 "10.1.2.3") (exSess [[10, 1]]) = true ∧
    offerGateOld (exConf false 0 "10.1.2.3") (exSess []) = true ∧
    offerGateOld (exConf false 0 "10.1.2.4") (exSess [[10, 1]]) = true ∧
    offerGate (exConf false 25 "10.1.2.3") (exSess [[10, 1]]) = false ∧
    offerGate (exConf false 0 "10.1.2.3") (exSess []) = false ∧
    offerGate (exConf false 0 "10.1.2.4") (exSess [[10, 1]]) = false := by decide

end Props.C08ClientResume
