/-
C04, the "Consequently": the code that uses the SM3 object through `hash.Hash` — Go's generic
`crypto/hmac`, x509's `pbkdf`, gmtls' `pHash`/`prf12(sm3.New)` and `tls10MAC.MAC` over `macSM3` —
computes HMAC-SM3 (RFC 2104), PBKDF2-HMAC-SM3 (RFC 8018), P_SM3 / PRF (GM/T 0024 6.5) and the record MAC
BECAUSE the object obeys the streaming laws of `Props.C04`.

Shape of the argument.  `Model.HMAC` transcribes the client code over the object operations with the
`Sum` implementation as a parameter.  `SumLaw hsum` is exactly what the clients need from `Sum`:
from a state that represents the bytes `M` (`Proofs.SM3.Inv`), `Sum(pre)` returns `pre ‖ SM3(M)` AND
hands back the very same state.  Every theorem `…_of_law` is proved for an arbitrary `hsum` with
`SumLaw hsum`, using only `inv_init` (New/Reset), `inv_write` (Write; this is what `Props.C04.write_write` is
proved from) and the law.  `sumLaw_sum` derives the law for the repaired `Model.SM3.sum` from
`Props.C04.sum_pure` + `Props.C04.sum_prefix`; the unsuffixed theorems are the instances.
`sumG_sumOld` says what the same `(*hmac).Sum` computes over the pinned commit's `Model.SM3.sumOld`;
`hmac_breaks_with_sumOld` / `pbkdf_breaks_with_sumOld` exhibit the wrong results.
-/
import Gmsm.Props.C04
import Gmsm.Proofs.SM3Eval
import Gmsm.Proofs.Modes
import Gmsm.Model.HMAC
import Gmsm.Model.Record
import Gmsm.Spec.TLSPRF
namespace Props.C04HMAC
open Gmsm Model.SM3 Model.HMAC Proofs.SM3

/-- What the clients of the hash object rely on: in a state representing `M`, `Sum(pre)` leaves the
    state untouched and returns `pre ‖ SM3(M)`. -/
def SumLaw (hsum : SumImpl) : Prop :=
  ∀ (s : State) (M pre : Bytes), Inv s M → hsum s pre = (s, pre ++ Spec.SM3.hash M)

/-- the repaired `(*SM3).Sum` obeys the law: `Props.C04.sum_pure` (state untouched) and
    `Props.C04.sum_prefix` (prefix ‖ digest). -/
theorem sumLaw_sum : SumLaw sum := fun s M pre h =>
  Prod.ext (Props.C04.sum_pure s pre) (Props.C04.sum_prefix s M pre h)

theorem SumLaw.nil {hsum : SumImpl} (L : SumLaw hsum) {s : State} {M : Bytes} (h : Inv s M) :
    hsum s [] = (s, Spec.SM3.hash M) := by
  rw [L s M [] h, List.nil_append]

/-- RFC 2104 K0 padded to the block: the key (hashed if longer than 64 bytes) followed by zeros -/
def keyBlock (key : Bytes) : Bytes :=
  let k0 := if key.length > 64 then Spec.SM3.hash key else key
  k0 ++ List.replicate (64 - k0.length) 0
def ipadOf (key : Bytes) : Bytes := (keyBlock key).map (· ^^^ 0x36)
def opadOf (key : Bytes) : Bytes := (keyBlock key).map (· ^^^ 0x5c)

theorem hmacSM3_unfold (key msg : Bytes) :
    Spec.HMAC.hmacSM3 key msg = Spec.SM3.hash (opadOf key ++ Spec.SM3.hash (ipadOf key ++ msg)) := rfl

theorem hmacSM3_length (key msg : Bytes) : (Spec.HMAC.hmacSM3 key msg).length = 32 :=
  Props.C04.hash_length _

/-- the abstraction relation of the HMAC object: the pads are the specification's, and the inner hash
    object represents `ipad ‖ M` where `M` are the bytes written since `New`/`Reset`.  Nothing is
    required of the outer object: every use starts with `outer.Reset()`. -/
structure Keyed (key : Bytes) (h : HState) (M : Bytes) : Prop where
  ipad : h.ipad = ipadOf key
  opad : h.opad = opadOf key
  inner : Inv h.inner (ipadOf key ++ M)

theorem goCopy_zero (k : Bytes) (hk : k.length ≤ 64) :
    goCopy (List.replicate 64 0) k = k ++ List.replicate (64 - k.length) 0 := by
  unfold goCopy
  rw [List.length_replicate, List.take_of_length_le hk, List.drop_replicate]

theorem keyed_fresh (key : Bytes) (outer : State) :
    Keyed key ⟨opadOf key, ipadOf key, outer, write init (ipadOf key)⟩ [] :=
  ⟨rfl, rfl, by rw [List.append_nil]; exact inv_init_write _⟩

/-- `hmac.New` with a key that fits the block: no `Sum` is called -/
theorem keyed_new_short {hsum : SumImpl} (key : Bytes) (hk : key.length ≤ 64) : Keyed key (newG hsum key) [] := by
  have hb : goCopy (List.replicate 64 0) key = keyBlock key := by
    rw [goCopy_zero _ hk, keyBlock, if_neg (by omega)]
  unfold newG
  simp only [if_neg (by omega : ¬ key.length > 64), hb]
  exact keyed_fresh key _

/-- `hmac.New`, also `len(key) > 64`: `outer.Write(key); key = outer.Sum(nil)` -/
theorem keyed_new {hsum : SumImpl} (L : SumLaw hsum) (key : Bytes) : Keyed key (newG hsum key) [] := by
  by_cases hk : key.length > 64
  · have hs := L.nil (inv_init_write key)
    have hb : goCopy (List.replicate 64 0) (Spec.SM3.hash key) = keyBlock key := by
      rw [goCopy_zero _ (by rw [Props.C04.hash_length]; decide), keyBlock, if_pos hk]
    unfold newG
    simp only [if_pos hk, hs, hb]
    exact keyed_fresh key _
  · exact keyed_new_short key (by omega)

theorem keyed_write {key : Bytes} {h : HState} {M : Bytes} (K : Keyed key h M) (p : Bytes) :
    Keyed key (writeH h p) (M ++ p) :=
  ⟨K.ipad, K.opad, by have := inv_write K.inner p; rwa [List.append_assoc] at this⟩

theorem keyed_reset {key : Bytes} {h : HState} {M : Bytes} (K : Keyed key h M) :
    Keyed key (resetH h) [] := by
  have := keyed_fresh key h.outer
  rwa [← K.ipad, ← K.opad] at this

/-- `Reset(); Write(p)`, the way every client starts a computation -/
theorem keyed_reset_write {key : Bytes} {h : HState} {M : Bytes} (K : Keyed key h M) (p : Bytes) :
    Keyed key (writeH (resetH h) p) p := by
  have := keyed_write (keyed_reset K) p
  rwa [List.nil_append] at this

/-- `(*hmac).Sum(in)`: returns `in ‖ HMAC(key, M)` and the object still represents `M`.  The law is
    used twice: `inner.Sum(in)` must return `in ‖ digest` (so that `in[origLen:]` is the digest and
    `in[:origLen]` the caller's prefix) and must not disturb `inner`. -/
theorem sumG_spec {hsum : SumImpl} (L : SumLaw hsum) {key : Bytes} {h : HState} {M : Bytes}
    (K : Keyed key h M) (pre : Bytes) :
    ∃ h', sumG hsum h pre = (h', pre ++ Spec.HMAC.hmacSM3 key M) ∧ Keyed key h' M := by
  have hO := inv_write (inv_init_write h.opad) (Spec.SM3.hash (ipadOf key ++ M))
  rw [hmacSM3_unfold, ← K.opad]
  unfold sumG
  simp only [L _ _ pre K.inner, List.drop_left, List.take_left, L _ _ pre hO]
  exact ⟨_, rfl, K.ipad, K.opad, K.inner⟩

theorem sumG_nil {hsum : SumImpl} (L : SumLaw hsum) {key : Bytes} {h : HState} {M : Bytes}
    (K : Keyed key h M) : ∃ h', sumG hsum h [] = (h', Spec.HMAC.hmacSM3 key M) ∧ Keyed key h' M := by
  have := sumG_spec L K []
  rwa [List.nil_append] at this

/-- the abstract behaviour of an HMAC object keyed with `key`: the bytes written since the last
    `Reset` (or `New`) -/
def specRun (key : Bytes) : Bytes → List Model.HMAC.Op → List Bytes
  | _, [] => []
  | M, .write p :: ops => specRun key (M ++ p) ops
  | M, .sum pre :: ops => (pre ++ Spec.HMAC.hmacSM3 key M) :: specRun key M ops
  | _, .reset :: ops => specRun key [] ops

theorem runG_refines {hsum : SumImpl} (L : SumLaw hsum) {key : Bytes} (ops : List Model.HMAC.Op) :
    ∀ (h : HState) (M : Bytes), Keyed key h M → runG hsum h ops = specRun key M ops := by
  induction ops with
  | nil => intros; rfl
  | cons op ops ih =>
    intro h M K
    cases op with
    | write p => simp only [runG, specRun]; exact ih _ _ (keyed_write K p)
    | sum pre =>
      obtain ⟨h', e, K'⟩ := sumG_spec L K pre
      simp only [runG, specRun, e, ih _ _ K']
    | reset => simp only [runG, specRun]; exact ih _ _ (keyed_reset K)

theorem foldl_writeH_keyed {key : Bytes} (cs : List Bytes) :
    ∀ (h : HState) (M : Bytes), Keyed key h M → Keyed key (cs.foldl writeH h) (M ++ cs.flatten) := by
  induction cs with
  | nil => intro h M K; rw [List.flatten_nil, List.append_nil]; exact K
  | cons c cs ih =>
    intro h M K
    rw [List.flatten_cons, ← List.append_assoc]
    exact ih _ _ (keyed_write K c)

/-- crypto/hmac `New(sm3.New, key)` followed by ANY sequence of `Write(p)`,
    `Sum(pre)`, `Reset()` on the returned object: the i-th `Sum(pre)` returns
    `pre ‖ HMAC-SM3(key, bytes written since the last Reset)`.  In particular `Sum` does not disturb
    later writes (Write a; Sum; Write b; Sum gives HMAC(a) then HMAC(a ‖ b)) and `Reset` restores
    the keyed initial state.  All keys (also longer than the 64-byte block), all chunkings. -/
theorem hmac_hist_refines (key : Bytes) (ops : List Model.HMAC.Op) :
    run (new key) ops = specRun key [] ops :=
  runG_refines sumLaw_sum ops _ _ (keyed_new sumLaw_sum key)

/-- `mac := hmac.New(sm3.New, key); for c in chunks { mac.Write(c) }; mac.Sum(pre)`
    returns `pre ‖ HMAC-SM3(key, c₁ ‖ … ‖ cₙ)` (RFC 2104 with SM3) for every key, chunk list (empty
    chunks included) and prefix. -/
theorem hmac_eq (key : Bytes) (chunks : List Bytes) (pre : Bytes) :
    (sumH (chunks.foldl writeH (new key)) pre).2 = pre ++ Spec.HMAC.hmacSM3 key chunks.flatten := by
  have K := foldl_writeH_keyed chunks _ _ (keyed_new sumLaw_sum key)
  rw [List.nil_append] at K
  obtain ⟨h', e, _⟩ := sumG_spec sumLaw_sum K pre
  rw [sumH, new, e]

/-- reuse after `Sum`: `Write(a); x := Sum(p); Write(b); y := Sum(q)` gives `x = p ‖ HMAC(key, a)` and
    `y = q ‖ HMAC(key, a ‖ b)`. -/
theorem hmac_sum_then_write (key a b p q : Bytes) :
    run (new key) [.write a, .sum p, .write b, .sum q]
      = [p ++ Spec.HMAC.hmacSM3 key a, q ++ Spec.HMAC.hmacSM3 key (a ++ b)] := by
  rw [hmac_hist_refines]; simp only [specRun]; rw [List.nil_append]

/-- `Reset` forgets what was written, keeps the key: `Write(a); Reset(); Write(b); Sum(nil)` is
    `HMAC(key, b)`. -/
theorem hmac_reset (key a b : Bytes) :
    run (new key) [.write a, .reset, .write b, .sum []] = [Spec.HMAC.hmacSM3 key b] := by
  rw [hmac_hist_refines]; simp only [specRun]; rw [List.nil_append, List.nil_append]

/-- `Size()`/`BlockSize()` of the HMAC object are those of SM3, and `Sum(nil)` has `Size()` bytes. -/
theorem hmac_size (key : Bytes) (chunks : List Bytes) :
    (sumH (chunks.foldl writeH (new key)) []).2.length = size (new key) ∧ blockSize (new key) = 64 := by
  rw [hmac_eq, List.nil_append, hmacSM3_length]; exact ⟨rfl, rfl⟩

theorem xorInto_eq (T U : Bytes) (h : T.length ≤ U.length) : xorInto T U = xorBytes T U := by
  unfold xorInto; rw [List.drop_of_length_le h, List.append_nil]

/-- Go's `byte(block>>24), byte(block>>16), byte(block>>8), byte(block)` is the big-endian 32-bit
    counter INT(i) of RFC 8018 (for every `block`, also beyond 2^32 where both wrap). -/
theorem blockCounter_eq (i : Nat) : blockCounter i = w32bytes (BitVec.ofNat 32 i) :=
  (w32bytes_ofNat i).symm

/-- the `for n := 2; n <= iter; n++` loop computes `U_2 ⊕ … ⊕ U_iter` into `T` -/
theorem pbkdfInner_spec {hsum : SumImpl} (L : SumLaw hsum) {pw : Bytes} (cnt : Nat) :
    ∀ (prf : HState) (M T U : Bytes), Keyed pw prf M → T.length = 32 → U.length = 32 →
      ∃ prf' M' U', pbkdfInnerG hsum cnt prf T U = (prf', Spec.HMAC.pbkdf2F Spec.HMAC.hmacSM3 pw cnt U T, U')
        ∧ Keyed pw prf' M' ∧ U'.length = 32 := by
  induction cnt with
  | zero => intro prf M T U K _ hU; exact ⟨prf, M, U, rfl, K, hU⟩
  | succ cnt ih =>
    intro prf M T U K hT hU
    obtain ⟨prf1, e, K1⟩ := sumG_nil L (keyed_reset_write K U)
    have hl := hmacSM3_length pw U
    rw [pbkdfInnerG, List.take_zero]
    simp only [e, xorInto_eq T _ (Nat.le_of_eq (hT.trans hl.symm))]
    exact ih prf1 U (xorBytes T (Spec.HMAC.hmacSM3 pw U)) _ K1 (by rw [Proofs.Modes.xorBytes_length]; omega) hl

/-- the `for block := 1; block <= numBlocks; block++` loop appends T_block, T_block+1, … to `dk` -/
theorem pbkdfBlocks_spec {hsum : SumImpl} (L : SumLaw hsum) {pw : Bytes} (salt : Bytes) (iter : Nat)
    (cnt : Nat) :
    ∀ (block : Nat) (prf : HState) (M dk U : Bytes), Keyed pw prf M → U.length = 32 →
      (pbkdfBlocksG hsum salt iter 32 cnt block prf dk U).2.1
        = dk ++ (List.range' block cnt).flatMap (Spec.HMAC.pbkdf2Block Spec.HMAC.hmacSM3 pw salt iter) := by
  induction cnt with
  | zero => intro block prf M dk U _ _; simp [pbkdfBlocksG]
  | succ cnt ih =>
    intro block prf M dk U K hU
    obtain ⟨prf1, e1, K1⟩ :=
      sumG_spec L (keyed_write (keyed_reset_write K salt) (blockCounter block)) dk
    generalize hu1 : Spec.HMAC.hmacSM3 pw (salt ++ blockCounter block) = u1 at e1
    have hl : u1.length = 32 := by rw [← hu1]; exact hmacSM3_length _ _
    have hlen : (dk ++ u1).length - 32 = dk.length := by rw [List.length_append]; omega
    have hcp : goCopy U u1 = u1 := by
      unfold goCopy
      rw [List.take_of_length_le (by omega), List.drop_of_length_le (by omega), List.append_nil]
    obtain ⟨prf2, M2, U2, e2, K2, hU2⟩ := pbkdfInner_spec L (iter - 1) prf1 _ u1 u1 K1 hl hl
    rw [pbkdfBlocksG]
    simp only [e1, hlen, List.drop_left, List.take_left, hcp, e2]
    rw [ih (block + 1) prf2 M2 _ U2 K2 hU2, List.range'_succ, List.flatMap_cons, List.append_assoc,
      Spec.HMAC.pbkdf2Block, ← blockCounter_eq, hu1]

theorem pbkdf_eq_of_law {hsum : SumImpl} (L : SumLaw hsum) (pw salt : Bytes) (iter keyLen : Nat) :
    pbkdfG hsum pw salt iter keyLen = Spec.HMAC.pbkdf2SM3 pw salt iter keyLen := by
  have B := pbkdfBlocks_spec L salt iter ((keyLen + 32 - 1) / 32) 1 (newG hsum pw) [] []
    (List.replicate 32 0) (keyed_new L pw) (List.length_replicate ..)
  unfold pbkdfG
  simp only [size]
  rw [B]
  simp [Spec.HMAC.pbkdf2SM3, Spec.HMAC.pbkdf2, List.range'_eq_map_range, List.flatMap_map, Nat.add_comm 1]

/-- x509/pkcs8.go `pbkdf(password, salt, iter, keyLen, sm3.New)` (the library's own copy
    of PBKDF2, driving the HMAC object with Reset/Write/Sum, with `T` aliasing the tail of `dk`) equals
    PBKDF2 of RFC 8018 5.2 with PRF = HMAC-SM3, for every password, salt, `iter ≥ 0` and `keyLen ≥ 0`.
    The boundary cases are `pbkdf_iter_zero` and `pbkdf_keyLen_zero`. -/
theorem pbkdf_eq (pw salt : Bytes) (iter keyLen : Nat) :
    pbkdf pw salt iter keyLen = Spec.HMAC.pbkdf2SM3 pw salt iter keyLen :=
  pbkdf_eq_of_law sumLaw_sum pw salt iter keyLen

/-- `iter = 0` (RFC 8018 requires a positive count): the Go loop `for n := 2; n <= iter` does not
    run, so the code returns what it returns for `iter = 1` (T_i = U_1); the specification function
    was written with `iter - 1` on naturals and does the same.  (A negative `iter` in Go: likewise.) -/
theorem pbkdf_iter_zero (pw salt : Bytes) (keyLen : Nat) :
    pbkdf pw salt 0 keyLen = pbkdf pw salt 1 keyLen ∧
    Spec.HMAC.pbkdf2SM3 pw salt 0 keyLen = Spec.HMAC.pbkdf2SM3 pw salt 1 keyLen := by
  refine ⟨?_, rfl⟩
  rw [pbkdf_eq, pbkdf_eq]; rfl

/-- `keyLen = 0`: `numBlocks = (0 + 32 - 1) / 32 = 0`, no block is computed, `dk[:0]` is empty; the
    specification yields the empty string as well. -/
theorem pbkdf_keyLen_zero (pw salt : Bytes) (iter : Nat) :
    pbkdf pw salt iter 0 = [] ∧ Spec.HMAC.pbkdf2SM3 pw salt iter 0 = [] := by
  have h : Spec.HMAC.pbkdf2SM3 pw salt iter 0 = [] := by simp [Spec.HMAC.pbkdf2SM3, Spec.HMAC.pbkdf2]
  exact ⟨by rw [pbkdf_eq, h], h⟩

theorem pbkdf2SM3_length (pw salt : Bytes) (iter dkLen : Nat) :
    (Spec.HMAC.pbkdf2SM3 pw salt iter dkLen).length = dkLen := by
  have hF : ∀ (n : Nat) (u acc : Bytes), acc.length = 32 →
      (Spec.HMAC.pbkdf2F Spec.HMAC.hmacSM3 pw n u acc).length = 32 := by
    intro n
    induction n with
    | zero => intro _ _ h; exact h
    | succ n ih => intro u acc ha; exact ih _ _ (by rw [Proofs.Modes.xorBytes_length, hmacSM3_length, ha]; rfl)
  have hB : ∀ i, (Spec.HMAC.pbkdf2Block Spec.HMAC.hmacSM3 pw salt iter i).length = 32 :=
    fun i => hF _ _ _ (hmacSM3_length _ _)
  rw [Spec.HMAC.pbkdf2SM3, Spec.HMAC.pbkdf2, List.length_take, length_flatMap_range _ 32 fun i => hB (i + 1)]
  omega

theorem pbkdf_length (pw salt : Bytes) (iter keyLen : Nat) : (pbkdf pw salt iter keyLen).length = keyLen := by
  rw [pbkdf_eq, pbkdf2SM3_length]

open Spec.TLSPRF in
/-- loop invariant of `pHash`: entering an iteration with `a = A(i+1)`, `result[:j] = res`, the loop
    delivers `res` followed by the first `n - j` bytes of
    `HMAC(secret, A(i+1) ‖ seed) ‖ HMAC(secret, A(i+2) ‖ seed) ‖ …` (any `k` blocks that cover the
    remaining length), provided the fuel covers the remaining length.  The blocks are indexed by
    `List.range' i k`, whose head comes off without renumbering the rest. -/
theorem pHashLoop_spec {hsum : SumImpl} (L : SumLaw hsum) (secret seed : Bytes) (n : Nat) (fuel : Nat) :
    ∀ (i k : Nat) (h : HState) (M res : Bytes), Keyed secret h M →
      n - res.length ≤ fuel → n - res.length ≤ 32 * k →
      pHashLoopG hsum n seed fuel h (aSeq secret seed (i + 1)) res
        = res ++ (((List.range' i k).map fun t =>
            Spec.HMAC.hmacSM3 secret (aSeq secret seed (t + 1) ++ seed)).flatten).take (n - res.length) := by
  induction fuel with
  | zero =>
    intro i k h M res _ hf _
    rw [Nat.le_zero.mp hf, List.take_zero, List.append_nil]; rfl
  | succ fuel ih =>
    intro i k h M res K hf hk
    rw [pHashLoopG]
    split
    next hlt =>
      -- b := HMAC(secret, a ‖ seed), then a := HMAC(secret, a)
      obtain ⟨h1, e1, K1⟩ := sumG_nil L (keyed_write (keyed_reset_write K (aSeq secret seed (i + 1))) seed)
      obtain ⟨h2, e2, K2⟩ := sumG_nil L (keyed_reset_write K1 (aSeq secret seed (i + 1)))
      simp only [e1, e2]
      generalize hb : Spec.HMAC.hmacSM3 secret (aSeq secret seed (i + 1) ++ seed) = b
      have hbl : b.length = 32 := by rw [← hb]; exact hmacSM3_length _ _
      -- whether or not the block is the last, partial one, `n - j` bytes of it are wanted
      have ht : b.take (if res.length + b.length > n then n - res.length else b.length)
          = b.take (n - res.length) := by
        split
        · rfl
        · rw [List.take_of_length_le (Nat.le_refl _), List.take_of_length_le (by omega)]
      obtain ⟨k', rfl⟩ : ∃ k', k = k' + 1 := ⟨k - 1, by omega⟩
      have hrl : n - (res ++ b.take (n - res.length)).length = n - res.length - 32 := by
        rw [List.length_append, List.length_take, hbl]; omega
      rw [ht, show Spec.HMAC.hmacSM3 secret (aSeq secret seed (i + 1)) = aSeq secret seed (i + 1 + 1) from rfl,
        ih (i + 1) k' h2 _ _ K2 (by omega) (by omega), List.range'_succ, List.map_cons, List.flatten_cons,
        hb, List.take_append, hbl, List.append_assoc, hrl]
    next hlt =>
      rw [show n - res.length = 0 by omega, List.take_zero, List.append_nil]

theorem pHash_eq_of_law {hsum : SumImpl} (L : SumLaw hsum) (n : Nat) (secret seed : Bytes) :
    pHashG hsum n secret seed = Spec.TLSPRF.pHash secret seed n := by
  obtain ⟨h1, e, K1⟩ := sumG_nil L (keyed_write (keyed_new L secret) seed)
  rw [List.nil_append] at e
  unfold pHashG
  simp only [e]
  rw [show Spec.HMAC.hmacSM3 secret seed = Spec.TLSPRF.aSeq secret seed (0 + 1) from rfl,
    pHashLoop_spec L secret seed n n 0 ((n + 31) / 32) h1 _ [] K1 (Nat.sub_le ..) (by rw [List.length_nil]; omega)]
  simp [Spec.TLSPRF.pHash, List.range_eq_range']

/-- gmtls/prf.go `pHash(result, secret, seed, sm3.New)` fills `result` (of any length `n`,
    including 0 and lengths that are not multiples of 32) with the first `n` bytes of
    `P_SM3(secret, seed) = HMAC(secret, A(1) ‖ seed) ‖ HMAC(secret, A(2) ‖ seed) ‖ …`,
    `A(0) = seed`, `A(i) = HMAC(secret, A(i-1))` (GM/T 0024 6.5 / RFC 5246 5), i.e. `Spec.TLSPRF.pHash`.
    The code keeps ONE HMAC object and alternates Reset/Write/Write/Sum and Reset/Write/Sum on it. -/
theorem pHash_eq (n : Nat) (secret seed : Bytes) :
    Model.HMAC.pHash n secret seed = Spec.TLSPRF.pHash secret seed n :=
  pHash_eq_of_law sumLaw_sum n secret seed

/-- `prfAndHashForGM() = prf12(sm3.New)` called as `prf(result, secret, label, seed)`
    computes `PRF(secret, label, seed) = P_SM3(secret, label ‖ seed)` truncated to `len(result)`;
    `masterFromPreMasterSecret`, `keysFromMasterSecret` and `finishedHash.*Sum` call it with the
    ASCII labels "master secret", "key expansion", "client finished", "server finished". -/
theorem prfGM_eq (n : Nat) (secret : Bytes) (label : String) (seed : Bytes) :
    prfGM n secret (Spec.TLSPRF.ascii label) seed = Spec.TLSPRF.prf secret label seed n := by
  unfold prfGM prfGMG Spec.TLSPRF.prf
  exact pHash_eq_of_law sumLaw_sum n secret _

theorem spec_pHash_length (secret seed : Bytes) (n : Nat) : (Spec.TLSPRF.pHash secret seed n).length = n := by
  rw [Spec.TLSPRF.pHash, List.length_take, ← List.flatMap_def,
    length_flatMap_range _ 32 fun _ => hmacSM3_length _ _]
  omega

/-- the loop fills the whole buffer -/
theorem pHash_length (n : Nat) (secret seed : Bytes) : (Model.HMAC.pHash n secret seed).length = n := by
  rw [pHash_eq, spec_pHash_length]

theorem macG_spec {hsum : SumImpl} (L : SumLaw hsum) {key : Bytes} {h : HState} {M : Bytes}
    (K : Keyed key h M) (seq header data : Bytes) (extra : Option Bytes) :
    ∃ h' M', macG hsum h seq header data extra = (h', Spec.HMAC.hmacSM3 key (seq ++ header ++ data))
      ∧ Keyed key h' M' := by
  obtain ⟨h1, e, K1⟩ := sumG_nil L (keyed_write (keyed_write (keyed_reset_write K seq) header) data)
  unfold macG
  simp only [e]
  cases extra with
  | none => exact ⟨_, _, rfl, K1⟩
  | some x => exact ⟨_, _, rfl, keyed_write K1 x⟩

theorem macRunG_spec {hsum : SumImpl} (L : SumLaw hsum) {key : Bytes} (calls : List MacCall) :
    ∀ (h : HState) (M : Bytes), Keyed key h M →
      macRunG hsum h calls = calls.map fun c => Spec.HMAC.hmacSM3 key (c.seq ++ c.header ++ c.data) := by
  induction calls with
  | nil => intros; rfl
  | cons c cs ih =>
    intro h M K
    obtain ⟨h', M', e, K'⟩ := macG_spec L K c.seq c.header c.data c.extra
    simp only [macRunG, List.map_cons, e, ih _ _ K']

/-- gmtls: `m := macSM3(version, key)` (= `tls10MAC{hmac.New(sm3.New, key)}`) and then ANY
    sequence of calls `m.MAC(digestBuf, seq, header, data, extra)` on that one object (one direction
    of a connection): every call returns `HMAC-SM3(key, seq ‖ header ‖ data)` of ITS OWN arguments —
    neither the previous records nor the `extra` bytes written after `Sum` (the constant-time
    filler of `halfConn.decrypt`) leak into the next call, because `MAC` starts with `Reset()`. -/
theorem mac_eq (key : Bytes) (calls : List MacCall) :
    macRun (macNew key) calls = calls.map fun c => Spec.HMAC.hmacSM3 key (c.seq ++ c.header ++ c.data) :=
  macRunG_spec sumLaw_sum calls _ _ (keyed_new sumLaw_sum key)

theorem mac_single (key : Bytes) (earlier : List MacCall) (seq header data : Bytes) (extra : Option Bytes) :
    (macRun (macNew key) (earlier ++ [⟨seq, header, data, extra⟩])).getLast?
      = some (Spec.HMAC.hmacSM3 key (seq ++ header ++ data)) := by
  rw [mac_eq]; simp

/-- The record-layer model's `Model.Record.mac` (which the C05/C06 record theorems
    and the wire-level driver use, written directly with the specification's HMAC) is what the
    transcribed `tls10MAC.MAC` returns for the sequence number, record header and payload, after any
    earlier records on the same object. -/
theorem mac_eq_record (k : Model.Record.Keys) (earlier : List MacCall) (seq : Nat) (typ : Byte)
    (data : Bytes) (extra : Option Bytes) :
    (macRun (macNew k.mac)
        (earlier ++ [⟨Model.Record.seqBytes seq, Model.Record.header typ data.length, data, extra⟩])).getLast?
      = some (Model.Record.mac k seq typ data) := by
  rw [mac_single]; rfl

/-- the pinned commit's `Sum` violates the law (it writes the prefix into the hash and returns the
    digest alone) -/
theorem sumOld_not_law : ¬ SumLaw sumOld := by
  intro L
  have := L init [] [0x78] inv_init
  have h2 := congrArg (fun r => r.1.length) this
  revert h2
  decide

/-- HMAC-SM3(key = "", "a") = a67de75e…371ce752 -/
theorem hmacSM3_a : Spec.HMAC.hmacSM3 [] [0x61] =
    [0xa6, 0x7d, 0xe7, 0x5e, 0xa1, 0x99, 0xd9, 0xb2, 0x30, 0xc0, 0x9b, 0x20, 0xb2, 0x73, 0xc7, 0x93,
     0x0b, 0xbc, 0x6d, 0xee, 0x77, 0x30, 0xb4, 0x91, 0x08, 0x25, 0x69, 0x4a, 0x37, 0x1c, 0xe7, 0x52] := by
  rw [hmacSM3_unfold, hash_eq_fast, hash_eq_fast (ipadOf [] ++ _)]
  decide +kernel

/-- the pinned commit's `Sum` in a state representing `M`: the prefix is written into the hash, and the
    digest of `M ‖ pre` comes back without it -/
theorem sumOld_spec {s : State} {M : Bytes} (h : Inv s M) (pre : Bytes) :
    sumOld s pre = (write s pre, Spec.SM3.hash (M ++ pre)) := by
  rw [sumOld, finish_eq_hash (inv_write h pre)]

/-- crypto/hmac's `Sum(in)` over it: `in` stays in the inner hash for good, and what comes back is the
    outer hash of the inner digest rotated by `len(in)`, without `in` in front -/
theorem sumG_sumOld {key : Bytes} {h : HState} {M : Bytes} (K : Keyed key h M) (pre : Bytes) :
    ∃ h', sumG sumOld h pre =
        (h', Spec.SM3.hash (opadOf key ++ ((Spec.SM3.hash (ipadOf key ++ (M ++ pre))).drop pre.length
          ++ (Spec.SM3.hash (ipadOf key ++ (M ++ pre))).take pre.length)))
      ∧ Keyed key h' (M ++ pre) := by
  have hI := inv_write K.inner pre
  rw [List.append_assoc] at hI
  have hO := sumOld_spec (inv_write (inv_init_write h.opad)
    ((Spec.SM3.hash (ipadOf key ++ (M ++ pre))).drop pre.length))
    ((Spec.SM3.hash (ipadOf key ++ (M ++ pre))).take pre.length)
  rw [List.append_assoc] at hO
  rw [← K.opad]
  unfold sumG
  simp only [sumOld_spec K.inner pre, List.append_assoc, hO]
  exact ⟨_, rfl, K.ipad, K.opad, hI⟩

theorem sumG_sumOld_nil {key : Bytes} {h : HState} {M : Bytes} (K : Keyed key h M) :
    ∃ h', sumG sumOld h [] = (h', Spec.HMAC.hmacSM3 key M) ∧ Keyed key h' M := by
  have := sumG_sumOld K []
  rwa [List.length_nil, List.drop_zero, List.take_zero, List.append_nil, List.append_nil] at this

/-- The same crypto/hmac code over the pinned commit's `(*SM3).Sum`
    (`Model.SM3.sumOld`): after `Write("a"); Sum([]byte{1})` — where the inner `Sum` absorbed the prefix
    byte into the inner hash — a subsequent plain `Sum(nil)` no longer returns HMAC-SM3(key, "a")
    (it returns HMAC-SM3(key, "a" ‖ 01));
    and already the first result is not `prefix ‖ HMAC` (it has 32 bytes, not 33).  So `hmac_eq`
    genuinely depends on `sum_pure`/`sum_prefix`.  (With a nil prefix the old `Sum` happened to be
    harmless, which is why `pHash` and `tls10MAC.MAC`, which only call `Sum(nil)`/`Sum(buf[:0])`,
    worked at the pinned commit while x509's `pbkdf` — `dk = prf.Sum(dk)` — did not:
    `pbkdf_breaks_with_sumOld`.) -/
theorem hmac_breaks_with_sumOld :
    ∃ (key : Bytes) (ops : List Model.HMAC.Op),
      runG sumOld (newG sumOld key) ops ≠ specRun key [] ops ∧
      (runG sumOld (newG sumOld key) ops)[1]? ≠ (specRun key [] ops)[1]? ∧
      ((runG sumOld (newG sumOld key) ops)[0]?.map List.length) ≠ ((specRun key [] ops)[0]?.map List.length) := by
  refine ⟨[], [.write [0x61], .sum [0x01], .sum []], ?_⟩
  obtain ⟨h1, e1, K1⟩ := sumG_sumOld (keyed_write (keyed_new_short (hsum := sumOld) [] (by decide)) [0x61]) [0x01]
  obtain ⟨h2, e2, _⟩ := sumG_sumOld_nil K1
  -- the only digests evaluated: HMAC("", "a" ‖ 01) against the known HMAC("", "a")
  have hx : Spec.HMAC.hmacSM3 [] ([] ++ [0x61] ++ [0x01]) ≠ Spec.HMAC.hmacSM3 [] [0x61] := by
    rw [hmacSM3_a, hmacSM3_unfold, hash_eq_fast, hash_eq_fast (ipadOf [] ++ _)]
    decide +kernel
  simp only [runG, e1, e2, specRun]
  rw [List.nil_append, List.nil_append]
  refine ⟨fun e => hx (List.cons.inj (List.cons.inj e).2).1, fun e => hx (Option.some.inj e), fun e => ?_⟩
  have := Option.some.inj e
  rw [Props.C04.hash_length, List.length_append, hmacSM3_length] at this
  exact absurd this (by decide)

/-- x509's `pbkdf` over the pinned commit's `Sum`: as soon as a second
    block is needed (`keyLen > 32`), `dk = prf.Sum(dk)` with a non-empty `dk` goes wrong (here even
    the length: 32 bytes come back where 33 were asked for). -/
theorem pbkdf_breaks_with_sumOld :
    pbkdfG sumOld [] [] 1 33 ≠ Spec.HMAC.pbkdf2SM3 [] [] 1 33 := by
  intro e
  have h := congrArg List.length e
  rw [pbkdf2SM3_length] at h
  revert h
  decide +kernel

/-- HMAC-SM3(key = "", "a") through the object, as printed by Go's
    `hmac.New(sm3.New, nil); Write("a"); Sum(nil)`
    (= a67de75ea199d9b230c09b20b273c7930bbc6dee7730b4910825694a371ce752). -/
example : (sumH (writeH (new []) [0x61]) []).2 =
    [0xa6, 0x7d, 0xe7, 0x5e, 0xa1, 0x99, 0xd9, 0xb2, 0x30, 0xc0, 0x9b, 0x20, 0xb2, 0x73, 0xc7, 0x93,
     0x0b, 0xbc, 0x6d, 0xee, 0x77, 0x30, 0xb4, 0x91, 0x08, 0x25, 0x69, 0x4a, 0x37, 0x1c, 0xe7, 0x52] := by
  have := hmac_eq [] [[0x61]] []
  rwa [List.nil_append, show [[(0x61 : Byte)]].flatten = [0x61] from rfl, hmacSM3_a] at this

/-- the hypotheses of the generic theorems are satisfiable: `Keyed` holds of a fresh object, also
    for a key longer than the block (which takes the `outer.Write(key); outer.Sum(nil)` branch). -/
example : Keyed (List.replicate 65 0x0b) (new (List.replicate 65 0x0b)) [] := keyed_new sumLaw_sum _

/-- a history with Sum in the middle and a Reset, instance of `hmac_hist_refines` -/
example (key a b c : Bytes) :
    run (new key) [.write a, .sum [0xff], .write b, .sum [], .reset, .write c, .sum []]
      = [[0xff] ++ Spec.HMAC.hmacSM3 key a, Spec.HMAC.hmacSM3 key (a ++ b), Spec.HMAC.hmacSM3 key c] := by
  rw [hmac_hist_refines]; simp only [specRun]; rw [List.nil_append, List.nil_append, List.nil_append, List.nil_append]

/- Evaluated (`#eval`, too slow for the kernel), all confirmed equal on the Go side by the harness ops
   `pbkdfx`, `phashx`, `macx`:
   `toHex (pbkdf [] [] 1 33)` = "311c191a8c3676b7…85e96cf6" (33 bytes, = `pbkdf2SM3 [] [] 1 33`), whereas
   `toHex (pbkdfG sumOld [] [] 1 33)` = "d914a6f642b61fd7…a2375823" (32 bytes; `pbkdf_breaks_with_sumOld`),
   `pbkdf k k 3 70 = Spec.HMAC.pbkdf2SM3 k k 3 70` and `pHash 70 k k = Spec.TLSPRF.pHash k k 70`
   for `k = 01 02 … 20`. -/

end Props.C04HMAC
