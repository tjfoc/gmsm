/-
C18 — decoders never recurse or loop without bound: time and memory stay within a small multiple of
the input size.  Theorems about the BER → DER transcoder model `Model.BER` (x509/ber.go: `readObject`
and its item loop), whose `fuel` argument stands for the Go call stack.

The steps of `readObject` / `readItems` and the induction over a successful parse (`parse_induction`) are in
`Proofs/BERParse`; the facts about what was read (here, in C18Linear, C18Output and C17Idem) are its instances.

* `fuel_sufficient`: fuel `2 * (remaining bytes) + 1` is always enough; once there is enough fuel the result does not
  depend on it (`fuel_irrelevant`).
* `depth_bounded`: with the nesting limit `maxBERDepth = 128` of `readObjectDepth`, whatever is accepted has at most
  128 nested constructed encodings, so the Go call stack of `readObjectDepth` and of `EncodeTo` is bounded by a constant.
* `ber2der_cost`: `EncodeTo` copies every byte once per enclosing level, so the bytes buffered in total are at most
  129 × output size; without the limit this was quadratic in the input.
* `nested_read` / `nested_reject`: the limit is exact.
-/
import Gmsm.Proofs.BERParse
namespace Model.BER
mutual
  /-- nesting depth of an object tree: the number of constructed encodings on the longest path -/
  def Obj.depth : Obj → Nat
    | .prim _ _ => 0
    | .cons _ items => 1 + depthItems items
  def depthItems : List Obj → Nat
    | [] => 0
    | o :: os => max o.depth (depthItems os)
end

mutual
  /-- Number of bytes written to buffers by the Go `EncodeTo`: a primitive writes its encoding to `out`; a
      structured object first lets every child write itself to a fresh `inner` buffer and then writes tag,
      length and the bytes of `inner` to `out` (so a byte at nesting level k is copied k more times). -/
  def encodeCost : Obj → Nat
    | .prim tag content => (encodeTo (.prim tag content)).length
    | .cons tag items => encodeCostItems items + (encodeTo (.cons tag items)).length
  def encodeCostItems : List Obj → Nat
    | [] => 0
    | o :: os => encodeCost o + encodeCostItems os
end
end Model.BER

namespace Props.C18
open Gmsm Model.BER

theorem progress_all (ber : Bytes) : ∀ f : Nat,
    (∀ off d o e, readObject f ber off d = .ok (o, e) → off + 2 ≤ e ∧ e ≤ ber.length) ∧
    (∀ off ce ind d os e, readItems f ber off ce ind d = .ok (os, e) →
        off ≤ e ∧ (ind = true → e + 2 ≤ ber.length) ∧
        (ind = false → off ≤ ber.length → e ≤ ber.length)) := by
  refine parse_induction ber ?_ ?_ ?_ ?_
  · intro off d hd hh hce _
    have := header_bounds hh
    omega
  · intro f off d hd items e1 hh hce _ _ _ hI
    have := header_bounds hh
    cases hi : hd.ind
    · simp only [Bool.false_eq_true, if_false]; omega
    · have := hI.2.1 hi; simp only [if_true]; omega
  · intro off ce ind d hT _
    exact ⟨Nat.le_refl _, hT, fun _ h => h⟩
  · intro f off ce ind d o e1 os e _ _ _ hO hI
    exact ⟨by omega, hI.2.1, fun hind _ => hI.2.2 hind (by omega)⟩

theorem fuel_all (ber : Bytes) : ∀ f : Nat,
    (∀ off d, 2 * (ber.length - off) + 1 ≤ f → readObject f ber off d ≠ .error .fuel) ∧
    (∀ off ce ind d, 2 * (ber.length - off) + 2 ≤ f → readItems f ber off ce ind d ≠ .error .fuel) := by
  intro f
  induction f with
  | zero => exact ⟨fun off d h => by omega, fun off ce ind d h => by omega⟩
  | succ f ih =>
    refine ⟨fun off d hf => ?_, fun off ce ind d hf => ?_⟩
    · rw [readObject_succ]
      refine bind_ne_fuel (header_ne_fuel ber off) fun hd hh => body_ne_fuel (ih.2 _ _ _ _ ?_)
      have := header_bounds hh
      omega
    · rw [readItems_succ]
      refine itemsK_ne_fuel (ih.1 off d (by omega)) fun o e1 ho => ih.2 _ _ _ _ ?_
      have := (progress_all ber f).1 _ _ _ _ ho
      omega

theorem mono_all (ber : Bytes) : ∀ f : Nat,
    (∀ off d, Stable (readObject f ber off d) (readObject (f + 1) ber off d)) ∧
    (∀ off ce ind d, Stable (readItems f ber off ce ind d) (readItems (f + 1) ber off ce ind d)) := by
  intro f
  induction f with
  | zero => exact ⟨fun off d h => absurd (by rw [readObject]) h, fun off ce ind d h => absurd (by rw [readItems]) h⟩
  | succ f ih =>
    refine ⟨fun off d => ?_, fun off ce ind d => ?_⟩
    · rw [readObject_succ, readObject_succ]
      exact Stable.bind (fun _ => rfl) fun hd _ => body_stable (ih.2 _ _ _ _)
    · rw [readItems_succ, readItems_succ]
      exact itemsK_stable (fun x => ih.1 x d) (fun x => ih.2 x ce ind d)

/-- Every object `readObject` returns consumed at least a tag byte and a length byte (`off + 2 ≤ off'`) and
    never claims bytes beyond the input (`off' ≤ len(ber)`); for the indefinite form the two terminator
    octets counted by `off' = end of items + 2` are inside the input too.  So each level of recursion of the Go
    `readObjectDepth` strictly shrinks the remaining input. -/
theorem readObject_progress {fuel : Nat} {ber : Bytes} {off d : Nat} {o : Obj} {off2 : Nat}
    (h : readObject fuel ber off d = .ok (o, off2)) : off + 2 ≤ off2 ∧ off2 ≤ ber.length :=
  (progress_all ber fuel).1 off d o off2 h

/-- The item loop `for (offset < contentEnd) || indefinite` never moves backwards.  In the indefinite case it
    stops — after zero or more children: the end-of-contents test comes before each member — at a position where
    the two end-of-contents octets are available (`off2 + 2 ≤ len(ber)`).  In the definite case the loop ends at
    most at `len(ber)` when started inside it (`items_inside_parent` in C18Linear: at most at `contentEnd`).
    The loop itself need not advance: `30 80 00 00` has no member (`readObject_progress` gives `off + 2 ≤ off2`
    for every object). -/
theorem readItems_progress {fuel : Nat} {ber : Bytes} {off ce : Nat} {ind : Bool} {d : Nat} {os : List Obj}
    {off2 : Nat} (h : readItems fuel ber off ce ind d = .ok (os, off2)) :
    off ≤ off2 ∧ (ind = true → off2 + 2 ≤ ber.length) ∧
      (ind = false → off ≤ ber.length → off2 ≤ ber.length) :=
  (progress_all ber fuel).2 off ce ind d os off2 h

/-- The recursion of `readObjectDepth` is bounded by the input, whatever the depth limit: with fuel
    `2 * remaining + 1` (`remaining = len(ber) - off`) the model never reports `fuel`: the number of nested
    plus sequential calls that any input, however hostile, can drive the Go decoder to is at most linear in
    the number of bytes that are left. -/
theorem fuel_sufficient (ber : Bytes) (off d fuel : Nat) (h : 2 * (ber.length - off) + 1 ≤ fuel) :
    readObject fuel ber off d ≠ .error .fuel :=
  (fuel_all ber fuel).1 off d h

theorem fuel_sufficient_items (ber : Bytes) (off ce : Nat) (ind : Bool) (d fuel : Nat)
    (h : 2 * (ber.length - off) + 2 ≤ fuel) : readItems fuel ber off ce ind d ≠ .error .fuel :=
  (fuel_all ber fuel).2 off ce ind d h

theorem ber2der_eq {ber : Bytes} (hne : ber ≠ []) :
    ber2der ber = (readObject (2 * ber.length + 2) ber 0 0).bind fun r => .ok (encodeTo r.1) := by
  unfold ber2der
  rw [if_neg (by simpa using hne)]
  cases readObject (2 * ber.length + 2) ber 0 0 <;> rfl

theorem ber2der_ok {ber der : Bytes} (h : ber2der ber = .ok der) :
    ∃ o e, readObject (2 * ber.length + 2) ber 0 0 = .ok (o, e) ∧ der = encodeTo o := by
  unfold ber2der at h
  split at h
  · cases h
  · split at h
    · cases h
    · rename_i o e hr
      cases h
      exact ⟨o, e, hr, rfl⟩

/-- `ber2der` never runs out of stack in the model: every input is either transcoded or rejected with one of
    the Go error cases, after a number of calls bounded by `2 * len(ber) + 2`. -/
theorem ber2der_total (ber : Bytes) : ber2der ber ≠ .error .fuel := by
  by_cases hne : ber = []
  · subst hne; nofun
  · rw [ber2der_eq hne]
    exact bind_ne_fuel (fuel_sufficient ber 0 0 _ (by omega)) fun _ _ => nofun

theorem readObject_fuel_mono {f : Nat} {ber : Bytes} {off d : Nat} {r : Except Err (Obj × Nat)}
    (h : readObject f ber off d = r) (hr : r ≠ .error .fuel) : readObject (f + 1) ber off d = r := by
  subst h; exact (mono_all ber f).1 off d hr

theorem readItems_fuel_mono {f : Nat} {ber : Bytes} {off ce : Nat} {ind : Bool} {d : Nat}
    {r : Except Err (List Obj × Nat)}
    (h : readItems f ber off ce ind d = r) (hr : r ≠ .error .fuel) : readItems (f + 1) ber off ce ind d = r := by
  subst h; exact (mono_all ber f).2 off ce ind d hr

theorem readTag_fuel_mono : ∀ (f : Nat) (ber : Bytes) (off : Nat),
    readTag f ber off ≠ .error .fuel → readTag (f + 1) ber off = readTag f ber off := by
  intro f
  induction f with
  | zero => intro ber off h; exact absurd (by rw [readTag]) h
  | succ f ih =>
    intro ber off h
    simp only [readTag] at h ⊢
    cases hb : ber[off]? with
    | none => rfl
    | some b =>
      rw [hb] at h
      dsimp only at h ⊢
      by_cases hge : b.toNat ≥ 0x80
      · rw [if_pos hge] at h
        rw [if_pos hge, if_pos hge]
        have := ih ber (off + 1) h
        simp only [readTag] at this
        exact this
      · rw [if_neg hge, if_neg hge]

theorem Stable.add {α : Type} {g : Nat → Except Err α} (h : ∀ f, Stable (g f) (g (f + 1))) (f k : Nat) :
    Stable (g f) (g (f + k)) := by
  intro hf
  induction k with
  | zero => rfl
  | succ k ih => rw [← ih]; exact h (f + k) (by rw [ih]; exact hf)

theorem readObject_fuel_add (ber : Bytes) (off d f : Nat) (h : readObject f ber off d ≠ .error .fuel) (k : Nat) :
    readObject (f + k) ber off d = readObject f ber off d :=
  Stable.add (fun f => (mono_all ber f).1 off d) f k h

theorem readItems_fuel_add (ber : Bytes) (off ce : Nat) (ind : Bool) (d f : Nat)
    (h : readItems f ber off ce ind d ≠ .error .fuel) (k : Nat) :
    readItems (f + k) ber off ce ind d = readItems f ber off ce ind d :=
  Stable.add (fun f => (mono_all ber f).2 off ce ind d) f k h

theorem readObject_fuel_unique {ber : Bytes} {off d f1 f2 : Nat} (h1 : readObject f1 ber off d ≠ .error .fuel)
    (h2 : readObject f2 ber off d ≠ .error .fuel) : readObject f1 ber off d = readObject f2 ber off d := by
  rw [← readObject_fuel_add ber off d f1 h1 f2, Nat.add_comm, readObject_fuel_add ber off d f2 h2 f1]

theorem readObject_ok_fuel {ber : Bytes} {off d f0 : Nat} {r : Obj × Nat} (h : readObject f0 ber off d = .ok r)
    {fuel : Nat} (hf : 2 * (ber.length - off) + 1 ≤ fuel) : readObject fuel ber off d = .ok r :=
  (readObject_fuel_unique (fuel_sufficient ber off d fuel hf) (by rw [h]; nofun)).trans h

/-- With enough fuel the result does not depend on the fuel: `readObject` is a function of the input, the
    offset and the depth only, and `2 * remaining + 1` nested/sequential calls always suffice to compute it. -/
theorem fuel_irrelevant (ber : Bytes) (off d f1 f2 : Nat)
    (h1 : 2 * (ber.length - off) + 1 ≤ f1) (h2 : 2 * (ber.length - off) + 1 ≤ f2) :
    readObject f1 ber off d = readObject f2 ber off d :=
  readObject_fuel_unique (fuel_sufficient ber off d f1 h1) (fuel_sufficient ber off d f2 h2)

/-- `ber2der` computes the same result with any larger stack budget: its verdict is determined by the input -/
theorem ber2der_fuel_irrelevant (ber : Bytes) (f : Nat) (h : 2 * ber.length + 1 ≤ f) :
    ber2der ber = if ber.isEmpty then .error .invalid
      else match readObject f ber 0 0 with
        | .error e => .error e
        | .ok (o, _) => .ok (encodeTo o) := by
  unfold ber2der
  rw [fuel_irrelevant ber 0 0 (2 * ber.length + 2) f (by omega) (by omega)]
  rfl

theorem depth_all (ber : Bytes) : ∀ f : Nat,
    (∀ off d o e, readObject f ber off d = .ok (o, e) → d ≤ maxBERDepth → o.depth + d ≤ maxBERDepth) ∧
    (∀ off ce ind d os e, readItems f ber off ce ind d = .ok (os, e) → d ≤ maxBERDepth →
        depthItems os + d ≤ maxBERDepth) := by
  refine parse_induction ber ?_ ?_ ?_ ?_
  · intro off d hd _ _ _ h
    simpa only [Obj.depth, Nat.zero_add] using h
  · intro f off d hd items e1 _ _ _ hlt _ hI _
    have := hI hlt
    simp only [Obj.depth]; omega
  · intro off ce ind d _ _ h
    simpa only [depthItems, Nat.zero_add] using h
  · intro f off ce ind d o e1 os e _ _ _ hO hI hd
    have := hO hd
    have := hI hd
    simp only [depthItems]; omega

/-- The nesting bound of the repaired code: an object that `readObjectDepth` accepts at depth `d` has at most
    `maxBERDepth - d` levels of constructed encodings below (and including) it.  A constructed object is
    accepted only at `d < 128`, its children are read at `d + 1`; primitives are accepted at depth 128 too. -/
theorem depth_bounded {fuel : Nat} {ber : Bytes} {off d : Nat} {o : Obj} {off2 : Nat} (hd : d ≤ maxBERDepth)
    (h : readObject fuel ber off d = .ok (o, off2)) : o.depth + d ≤ maxBERDepth :=
  (depth_all ber fuel).1 off d o off2 h hd

theorem depth_bounded_items {fuel : Nat} {ber : Bytes} {off ce : Nat} {ind : Bool} {d : Nat} {os : List Obj}
    {off2 : Nat} (hd : d ≤ maxBERDepth) (h : readItems fuel ber off ce ind d = .ok (os, off2)) :
    depthItems os + d ≤ maxBERDepth :=
  (depth_all ber fuel).2 off ce ind d os off2 h hd

/-- Whatever `ber2der` accepts is the encoding of an object tree of nesting depth at most 128: the Go
    recursion depth of `readObjectDepth` and of `EncodeTo` is bounded by a constant that does not depend on
    the input. -/
theorem ber2der_depth {ber der : Bytes} (h : ber2der ber = .ok der) :
    ∃ o, o.depth ≤ maxBERDepth ∧ der = encodeTo o := by
  obtain ⟨o, e, hr, rfl⟩ := ber2der_ok h
  exact ⟨o, depth_bounded (Nat.zero_le _) hr, rfl⟩

/-- beyond the limit only primitives are accepted: an accepted constructed object was read at depth < 128
    (so the hypothesis `d ≤ maxBERDepth` of `depth_bounded` only excludes primitives read at absurd depths) -/
theorem tooDeep_only_rejects {fuel : Nat} {ber : Bytes} {off d : Nat} {o : Obj} {off2 : Nat}
    (h : readObject fuel ber off d = .ok (o, off2)) : d ≤ maxBERDepth ∨ ∃ tag c, o = .prim tag c := by
  cases fuel with
  | zero => simp [readObject] at h
  | succ f =>
    obtain ⟨hd, _, _, ⟨_, _, ho, _⟩ | ⟨_, hlt, _⟩⟩ := readObject_ok_cases h
    · exact .inr ⟨_, _, ho⟩
    · exact .inl (Nat.le_of_lt hlt)

theorem encodeTo_cons_length (tag : Bytes) (items : List Obj) :
    (encodeItems items).length ≤ (encodeTo (.cons tag items)).length := by
  rw [encodeTo]; simp only [List.length_append]; omega

mutual
theorem encodeCost_le : (o : Obj) → encodeCost o ≤ (o.depth + 1) * (encodeTo o).length
  | .prim tag c => by simp [encodeCost, Obj.depth]
  | .cons tag items => by
    rw [encodeCost, Obj.depth, show 1 + depthItems items + 1 = depthItems items + 1 + 1 by omega, Nat.add_mul,
      Nat.one_mul]
    exact Nat.add_le_add_right (Nat.le_trans (encodeCostItems_le items)
      (Nat.mul_le_mul_left _ (encodeTo_cons_length tag items))) _
theorem encodeCostItems_le : (os : List Obj) → encodeCostItems os ≤ (depthItems os + 1) * (encodeItems os).length
  | [] => by simp [encodeCostItems]
  | o :: os => by
    rw [encodeCostItems, depthItems, encodeItems, List.length_append, Nat.mul_add]
    exact Nat.add_le_add (Nat.le_trans (encodeCost_le o) (Nat.mul_le_mul_right _ (by omega)))
      (Nat.le_trans (encodeCostItems_le os) (Nat.mul_le_mul_right _ (by omega)))
end

/-- Memory/time bound of the re-encoding step of `ber2der`: an accepted input yields an object tree of depth at
    most 128, so `EncodeTo` writes at most `(128 + 1) × len(der)` bytes to buffers in total — a constant
    multiple of the output size (which `C17`'s length lemmas bound by the input size), where without the depth
    limit the factor was the attacker-chosen nesting depth, i.e. quadratic in the input. -/
theorem ber2der_cost {ber der : Bytes} (h : ber2der ber = .ok der) :
    ∃ o, der = encodeTo o ∧ o.depth ≤ maxBERDepth ∧ encodeCost o ≤ (maxBERDepth + 1) * der.length := by
  obtain ⟨o, hd, rfl⟩ := ber2der_depth h
  refine ⟨o, rfl, hd, Nat.le_trans (encodeCost_le o) (Nat.mul_le_mul_right _ (by omega))⟩

/-- a nested indefinite-length input is transcoded to definite lengths -/
example : ber2der [0x30, 0x80, 0x30, 0x80, 0x02, 0x01, 0x05, 0x00, 0x00, 0x00, 0x00]
    = .ok [0x30, 0x05, 0x30, 0x03, 0x02, 0x01, 0x05] := by rfl

/-- the `fuel` error is real: with less fuel than the nesting needs the model does give up, so
    `fuel_sufficient` is not vacuous -/
example : (readObject 4 [0x30, 0x80, 0x30, 0x80, 0x02, 0x01, 0x05, 0x00, 0x00, 0x00, 0x00] 0 0).toOption.isNone
    ∧ (readObject 5 [0x30, 0x80, 0x30, 0x80, 0x02, 0x01, 0x05, 0x00, 0x00, 0x00, 0x00] 0 0).toOption.isSome := by
  constructor <;> rfl

/-- the progress bound `off + 2 ≤ off'` is attained (empty primitive) and rejected input stays rejected -/
example : (readObject 1 [0x05, 0x00] 0 0).toOption.map (·.2) = some 2
    ∧ (ber2der [0x30, 0x80, 0x02, 0x01, 0x05, 0x00]).toOption.isNone := by
  constructor <;> rfl

/-- the depth check sits exactly at `maxBERDepth`: a constructed object is read at depth 127 (its primitive
    child at depth 128 is fine) and refused at depth 128 — also when it is empty; a primitive is fine there -/
example : (readObject 9 [0x30, 0x80, 0x02, 0x01, 0x01, 0x00, 0x00] 0 127).toOption.map (·.1.depth) = some 1
    ∧ (readObject 9 [0x30, 0x80, 0x02, 0x01, 0x01, 0x00, 0x00] 0 128).toOption.isNone
    ∧ (readObject 9 [0x30, 0x00] 0 128).toOption.isNone
    ∧ (readObject 9 [0x02, 0x01, 0x01] 0 128).toOption.isSome := by
  refine ⟨?_, ?_, ?_, ?_⟩ <;> rfl

/-- `30 80` × n, `02 01 01`, `00 00` × n: an INTEGER inside n nested indefinite-length SEQUENCEs -/
def nested : Nat → Bytes
  | 0 => [0x02, 0x01, 0x01]
  | n + 1 => [0x30, 0x80] ++ nested n ++ [0x00, 0x00]

theorem nested_head (n : Nat) (rest : Bytes) : (nested n ++ rest).getD 0 1 ≠ 0 := by
  cases n <;> simp [nested]

theorem header_seq (pre x tail : Bytes) :
    header (pre ++ [0x30, 0x80] ++ x ++ tail) pre.length = .ok ⟨0x30, pre.length + 1, 0, pre.length + 2, true⟩ :=
  header_eq_ok.mpr ⟨by simp, if_neg (show ¬ (0x30 : Byte).toNat % 32 = 0x1F by decide), 0x80, by simp, readLength_indef _ _⟩

theorem readObject_int (pre rest : Bytes) (f d : Nat) :
    ∃ o, readObject (f + 1) (pre ++ 0x02 :: 0x01 :: 0x01 :: rest) pre.length d = .ok (o, pre.length + 3) := by
  have hh : header (pre ++ 0x02 :: 0x01 :: 0x01 :: rest) pre.length = .ok ⟨0x02, pre.length + 1, 1, pre.length + 2, false⟩ :=
    header_eq_ok.mpr ⟨by simp, if_neg (show ¬ (0x02 : Byte).toNat % 32 = 0x1F by decide), 0x01, by simp,
      readLength_eq_ok.mpr (.inl ⟨by decide, rfl⟩)⟩
  rw [readObject_succ, hh]
  exact ⟨_, body_prim (by simp only [List.length_append, List.length_cons]; omega) (show ¬ (0x02 : Byte).toNat / 32 % 2 = 1 by decide) rfl⟩

theorem nested_length (n : Nat) : (nested n).length = 4 * n + 3 := by
  induction n with
  | zero => rfl
  | succ n ih => simp only [nested, List.length_append, ih, List.length_cons, List.length_nil]; omega

theorem loopTest_nested (n : Nat) (pre rest : Bytes) :
    loopTest (pre ++ [0x30, 0x80] ++ nested n ++ 0 :: 0 :: rest) (pre.length + 2) (pre.length + 2 + 0) true = none := by
  have t := loopTest_member (pre := pre ++ [0x30, 0x80]) (tail := nested n ++ 0 :: 0 :: rest) (pre.length + 2 + 0)
    (by simp only [List.length_append, List.length_cons]; omega) (fun h => nested_head n _ h.1)
  rwa [← List.append_assoc, List.length_append] at t

/-- `nested n` is read, anywhere, at every depth that leaves room for its `n` levels -/
theorem nested_read : ∀ (n : Nat) (pre rest : Bytes) (d f : Nat), 2 * n + 1 ≤ f → n + d ≤ maxBERDepth →
    ∃ o, readObject f (pre ++ nested n ++ rest) pre.length d = .ok (o, pre.length + (nested n).length)
  | 0, pre, rest, d, f + 1, _, _ => by
    rw [List.append_assoc]; exact readObject_int pre rest f d
  | n + 1, pre, rest, d, f, hf, hd => by
    obtain ⟨k, rfl⟩ := Nat.exists_eq_add_of_le hf
    obtain ⟨o, ho⟩ := nested_read n (pre ++ [0x30, 0x80]) (0 :: 0 :: rest) (d + 1) (2 * n + k + 1)
      (by omega) (by omega)
    have e : pre ++ nested (n + 1) ++ rest = pre ++ [0x30, 0x80] ++ nested n ++ 0 :: 0 :: rest := by simp [nested]
    have hP : (pre ++ [0x30, 0x80]).length = pre.length + 2 := List.length_append
    have t2 := loopTest_eoc (pre ++ [0x30, 0x80] ++ nested n) rest (pre.length + 2 + 0)
    rw [List.length_append, hP] at t2
    rw [hP] at ho
    rw [e, show 2 * (n + 1) + 1 + k = 2 * n + k + 1 + 1 + 1 by omega, readObject_succ, header_seq]
    show ∃ o, body _ _ _ _ (readItems (2 * n + k + 1 + 1) _ (pre.length + 2) (pre.length + 2 + 0) true (d + 1)) = _
    rw [readItems_member (loopTest_nested n pre rest) ho nofun (readItems_stop (2 * n + k) (d + 1) t2),
      body_cons _ (by simp only [List.length_append, List.length_cons]; omega)
        (show (0x30 : Byte).toNat / 32 % 2 = 1 by decide) (by omega)]
    refine ⟨_, congrArg (fun e => Except.ok (_, e)) ?_⟩
    simp only [if_true, nested, List.length_append, List.length_cons, List.length_nil]; omega

/-- `nested n` is refused with `tooDeep` as soon as its levels do not fit under the limit -/
theorem nested_reject : ∀ (n : Nat) (pre rest : Bytes) (d f : Nat), 2 * n + 3 ≤ f → maxBERDepth < n + 1 + d →
    readObject f (pre ++ nested (n + 1) ++ rest) pre.length d = .error .tooDeep
  | n, pre, rest, d, f, hf, hd => by
    obtain ⟨k, rfl⟩ := Nat.exists_eq_add_of_le hf
    have e : pre ++ nested (n + 1) ++ rest = pre ++ [0x30, 0x80] ++ nested n ++ 0 :: 0 :: rest := by simp [nested]
    have hce : pre.length + 2 + 0 ≤ (pre ++ [0x30, 0x80] ++ nested n ++ 0 :: 0 :: rest).length := by
      simp only [List.length_append, List.length_cons]; omega
    rw [e, show 2 * n + 3 + k = 2 * n + 1 + k + 1 + 1 by omega, readObject_succ, header_seq]
    by_cases hlim : d ≥ maxBERDepth
    · exact body_tooDeep _ hce (show (0x30 : Byte).toNat / 32 % 2 = 1 by decide) hlim
    · match n, hd, hce with
      | 0, hd, _ => omega
      | n + 1, hd, hce =>
        have ho := nested_reject n (pre ++ [0x30, 0x80]) (0 :: 0 :: rest) (d + 1) (2 * (n + 1) + 1 + k) (by omega) (by omega)
        have hP : (pre ++ [0x30, 0x80]).length = pre.length + 2 := List.length_append
        rw [hP] at ho
        show body _ _ _ _ (readItems (2 * (n + 1) + 1 + k + 1) _ (pre.length + 2) (pre.length + 2 + 0) true (d + 1)) = _
        rw [readItems_member_error (loopTest_nested (n + 1) pre rest) ho, body_cons _ hce (show (0x30 : Byte).toNat / 32 % 2 = 1 by decide) (by omega)]
        rfl

/-- 129 nested constructed encodings are rejected by `ber2der` -/
theorem nested129_rejected : (ber2der (nested 129)).toOption.isNone = true := by
  have h := nested_reject 128 [] [] 0 (2 * (nested 129).length + 2) (by rw [nested_length]; omega) (by decide)
  rw [List.nil_append, List.append_nil] at h
  change readObject _ (nested 129) 0 0 = _ at h
  rw [ber2der_eq (List.ne_nil_of_length_pos (by rw [nested_length]; omega)), h]; rfl

/-- 128 are accepted, so `depth_bounded` is tight -/
theorem nested128_accepted : (ber2der (nested 128)).toOption.isSome = true := by
  obtain ⟨o, h⟩ := nested_read 128 [] [] 0 (2 * (nested 128).length + 2) (by rw [nested_length]; omega) (by decide)
  rw [List.nil_append, List.append_nil] at h
  change readObject _ (nested 128) 0 _ = _ at h
  rw [ber2der_eq (List.ne_nil_of_length_pos (by rw [nested_length]; omega)), h]; rfl
end Props.C18
