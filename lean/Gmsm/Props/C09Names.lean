/-
C09 (name and identifier extensions) — "every certificate that the package creates, for every template it
accepts, parses back to the same field values": the hand-written codecs of x509/x509.go for subjectAltName,
nameConstraints, extKeyUsage, subjectKeyId, authorityKeyId, certificatePolicies and cRLDistributionPoints over
the encoding/asn1 framing.  Theorems about `Model.X509Names` (framing lemmas in `Gmsm/Proofs/X509Names.lean`, same
namespace); the model is run against x509.CreateCertificate / x509.ParseCertificate by the ops sanext, sanparse,
ncext, ncparse, ekuext, ekuparse, skiext, skiparse, akiext, akiparse, polext, polparse, crlext, crlparse, extlist
(harness/c09names.go, Driver/X509Names.lean): extension value bytes and parsed fields compared.
-/
import Gmsm.Proofs.X509Names
namespace Props.C09Names
open Gmsm Model.X509Names

/-- what the loop of `parseSANExtension` does with the elements once they are split: an address of a length
    other than 4 or 16 is an error; otherwise the contents are sorted by tag number, each list in wire order -/
def classify (l : List (Hdr × Bytes)) : Option (List Name × List Name × List IP) :=
  if l.any (fun e => e.1.tag = 7 ∧ ¬ (e.2.length = 4 ∨ e.2.length = 16)) then none
  else some ((l.filter (·.1.tag = 2)).map (·.2), (l.filter (·.1.tag = 1)).map (·.2), (l.filter (·.1.tag = 7)).map (·.2))

theorem classify_cons (h : Hdr) (c : Bytes) (rest : List (Hdr × Bytes)) :
    classify ((h, c) :: rest) =
      if h.tag = 7 ∧ ¬ (c.length = 4 ∨ c.length = 16) then none
      else
        match classify rest with
        | none => none
        | some (d, e, i) =>
          if h.tag = 1 then some (d, c :: e, i)
          else if h.tag = 2 then some (c :: d, e, i)
          else if h.tag = 7 then some (d, e, c :: i)
          else some (d, e, i) := by
  unfold classify
  rw [List.any_cons]
  by_cases hb : h.tag = 7 ∧ ¬ (c.length = 4 ∨ c.length = 16)
  · simp [hb]
  · rw [if_neg hb, decide_eq_false hb, Bool.false_or]
    split
    · rfl
    · simp only [List.filter_cons]
      by_cases h1 : h.tag = 1
      · simp [h1]
      · by_cases h2 : h.tag = 2
        · simp [h2]
        · by_cases h7 : h.tag = 7 <;> simp [h1, h2, h7]

/-- the loop is "split into elements, then classify": an error anywhere (framing or IP length) is an error -/
theorem sanLoop_eq_classify (f : Nat) (b : Bytes) :
    sanLoop f b = match elems f b with | none => none | some l => classify l := by
  fun_induction elems f b
  case case1 => simp [sanLoop, classify]
  case case2 => rfl
  case case3 hr => simp only [sanLoop, hr]
  case case4 hr he ih =>
    simp only [sanLoop, hr, ih, he]
    split <;> rfl
  case case5 hr l he ih =>
    simp only [sanLoop, hr, ih, he, classify_cons]
    rfl

/-- the GeneralNames `marshalSANs` writes, as (identifier octet, content) pairs -/
def sanItems (dns emails : List Name) (ips : List IP) : List (Byte × Bytes) :=
  dns.map (fun n => (0x82, n)) ++ emails.map (fun n => (0x81, n)) ++ ips.map (fun ip => (0x87, sanIP ip))

theorem sanBody_eq (dns emails : List Name) (ips : List IP) : sanBody dns emails ips = encItems (sanItems dns emails ips) := by
  simp [sanBody, sanItems, encItems, List.map_map, Function.comp_def]

/-- well-formedness of a SAN template for the round trip: every address has 4 or 16 bytes (the parser refuses
    all other lengths; the marshaller does not), and the GeneralNames content is shorter than 2^31 bytes (the limit
    of `parseTagAndLength`).  DNS names and e-mail addresses are arbitrary byte strings: nothing is checked by
    `marshalSANs`. -/
def sanWf (dns emails : List Name) (ips : List IP) : Bool :=
  ips.all (fun ip => ip.length = 4 || ip.length = 16) && decide ((sanBody dns emails ips).length < 2 ^ 31)

/-- `To4` changes only the 16-byte addresses with the IPv4-mapped prefix -/
theorem sanIP_eq (ip : IP) :
    sanIP ip = if ip.length = 16 ∧ ip.take 10 = List.replicate 10 0 ∧ ip.getD 10 0 = 0xff ∧ ip.getD 11 0 = 0xff
      then ip.drop 12 else ip := by
  unfold sanIP to4
  by_cases h4 : ip.length = 4
  · rw [if_pos h4, if_neg (by omega)]
  · rw [if_neg h4]
    by_cases hm : ip.length = 16 ∧ ip.take 10 = List.replicate 10 0 ∧ ip.getD 10 0 = 0xff ∧ ip.getD 11 0 = 0xff
    · rw [if_pos hm, if_pos hm]
    · rw [if_neg hm, if_neg hm]

/-- the IPv4-mapped IPv6 form `::ffff:a.b.c.d` is written (and therefore read back) as the four bytes -/
theorem sanIP_v4mapped (a b c d : Byte) :
    sanIP ([0, 0, 0, 0, 0, 0, 0, 0, 0, 0, 0xff, 0xff, a, b, c, d]) = [a, b, c, d] := by
  rfl

theorem sanIP_changes_only_mapped (ip : IP) (h : sanIP ip ≠ ip) :
    ip.length = 16 ∧ ip.take 12 = [0, 0, 0, 0, 0, 0, 0, 0, 0, 0, 0xff, 0xff] ∧ sanIP ip = ip.drop 12 := by
  rw [sanIP_eq] at h ⊢
  split at h
  · next hm =>
    rw [if_pos hm]
    obtain ⟨h16, ht, ha, hb⟩ := hm
    refine ⟨h16, ?_, rfl⟩
    rw [List.getD_eq_getElem?_getD, List.getElem?_eq_getElem (by omega), Option.getD_some] at ha hb
    rw [List.take_add_one, List.take_add_one, ht, List.getElem?_eq_getElem (by omega),
      List.getElem?_eq_getElem (by omega), ha, hb]
    rfl
  · exact absurd rfl h

theorem sanIP_idem (ip : IP) : sanIP (sanIP ip) = sanIP ip := by
  by_cases h : sanIP ip = ip
  · rw [h, h]
  · obtain ⟨h16, _, hd⟩ := sanIP_changes_only_mapped ip h
    rw [sanIP_eq (sanIP ip), if_neg]
    rw [hd, List.length_drop]
    omega

theorem sanIP_length (ip : IP) (h : ip.length = 4 ∨ ip.length = 16) : (sanIP ip).length = 4 ∨ (sanIP ip).length = 16 := by
  rw [sanIP_eq]
  split
  · left; rw [List.length_drop]; omega
  · exact h

theorem sanItems_lowShort (dns emails : List Name) (ips : List IP) (hb : (sanBody dns emails ips).length < 2 ^ 31) :
    ∀ p ∈ sanItems dns emails ips, lowShort p := by
  refine encItems_lowShort _ (fun p hp => ?_) (by rwa [← sanBody_eq])
  simp only [sanItems, List.mem_append, List.mem_map] at hp
  rcases hp with (⟨n, _, rfl⟩ | ⟨n, _, rfl⟩) | ⟨n, _, rfl⟩ <;> (simp only; decide)

/-- For every template whose IP addresses have 4 or 16 bytes (and less than 2 GiB of names),
    `parseSANExtension(marshalSANs(dns, emails, ips))` returns the DNS names and the e-mail addresses byte for
    byte, in order, and the IP addresses in order in their NORMAL FORM `sanIP`: a 16-byte IPv4-mapped address
    `::ffff:a.b.c.d` comes back as the 4 bytes `a.b.c.d` (`To4`), every other address unchanged.  This is the one
    place where the parsed field value differs in form from the template's. -/
theorem san_roundtrip (dns emails : List Name) (ips : List IP) (h : sanWf dns emails ips = true) :
    decSAN (encSAN dns emails ips) = some (dns, emails, ips.map sanIP) := by
  simp only [sanWf, Bool.and_eq_true, List.all_eq_true, Bool.or_eq_true, decide_eq_true_eq] at h
  obtain ⟨hip, hb⟩ := h
  have hr := tlv_roundtrip 0x30 (sanBody dns emails ips) [] (by decide) hb
  rw [List.append_nil] at hr
  have hseq : isSeq (hdrOf 0x30 (sanBody dns emails ips).length) = true := rfl
  simp only [decSAN, encSAN, hr, hseq]
  simp only [ne_eq, not_true_eq_false, if_false, Bool.not_true, Bool.false_eq_true]
  rw [sanLoop_eq_classify, sanBody_eq]
  rw [elems_items _ _ (by have := encItems_length (sanItems dns emails ips); omega)
    (sanItems_lowShort dns emails ips hb)]
  -- every run carries one tag number, so each filter keeps a run whole or drops it
  have h82 : (0x82 : Byte).toNat % 32 = 2 := rfl
  have h81 : (0x81 : Byte).toNat % 32 = 1 := rfl
  have h87 : (0x87 : Byte).toNat % 32 = 7 := rfl
  have keep (l : List Bytes) : l.filter (fun _ => true) = l := List.filter_eq_self.mpr fun _ _ => rfl
  have drop (l : List Bytes) : l.filter (fun _ => false) = [] := List.filter_eq_nil_iff.mpr fun _ _ => Bool.false_ne_true
  simp only [classify, sanItems, List.map_append, List.map_map, Function.comp_def, List.any_append, List.any_map,
    List.filter_append, List.filter_map, hdrOf_tag, h82, h81, h87]
  simp [keep, drop]
  exact fun ip hip' => (sanIP_length ip (hip ip hip')).resolve_left

def Consumes (k : Nat) (b rest : Bytes) : Prop := ∃ pre, b = pre ++ rest ∧ k ≤ pre.length

theorem Consumes.cons {k : Nat} {b rest : Bytes} (x : Byte) (h : Consumes k b rest) : Consumes (k + 1) (x :: b) rest := by
  obtain ⟨pre, e, l⟩ := h
  exact ⟨x :: pre, by simp [e], by simp [l]⟩

theorem Consumes.trans {j k : Nat} {a b c : Bytes} (h1 : Consumes j a b) (h2 : Consumes k b c) : Consumes (j + k) a c := by
  obtain ⟨p1, e1, l1⟩ := h1
  obtain ⟨p2, e2, l2⟩ := h2
  exact ⟨p1 ++ p2, by simp [e1, e2], by simp; omega⟩

theorem Consumes.mono {j k : Nat} {a b : Bytes} (h : Consumes k a b) (hj : j ≤ k) : Consumes j a b := by
  obtain ⟨p, e, l⟩ := h
  exact ⟨p, e, by omega⟩

theorem Consumes.refl (b : Bytes) : Consumes 0 b b := ⟨[], rfl, by simp⟩

theorem readBase128_consumes (s r : Nat) (b : Bytes) (x : Nat × Bytes) (h : readBase128 s r b = some x) :
    Consumes 1 b x.2 := by
  fun_induction readBase128 s r b
  case case5 => cases h; exact (Consumes.refl _).cons _
  case case6 ih => exact ((ih h).cons _).mono (by omega)
  all_goals cases h

theorem readLenLoop_consumes (k acc : Nat) (b : Bytes) (x : Nat × Bytes) (h : readLenLoop k acc b = some x) :
    Consumes 0 b x.2 := by
  fun_induction readLenLoop k acc b
  case case1 => cases h; exact .refl _
  case case5 ih => exact ((ih h).cons _).mono (by omega)
  all_goals cases h

theorem readTag_consumes (b : Bytes) (x : Nat × Bool × Nat × Bytes) (h : readTag b = some x) : Consumes 1 b x.2.2.2 := by
  revert h
  fun_cases readTag b <;> intro h
  case case4 => cases h; exact ((readBase128_consumes _ _ _ _ ‹_›).cons _).mono (by omega)
  case case5 => cases h; exact (Consumes.refl _).cons _
  all_goals cases h

theorem readLength_consumes (b : Bytes) (x : Nat × Bytes) (h : readLength b = some x) : Consumes 1 b x.2 := by
  revert h
  fun_cases readLength b <;> intro h
  case case2 => cases h; exact (Consumes.refl _).cons _
  case case6 => cases h; exact (readLenLoop_consumes _ _ _ _ ‹_›).cons _
  all_goals cases h

theorem readHeader_consumes (b : Bytes) (x : Hdr × Bytes) (h : readHeader b = some x) : Consumes 2 b x.2 := by
  revert h
  fun_cases readHeader b <;> intro h
  case case3 => cases h; exact (readTag_consumes _ _ ‹_›).trans (readLength_consumes _ _ ‹_›)
  all_goals cases h

theorem readRaw_consumes (b : Bytes) (hd : Hdr) (c rest : Bytes) (h : readRaw b = some (hd, c, rest)) :
    ∃ pre, b = pre ++ c ++ rest ∧ 2 ≤ pre.length := by
  revert h
  fun_cases readRaw b <;> intro h
  case case3 =>
    cases h
    obtain ⟨pre, e, l⟩ := readHeader_consumes _ _ ‹_›
    exact ⟨pre, by rw [e, List.append_assoc, List.take_append_drop], l⟩
  all_goals cases h

theorem elems_infix (f : Nat) (b : Bytes) (l : List (Hdr × Bytes)) (h : elems f b = some l) :
    ∀ e ∈ l, e.2 <:+: b := by
  fun_induction elems f b generalizing l
  case case5 hd c rest hr l2 hl2 ih =>
    cases h
    obtain ⟨pre, e, _⟩ := readRaw_consumes _ _ _ _ hr
    intro el hel
    rcases List.mem_cons.mp hel with rfl | h1
    · exact ⟨pre, rest, e.symm⟩
    · exact (ih l2 hl2 el h1).trans ⟨pre ++ c, [], by rw [e]; simp⟩
  all_goals cases h
  all_goals simp

theorem classify_from (l : List (Hdr × Bytes)) (r : List Name × List Name × List IP) (h : classify l = some r) :
    ∀ n, n ∈ r.1 ∨ n ∈ r.2.1 ∨ n ∈ r.2.2 → ∃ e ∈ l, e.2 = n := by
  unfold classify at h
  split at h
  · cases h
  · cases h
    simp only [List.mem_map, List.mem_filter]
    rintro n (⟨e, he, rfl⟩ | ⟨e, he, rfl⟩ | ⟨e, he, rfl⟩) <;> exact ⟨e, he.1, rfl⟩

theorem decSAN_some (v : Bytes) (r : List Name × List Name × List IP) (h : decSAN v = some r) :
    ∃ c pre, v = pre ++ c ∧ 2 ≤ pre.length ∧ sanLoop c.length c = some r := by
  revert h
  fun_cases decSAN v <;> intro h
  case case4 hd c rest hr hrest _ =>
    obtain rfl : rest = [] := Classical.not_not.mp hrest
    obtain ⟨pre, e, l⟩ := readRaw_consumes _ _ _ _ hr
    exact ⟨c, pre, by rwa [List.append_nil] at e, l, h⟩
  all_goals cases h

/-- Whatever byte string is parsed, every name or address `parseSANExtension` returns is a
    contiguous slice of the extension value (`v.Bytes` of one element): the parser never invents, joins, trims or
    re-encodes a name. -/
theorem decSAN_sound (v : Bytes) (r : List Name × List Name × List IP) (h : decSAN v = some r) :
    ∀ n, n ∈ r.1 ∨ n ∈ r.2.1 ∨ n ∈ r.2.2 → n <:+: v := by
  obtain ⟨c, pre, rfl, _, hl⟩ := decSAN_some v r h
  rw [sanLoop_eq_classify] at hl
  split at hl
  · cases hl
  · rename_i l hel
    intro n hn
    obtain ⟨e, he, rfl⟩ := classify_from l r hl n hn
    exact (elems_infix _ _ _ hel e he).trans List.infix_append_right

theorem elems_nil (f : Nat) : elems f [] = some [] := by cases f <;> rfl

/-- the fuel of `elems` never runs out before the bytes do: every element consumes at least two bytes -/
theorem elems_fuel (f g : Nat) (b : Bytes) (hf : b.length ≤ f) (hg : b.length ≤ g) : elems f b = elems g b := by
  induction f generalizing g b with
  | zero =>
    cases b with
    | nil => rw [elems_nil, elems_nil]
    | cons x xs => simp at hf
  | succ f ih =>
    cases b with
    | nil => rw [elems_nil, elems_nil]
    | cons x xs =>
      cases g with
      | zero => simp at hg
      | succ g =>
        simp only [elems]
        cases hr : readRaw (x :: xs) with
        | none => rfl
        | some p =>
          obtain ⟨hd, c, rest⟩ := p
          obtain ⟨pre, e, l⟩ := readRaw_consumes _ _ _ _ hr
          have hl : rest.length + 2 ≤ (x :: xs).length := by rw [e]; simp; omega
          simp only
          rw [ih g rest (by omega) (by omega)]

/-- The model's fuel is immaterial — `sanLoop` with any fuel ≥ the number of bytes computes
    the same result; "out of fuel" never stands in for a Go outcome.  The Go loop terminates for the same reason:
    every iteration consumes at least two bytes. -/
theorem sanLoop_fuel (f g : Nat) (b : Bytes) (hf : b.length ≤ f) (hg : b.length ≤ g) : sanLoop f b = sanLoop g b := by
  rw [sanLoop_eq_classify, sanLoop_eq_classify, elems_fuel f g b hf hg]

/-- On EVERY byte string the parser either reports an error or returns three lists (the model
    is a total function; no input makes it diverge or get stuck), and an accepted value is a single SEQUENCE TLV
    spanning the whole value. -/
theorem decSAN_total (v : Bytes) :
    decSAN v = none ∨ ∃ r c pre, decSAN v = some r ∧ v = pre ++ c ∧ 2 ≤ pre.length ∧ sanLoop c.length c = some r := by
  cases h : decSAN v with
  | none => exact Or.inl rfl
  | some r =>
    obtain ⟨c, pre, e⟩ := decSAN_some v r h
    exact Or.inr ⟨r, c, pre, rfl, e⟩

/-- On well-formed templates different name lists give different extension values — up to
    the normal form of IP addresses, which is all the extension can carry. -/
theorem encSAN_injective (d1 e1 : List Name) (i1 : List IP) (d2 e2 : List Name) (i2 : List IP)
    (h1 : sanWf d1 e1 i1 = true) (h2 : sanWf d2 e2 i2 = true) (h : encSAN d1 e1 i1 = encSAN d2 e2 i2) :
    d1 = d2 ∧ e1 = e2 ∧ i1.map sanIP = i2.map sanIP := by
  have r1 := san_roundtrip d1 e1 i1 h1
  rw [h, san_roundtrip d2 e2 i2 h2] at r1
  simp only [Option.some.injEq, Prod.mk.injEq] at r1
  exact ⟨r1.1.symm, r1.2.1.symm, r1.2.2.symm⟩

/-- … and literally injective when the addresses are already in normal form (4-byte IPv4, 16-byte non-mapped) -/
theorem encSAN_injective_normal (d1 e1 : List Name) (i1 : List IP) (d2 e2 : List Name) (i2 : List IP)
    (h1 : sanWf d1 e1 i1 = true) (h2 : sanWf d2 e2 i2 = true)
    (n1 : ∀ ip ∈ i1, sanIP ip = ip) (n2 : ∀ ip ∈ i2, sanIP ip = ip) (h : encSAN d1 e1 i1 = encSAN d2 e2 i2) :
    d1 = d2 ∧ e1 = e2 ∧ i1 = i2 := by
  obtain ⟨hd, he, hi⟩ := encSAN_injective d1 e1 i1 d2 e2 i2 h1 h2 h
  rw [List.map_congr_left (g := id) n1, List.map_congr_left (g := id) n2, List.map_id, List.map_id] at hi
  exact ⟨hd, he, hi⟩

/-- the two spellings of one IPv4 address DO collide (so the template's `IPAddresses` is not recoverable
    literally): non-injectivity witness -/
example : encSAN [] [] [[1, 2, 3, 4]] = encSAN [] [] [[0, 0, 0, 0, 0, 0, 0, 0, 0, 0, 0xff, 0xff, 1, 2, 3, 4]] := by decide

/-- content of the `[0]` permittedSubtrees field -/
def ncBody (permitted : List Name) : Bytes := (permitted.map encSubtree).flatten

/-- well-formedness of `PermittedDNSDomains` for `buildExtensions`: IA5 (bytes below 0x80 — NUL and the empty
    string are accepted by the marshaller), and less than 2^31 bytes in all -/
def ncWf (permitted : List Name) : Bool :=
  permitted.all isIA5 && decide ((tlv 0xa0 (ncBody permitted)).length < 2 ^ 31)

def subtreeContent (n : Name) : Bytes := if n.isEmpty then [] else tlv 0x82 n

theorem tlv_content_lt {t : Byte} {c : Bytes} {n : Nat} (h : (tlv t c).length < n) : c.length < n := by
  have := tlv_length t c
  omega

theorem ncBody_eq (permitted : List Name) : ncBody permitted = encItems (permitted.map (fun n => (0x30, subtreeContent n))) := by
  unfold ncBody encItems
  rw [List.map_map]
  rfl

/-- Whatever follows the dNSName base inside a GeneralSubtree — `minimum [0]`
    (also ≠ 0), `maximum [1]`, or bytes that are no TLV at all — is not looked at: the subtree is accepted as if it
    were the bare name, in critical extensions too.  (RFC 5280 4.2.1.10: minimum MUST be 0, maximum MUST be absent;
    this parser neither rejects nor flags them.) -/
theorem nc_minimum_maximum_ignored (n tail : Bytes) (hi : isIA5 n = true) (hl : n.length < 2 ^ 31) :
    parseSubtree (tlv 0x82 n ++ tail) = some n := by
  unfold parseSubtree
  rw [optField_tlv (isCtxPrim 2) 0x82 n tail (by decide) hl rfl]
  simp [hi]

/-- A base of any other form (rfc822Name [1], iPAddress [7], directoryName [4], a
    constructed [2], …) leaves `Name` empty: the subtree is then skipped in a non-critical extension and makes
    the parse fail with `UnhandledCriticalExtension` in a critical one (see `decNameConstraints`). -/
theorem nc_other_form_empty (t : Byte) (c tail : Bytes) (ht : t.toNat % 32 ≠ 31) (hc : c.length < 2 ^ 31)
    (h2 : isCtxPrim 2 (hdrOf t c.length) = false) : parseSubtree (tlv t c ++ tail) = some [] := by
  unfold parseSubtree
  rw [optField_other (isCtxPrim 2) t c tail ht hc h2]

theorem parseSubtree_content (n : Name) (hi : isIA5 n = true) (hl : (subtreeContent n).length < 2 ^ 31) :
    parseSubtree (subtreeContent n) = some n := by
  unfold subtreeContent at hl ⊢
  by_cases he : n.isEmpty = true
  · rw [List.isEmpty_iff.mp he]; rfl
  · rw [if_neg he] at hl ⊢
    have h := nc_minimum_maximum_ignored n [] hi (tlv_content_lt hl)
    rwa [List.append_nil] at h

/-- For every IA5 list of permitted DNS domains and either criticality, the value
    `buildExtensions` writes is parsed back by case 30 of `parseCertificate` as follows: the non-empty names, in
    order, as `PermittedDNSDomains` (with `PermittedDNSDomainsCritical` = the criticality) — EXCEPT that an empty
    name (written as a subtree without base) is dropped when the extension is not critical and makes the parse
    fail with `UnhandledCriticalExtension` when it is: a certificate the package created and cannot read. -/
theorem nameConstraints_roundtrip (permitted : List Name) (critical : Bool) (h : ncWf permitted = true) :
    ∃ v, encNameConstraints permitted = some v ∧
      decNameConstraints critical v =
        if critical && permitted.any (·.isEmpty) then .unhandledCritical
        else .ok (permitted.filter (fun n => !n.isEmpty)) := by
  simp only [ncWf, Bool.and_eq_true, decide_eq_true_eq] at h
  obtain ⟨hia, hlen⟩ := h
  refine ⟨tlv 0x30 (tlv 0xa0 (ncBody permitted)), by simp [encNameConstraints, hia, ncBody], ?_⟩
  have hbody := tlv_content_lt hlen
  have h1 := topLevel_tlv isSeq 0x30 (tlv 0xa0 (ncBody permitted)) (by decide) hlen rfl
  have h2 := optField_tlv_only (isCtxCons 0) 0xa0 (ncBody permitted) (by decide) hbody rfl
  rw [ncBody_eq] at hbody
  obtain ⟨h3, h4⟩ := seqOf_map isSeq 0x30 subtreeContent parseSubtree id permitted (by decide) (fun _ => rfl) hbody
    (fun n hn => parseSubtree_content n (List.all_eq_true.mp hia n hn))
  rw [← ncBody_eq] at h3
  simp only [decNameConstraints, h1, optSubtrees, h2, h3, h4, List.map_id, optField_nil]
  simp

/-- with no empty name in the list: the very list, in order -/
theorem nameConstraints_roundtrip_nonempty (permitted : List Name) (critical : Bool) (h : ncWf permitted = true)
    (hne : ∀ n ∈ permitted, n ≠ []) :
    ∃ v, encNameConstraints permitted = some v ∧ decNameConstraints critical v = .ok permitted := by
  obtain ⟨v, hv, hd⟩ := nameConstraints_roundtrip permitted critical h
  have he : ∀ n ∈ permitted, n.isEmpty = false := fun n hn => by simp [hne n hn]
  refine ⟨v, hv, ?_⟩
  rw [hd, List.any_eq_false.mpr (by simpa using he), List.filter_eq_self.mpr (by simpa using he)]
  simp

/-- a non-IA5 name is refused at creation ("IA5String contains invalid character") -/
theorem nameConstraints_non_ia5_refused (permitted : List Name) (h : permitted.all isIA5 = false) :
    encNameConstraints permitted = none := by
  simp [encNameConstraints, h]

/-- content octets of a well-formed OID (total: `[]` outside `makeObjectIdentifier`'s domain) -/
def oidContent (o : OID) : Bytes := (encOID o).getD []

/-- content of the SEQUENCE OF OBJECT IDENTIFIER -/
def oidBody (oids : List OID) : Bytes := encItems (oids.map (fun o => (0x06, oidContent o)))

/-- OID lists that survive: every OID well formed (`wfOID`), less than 2^31 bytes in all -/
def oidsWf (oids : List OID) : Bool := oids.all wfOID && decide ((oidBody oids).length < 2 ^ 31)

theorem encOID_wf (o : OID) (h : wfOID o = true) : encOID o = some (oidContent o) ∧ decOID (oidContent o) = some o := by
  obtain ⟨c, h1, h2⟩ := oid_roundtrip o h
  simp [oidContent, h1, h2]

theorem allSome_encOID (oids : List OID) (h : oids.all wfOID = true) :
    allSome (oids.map encOID) = some (oids.map oidContent) :=
  allSome_map_some encOID oidContent oids fun o ho => (encOID_wf o (List.all_eq_true.mp h o ho)).1

/-- `asn1.Unmarshal` into `[]asn1.ObjectIdentifier` inverts `asn1.Marshal` on every list
    of well-formed OIDs -/
theorem oidlist_roundtrip (oids : List OID) (h : oidsWf oids = true) :
    ∃ v, encOIDList oids = some v ∧ decOIDList v = some oids := by
  simp only [oidsWf, Bool.and_eq_true, decide_eq_true_eq] at h
  obtain ⟨hw, hb⟩ := h
  have henc : encOIDList oids = some (tlv 0x30 (oidBody oids)) := by
    simp [encOIDList, allSome_encOID oids hw, oidBody, encItems, List.map_map, Function.comp_def]
  have h1 := topLevel_tlv isSeq 0x30 (oidBody oids) (by decide) hb rfl
  obtain ⟨h3, h4⟩ : seqOf isOIDHdr (oidBody oids) = _ ∧ _ :=
    seqOf_map isOIDHdr 0x06 oidContent decOID id oids (by decide) (fun _ => rfl) hb
      (fun o ho _ => (encOID_wf o (List.all_eq_true.mp hw o ho)).2)
  exact ⟨_, henc, by simp only [decOIDList, h1, h3, h4, List.map_id]⟩

theorem filterMap_some_self {α : Type} (l : List α) (f : α → Option α) (h : ∀ i ∈ l, f i = some i) : l.filterMap f = l := by
  induction l with
  | nil => rfl
  | cons a t ih => simp [h a (by simp), ih (fun i hi => h i (by simp [hi]))]

theorem ekuTable_wf : ekuTable.all wfOID = true := by decide

theorem ekuFromOID_table : ∀ i, i < 12 → ekuFromOID (ekuTable.getD i []) = some i := by decide

theorem oidFromEKU_lt (i : Nat) (h : i < 12) : oidFromEKU i = some (ekuTable.getD i []) := by
  unfold oidFromEKU
  have hl : ekuTable.length = 12 := rfl
  rw [List.getD_eq_getElem?_getD, List.getElem?_eq_getElem (by omega)]
  rfl

/-- For every list of defined `ExtKeyUsage` constants (0 … 11; any other value makes
    `buildExtensions` return an error - a panic before the repair 54b86c2) and every list of well-formed `UnknownExtKeyUsage` OIDs: what comes back is
    the known usages in order FOLLOWED BY those "unknown" OIDs that are in fact in the table (they change
    lists), and as `UnknownExtKeyUsage` the remaining OIDs in order.  Relative order inside each list is
    preserved; the interleaving between the two lists does not exist on the template side either. -/
theorem eku_roundtrip (known : List Nat) (unknown : List OID) (hk : known.all (· < 12) = true)
    (h : oidsWf (known.map (ekuTable.getD · []) ++ unknown) = true) :
    ∃ v, encEKU known unknown = some v ∧
      decEKU v = some (known ++ unknown.filterMap ekuFromOID, unknown.filter (fun o => (ekuFromOID o).isNone)) := by
  have hk' : ∀ i ∈ known, i < 12 := fun i hi => by simpa using List.all_eq_true.mp hk i hi
  obtain ⟨v, hv, hd⟩ := oidlist_roundtrip _ h
  have hks : allSome (known.map oidFromEKU) = some (known.map (ekuTable.getD · [])) :=
    allSome_map_some oidFromEKU (ekuTable.getD · []) known (fun i hi => oidFromEKU_lt i (hk' i hi))
  refine ⟨v, by simp only [encEKU, hks, hv], ?_⟩
  have e1 : (known.map (ekuTable.getD · [])).filterMap ekuFromOID = known := by
    rw [List.filterMap_map]
    exact filterMap_some_self known _ (fun i hi => ekuFromOID_table i (hk' i hi))
  have e2 : (known.map (ekuTable.getD · [])).filter (fun o => (ekuFromOID o).isNone) = [] := by
    rw [List.filter_eq_nil_iff]
    intro o ho
    obtain ⟨i, hi, rfl⟩ := List.mem_map.mp ho
    rw [ekuFromOID_table i (hk' i hi)]
    simp
  simp only [decEKU, hd, Option.map_some, splitEKU, List.filterMap_append, List.filter_append]
  rw [e1, e2]
  simp

/-- when no "unknown" OID is a table entry, both template lists come back exactly -/
theorem eku_roundtrip_disjoint (known : List Nat) (unknown : List OID) (hk : known.all (· < 12) = true)
    (h : oidsWf (known.map (ekuTable.getD · []) ++ unknown) = true) (hu : ∀ o ∈ unknown, ekuFromOID o = none) :
    ∃ v, encEKU known unknown = some v ∧ decEKU v = some (known, unknown) := by
  obtain ⟨v, hv, hd⟩ := eku_roundtrip known unknown hk h
  refine ⟨v, hv, ?_⟩
  rw [hd, List.filterMap_eq_nil_iff.mpr hu, List.filter_eq_self.mpr (fun o ho => by simp [hu o ho])]
  simp

/-- an arc above MaxInt32 in an OID is written and cannot be read back: `encOID` succeeds, `decOID` fails -/
theorem oid_large_arc_unreadable (a b : Nat) (pre post : List Nat) (n : Nat) (hab : wfOID (a :: b :: pre) = true)
    (hn : maxInt32 < n) (hn2 : n < 2 ^ 63) :
    ∃ c, encOID (a :: b :: (pre ++ n :: post)) = some c ∧ decOID c = none := by
  simpa [oid_subid_too_large n hn (by omega)] using decOID_encOID_append a b pre (n :: post) hab

/-- the loop of `parseObjectIdentifier` as the model writes it (one state machine over the bytes) IS repeated
    `parseBase128Int`: one integer from the front, then the loop again on what is left -/
theorem decSubids_eq_readBase128 (bs : Bytes) (s r : Nat) (h : bs ≠ [] ∨ s ≠ 0) :
    decSubids s r bs =
      match readBase128 s r bs with
      | none => none
      | some (v, rest) => match decSubids 0 0 rest with | none => none | some l => some (v :: l) := by
  induction bs generalizing s r with
  | nil =>
    cases s with
    | zero => simp at h
    | succ s => rfl
  | cons b bs ih =>
    -- the two readers test the same conditions in the same order (`split` finds the cases too, at four times the cost)
    rw [decSubids_cons, readBase128_cons]
    by_cases h5 : s = 5
    · rw [if_pos h5, if_pos h5]
    · rw [if_neg h5, if_neg h5]
      by_cases h0 : s = 0 ∧ b.toNat = 128
      · rw [if_pos h0, if_pos h0]
      · rw [if_neg h0, if_neg h0]
        by_cases hl : b.toNat < 128
        · rw [if_pos hl, if_pos hl]
          split <;> rfl
        · rw [if_neg hl, if_neg hl]
          exact ih (s + 1) _ (Or.inr (by omega))

/-- the OCTET STRING written for `SubjectKeyId` is read back as the same bytes (any bytes) -/
theorem ski_roundtrip (id : Bytes) (h : id.length < 2 ^ 31) : decSKI (encSKI id) = some id :=
  topLevel_tlv isOctets 0x04 id (by decide) h rfl

/-- SEQUENCE { [0] id } is read back as `id` -/
theorem aki_roundtrip (id : Bytes) (h : (tlv 0x80 id).length < 2 ^ 31) : decAKI (encAKI id) = some id := by
  have h1 := topLevel_tlv isSeq 0x30 (tlv 0x80 id) (by decide) h rfl
  have h2 := optField_tlv_only (isCtxPrim 0) 0x80 id (by decide) (tlv_content_lt h) rfl
  simp only [decAKI, encAKI, h1, h2]

/-- which id `CreateCertificate` writes: the parent's SubjectKeyId when the parent has one and another name,
    else the template's AuthorityKeyId — and nothing when that is empty -/
theorem aki_written (sameName : Bool) (parentSKI templateAKI : Bytes) :
    akiEmitted { aki := effectiveAKI sameName parentSKI templateAKI } =
      if !sameName && !parentSKI.isEmpty then true else !templateAKI.isEmpty := by
  unfold effectiveAKI akiEmitted
  split <;> simp_all

def policyBody (oids : List OID) : Bytes := encItems (oids.map (fun o => (0x30, tlv 0x06 (oidContent o))))

def policiesWf (oids : List OID) : Bool := oids.all wfOID && decide ((policyBody oids).length < 2 ^ 31)

theorem parsePolicy_tlv (c : Bytes) (h : c.length < 2 ^ 31) : parsePolicy (tlv 0x06 c) = decOID c := by
  have h1 := readHeader_tlv 0x06 c [] (by decide) h
  rw [List.append_nil, List.append_nil] at h1
  have e : isOIDHdr (hdrOf 0x06 c.length) = true := rfl
  unfold parsePolicy
  rw [h1]
  simp only [e, hdrOf_len, Bool.not_true, Bool.false_eq_true, if_false, Nat.lt_irrefl, List.take_length]

/-- `PolicyIdentifiers` come back exactly, for every list of well-formed OIDs -/
theorem policies_roundtrip (oids : List OID) (h : policiesWf oids = true) :
    ∃ v, encPolicies oids = some v ∧ decPolicies v = some oids := by
  simp only [policiesWf, Bool.and_eq_true, decide_eq_true_eq] at h
  obtain ⟨hw, hb⟩ := h
  have henc : encPolicies oids = some (tlv 0x30 (policyBody oids)) := by
    simp [encPolicies, allSome_encOID oids hw, policyBody, encItems, List.map_map, Function.comp_def]
  have h1 := topLevel_tlv isSeq 0x30 (policyBody oids) (by decide) hb rfl
  obtain ⟨h3, h4⟩ : seqOf isSeq (policyBody oids) = _ ∧ _ :=
    seqOf_map isSeq 0x30 (fun o => tlv 0x06 (oidContent o)) parsePolicy id oids (by decide) (fun _ => rfl) hb
      (fun o ho hl => by
        rw [parsePolicy_tlv _ (tlv_content_lt hl)]
        exact (encOID_wf o (List.all_eq_true.mp hw o ho)).2)
  exact ⟨_, henc, by simp only [decPolicies, h1, h3, h4, List.map_id]⟩

def dpContent (u : Name) : Bytes := tlv 0xa0 (tlv 0xa0 (tlv 0x86 u))

def crlBody (uris : List Name) : Bytes := encItems (uris.map (fun u => (0x30, dpContent u)))

theorem parseDP_content (u : Name) (h : (dpContent u).length < 2 ^ 31) : parseDP (dpContent u) = some (some u) := by
  unfold dpContent at h ⊢
  have l1 := tlv_content_lt h
  have l2 := tlv_content_lt l1
  have h1 := optField_tlv_only (isCtxCons 0) 0xa0 (tlv 0xa0 (tlv 0x86 u)) (by decide) l1 rfl
  have h2 := optField_tlv_only (isCtx 0) 0xa0 (tlv 0x86 u) (by decide) l2 rfl
  have h3 := tlv_roundtrip 0x86 u [] (by decide) (tlv_content_lt l2)
  rw [List.append_nil] at h3
  have hx : tlv 0x86 u = 0x86 :: (Spec.DER.encLen u.length ++ u) := rfl
  have hfull : fullNameURI (tlv 0x86 u) = some (some u) := by
    unfold fullNameURI
    rw [hx]
    simp only
    rw [← hx, h3]
    rfl
  simp only [parseDP, h1, parseDPName, h2, hfull, optField_nil]
  rfl

/-- `CRLDistributionPoints` (any byte strings, incl. the empty one) come back exactly, in order -/
theorem crldp_roundtrip (uris : List Name) (h : (crlBody uris).length < 2 ^ 31) : decCRLDP (encCRLDP uris) = some uris := by
  have henc : encCRLDP uris = tlv 0x30 (crlBody uris) := by
    simp [encCRLDP, crlBody, encItems, List.map_map, Function.comp_def, dpContent]
  have h1 := topLevel_tlv isSeq 0x30 (crlBody uris) (by decide) h rfl
  obtain ⟨h3, h4⟩ : seqOf isSeq (crlBody uris) = _ ∧ _ :=
    seqOf_map isSeq 0x30 dpContent parseDP some uris (by decide) (fun _ => rfl) h (fun u _ hl => parseDP_content u hl)
  simp only [decCRLDP, henc, h1, h3, h4, Option.map_some, List.filterMap_map]
  simp

/-- the SAN extension is never marked critical by this `buildExtensions`, not even for an empty subject -/
theorem san_never_critical (subjectEmpty : Bool) : sanCritical subjectEmpty = false := rfl

theorem san_emitted_iff (t : Template) : sanEmitted t = true ↔ t.dns ≠ [] ∨ t.emails ≠ [] ∨ t.ips ≠ [] := by
  unfold sanEmitted
  cases t.dns <;> cases t.emails <;> cases t.ips <;> simp

theorem ite_singleton_sublist {α : Type} (b : Bool) (x : α) : List.Sublist (if b = true then [x] else []) [x] := by
  cases b <;> simp

/-- Whatever the template, the extensions are written in the fixed order keyUsage,
    extKeyUsage, basicConstraints, subjectKeyId, authorityKeyId, authorityInfoAccess, subjectAltName,
    certificatePolicies, nameConstraints, cRLDistributionPoints, each at most once -/
theorem extension_order (t : Template) (se : Bool) :
    List.Sublist ((extensionList t se).map (·.1)) [15, 37, 19, 14, 35, 1, 17, 32, 30, 31] := by
  have h : List.Sublist (extensionList t se) ([(15, true)] ++ [(37, false)] ++ [(19, true)] ++ [(14, false)] ++ [(35, false)] ++
      [(1, false)] ++ [(17, sanCritical se)] ++ [(32, false)] ++ [(30, ncCritical t)] ++ [(31, false)]) := by
    unfold extensionList
    repeat' apply List.Sublist.append
    all_goals exact ite_singleton_sublist _ _
  exact h.map _

/-- only keyUsage, basicConstraints and (on request) nameConstraints are ever critical -/
theorem critical_only (t : Template) (se : Bool) (e : Nat × Bool) (h : e ∈ extensionList t se) (hc : e.2 = true) :
    e.1 = 15 ∨ e.1 = 19 ∨ (e.1 = 30 ∧ t.permittedCritical = true) := by
  obtain ⟨k, c⟩ := e
  subst hc
  -- of the ten entries only those written with `true` or with `ncCritical t` can be `(k, true)`
  simp only [extensionList, List.mem_append, List.mem_ite_nil_right, List.mem_singleton, Prod.mk.injEq, sanCritical,
    ncCritical, Bool.true_eq_false, and_false, or_false] at h
  rcases h with (⟨_, rfl, _⟩ | ⟨_, rfl, _⟩) | ⟨_, rfl, hc⟩
  · exact Or.inl rfl
  · exact Or.inr (Or.inl rfl)
  · exact Or.inr (Or.inr ⟨rfl, hc.symm⟩)

/-- length octets: short form up to 127, `81 80` for 128, `82 01 00` for 256, `84 7f ff ff ff` at the limit -/
example : Spec.DER.encLen 127 = [0x7f] ∧ Spec.DER.encLen 128 = [0x81, 0x80] ∧ Spec.DER.encLen 255 = [0x81, 0xff] ∧
    Spec.DER.encLen 256 = [0x82, 0x01, 0x00] ∧ Spec.DER.encLen 65536 = [0x83, 0x01, 0x00, 0x00] ∧
    Spec.DER.encLen (2 ^ 31 - 1) = [0x84, 0x7f, 0xff, 0xff, 0xff] := by decide +kernel
/-- non-minimal, indefinite and over-long lengths are refused -/
example : readLength [0x81, 0x7f] = none ∧ readLength [0x80] = none ∧ readLength [0x82, 0x00, 0x80] = none ∧
    readLength [0x84, 0x80, 0x00, 0x00, 0x00] = none ∧ readLength [0x85, 0x01, 0, 0, 0, 0] = none ∧
    readLength [0x84, 0x7f, 0xff, 0xff, 0xff, 0xaa] = some (2 ^ 31 - 1, [0xaa]) := by decide +kernel
/-- subidentifiers: 127 | 128 | 2^31-1 | 2^31 (refused when read) -/
example : encBase128 127 = [0x7f] ∧ encBase128 128 = [0x81, 0x00] ∧ encBase128 2147483647 = [0x87, 0xff, 0xff, 0xff, 0x7f] ∧
    encBase128 2147483648 = [0x88, 0x80, 0x80, 0x80, 0x00] ∧ decSubids 0 0 [0x88, 0x80, 0x80, 0x80, 0x00] = none ∧
    decSubids 0 0 [0x80, 0x01] = none ∧ decSubids 0 0 [0x81] = none := by decide +kernel
/-- the first-octet corners -/
example : encOID [2, 39] = some [0x77] ∧ encOID [2, 40] = some [0x78] ∧ encOID [2, 999] = some [0x88, 0x37] ∧
    encOID [1, 39] = some [0x4f] ∧ encOID [1, 40] = none ∧ encOID [3, 0] = none ∧ encOID [2] = none ∧
    decOID [0x77] = some [2, 39] ∧ decOID [0x78] = some [2, 40] ∧ decOID [0x88, 0x37] = some [2, 999] ∧
    decOID [0x4f] = some [1, 39] ∧ decOID [0x50] = some [2, 0] ∧ decOID [] = none := by decide +kernel
/-- 40·2 + b overflowing the Go int: nothing is written for the first subidentifier -/
example : encOID [2, 2 ^ 63 - 1, 5] = some [0x05] ∧ encOID [2, 2 ^ 63 - 81, 5] = some ([0xff, 0xff, 0xff, 0xff, 0xff, 0xff, 0xff, 0xff, 0x7f] ++ [0x05]) := by
  decide +kernel

example : encSAN [[0x61, 0x2e, 0x62]] [[0x78, 0x40, 0x79]] [[10, 0, 0, 1], [0, 0, 0, 0, 0, 0, 0, 0, 0, 0, 0xff, 0xff, 10, 0, 0, 2]] =
    [0x30, 0x16, 0x82, 0x03, 0x61, 0x2e, 0x62, 0x81, 0x03, 0x78, 0x40, 0x79, 0x87, 0x04, 10, 0, 0, 1, 0x87, 0x04, 10, 0, 0, 2] ∧
    decSAN [0x30, 0x16, 0x82, 0x03, 0x61, 0x2e, 0x62, 0x81, 0x03, 0x78, 0x40, 0x79, 0x87, 0x04, 10, 0, 0, 1, 0x87, 0x04, 10, 0, 0, 2] =
      some ([[0x61, 0x2e, 0x62]], [[0x78, 0x40, 0x79]], [[10, 0, 0, 1], [10, 0, 0, 2]]) := by decide +kernel
/-- a name of 200 bytes: long-form lengths on the element and on the SEQUENCE; the hypothesis of `san_roundtrip` holds -/
example : sanWf [List.replicate 200 0x61] [] [] = true ∧
    (encSAN [List.replicate 200 0x61] [] []).take 6 = [0x30, 0x81, 0xcb, 0x82, 0x81, 0xc8] ∧
    decSAN (encSAN [List.replicate 200 0x61] [] []) = some ([List.replicate 200 0x61], [], []) := by decide +kernel
/-- an IP address of 5 bytes is written but refused when read; the empty SEQUENCE parses to nothing (and is then
    "unhandled" if critical); trailing bytes are refused; the tag CLASS is not looked at: a universal INTEGER
    counts as a dNSName, an application-class [1] as an e-mail address -/
example : decSAN (encSAN [] [] [[1, 2, 3, 4, 5]]) = none ∧ sanWf [] [] [[1, 2, 3, 4, 5]] = false ∧
    decSAN [0x30, 0x00] = some ([], [], []) ∧ sanUnhandled true ([], [], []) = true ∧
    decSAN [0x30, 0x00, 0x00] = none ∧ decSAN [0x31, 0x00] = none ∧ decSAN [] = none := by decide +kernel
example :
    decSAN [0x30, 0x03, 0x02, 0x01, 0x05] = some ([[(0x05 : Byte)]], [], []) ∧
    decSAN [0x30, 0x03, 0x41, 0x01, 0x78] = some ([], [[(0x78 : Byte)]], []) ∧
    decSAN [0x30, 0x03, 0x86, 0x01, 0x78] = some ([], [], []) :=
  ⟨by decide +kernel, by decide +kernel, by decide +kernel⟩

/-- nameConstraints: "a" and ""; the empty name is lost (non-critical) or fatal (critical) -/
example : encNameConstraints [[0x61], []] = some [0x30, 0x09, 0xa0, 0x07, 0x30, 0x03, 0x82, 0x01, 0x61, 0x30, 0x00] ∧
    decNameConstraints false [0x30, 0x09, 0xa0, 0x07, 0x30, 0x03, 0x82, 0x01, 0x61, 0x30, 0x00] = .ok [[0x61]] ∧
    decNameConstraints true [0x30, 0x09, 0xa0, 0x07, 0x30, 0x03, 0x82, 0x01, 0x61, 0x30, 0x00] = .unhandledCritical ∧
    encNameConstraints [[0xe9]] = none := by decide +kernel
/-- excluded subtrees: fatal when critical, silently IGNORED when not; minimum 5 / maximum 7 accepted;
    rfc822Name base skipped / fatal -/
example :
    decNameConstraints true [0x30, 0x07, 0xa1, 0x05, 0x30, 0x03, 0x82, 0x01, 0x78] = .unhandledCritical ∧
    decNameConstraints false [0x30, 0x07, 0xa1, 0x05, 0x30, 0x03, 0x82, 0x01, 0x78] = .ok [] ∧
    decNameConstraints true [0x30, 0x0d, 0xa0, 0x0b, 0x30, 0x09, 0x82, 0x01, 0x61, 0x80, 0x01, 0x05, 0x81, 0x01, 0x07] = .ok [[0x61]] ∧
    decNameConstraints false [0x30, 0x07, 0xa0, 0x05, 0x30, 0x03, 0x81, 0x01, 0x78] = .ok [] ∧
    decNameConstraints true [0x30, 0x07, 0xa0, 0x05, 0x30, 0x03, 0x81, 0x01, 0x78] = .unhandledCritical ∧
    decNameConstraints false [0x30, 0x07, 0xa0, 0x05, 0x30, 0x03, 0x82, 0x01, 0xe9] = .err := by decide +kernel

/-- extKeyUsage: serverAuth + an unknown OID; a known OID listed as "unknown" changes lists; an arc of 2^31 is
    written and not read back -/
example : encEKU [1] [[1, 2, 3]] = some [0x30, 0x0e, 0x06, 0x08, 0x2b, 6, 1, 5, 5, 7, 3, 1, 0x06, 0x02, 0x2a, 0x03] ∧
    decEKU [0x30, 0x0e, 0x06, 0x08, 0x2b, 6, 1, 5, 5, 7, 3, 1, 0x06, 0x02, 0x2a, 0x03] = some ([1], [[1, 2, 3]]) ∧
    (encEKU [] [[1, 2, 3], [2, 5, 29, 37, 0]]).bind decEKU = some ([0], [[1, 2, 3]]) ∧
    (encEKU [] [[1, 2, 2147483648]]).bind decEKU = none ∧ (encEKU [] [[1, 2, 2147483648]]).isSome = true ∧
    encEKU [12] [] = none := by decide +kernel

example : encSKI [1, 2] = [0x04, 0x02, 1, 2] ∧ decSKI [0x04, 0x02, 1, 2] = some [1, 2] ∧ decSKI [0x04, 0x02, 1, 2, 0] = none ∧
    encAKI [1, 2] = [0x30, 0x04, 0x80, 0x02, 1, 2] ∧ decAKI [0x30, 0x04, 0x80, 0x02, 1, 2] = some [1, 2] ∧
    decAKI [0x30, 0x03, 0x81, 0x7f, 0x00] = some [] ∧ decAKI [0x30, 0x03, 0x80, 0x7f, 0x00] = none := by decide +kernel

example : encPolicies [[2, 5, 29, 32, 0]] = some [0x30, 0x08, 0x30, 0x06, 0x06, 0x04, 0x55, 0x1d, 0x20, 0x00] ∧
    decPolicies [0x30, 0x08, 0x30, 0x06, 0x06, 0x04, 0x55, 0x1d, 0x20, 0x00] = some [[2, 5, 29, 32, 0]] ∧
    encCRLDP [[0x75]] = [0x30, 0x09, 0x30, 0x07, 0xa0, 0x05, 0xa0, 0x03, 0x86, 0x01, 0x75] ∧
    decCRLDP [0x30, 0x09, 0x30, 0x07, 0xa0, 0x05, 0xa0, 0x03, 0x86, 0x01, 0x75] = some [[0x75]] := by decide +kernel

example : extensionList { dns := [[0x61]], permitted := [[0x62]], permittedCritical := true, keyUsage := true } true =
    [(15, true), (17, false), (30, true)] := by decide

end Props.C09Names
