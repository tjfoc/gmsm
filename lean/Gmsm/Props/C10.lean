/-
C10 — Chain verification accepts exactly the chains a reference path validator accepts.

`Model.X509` mirrors x509/verify.go + cert_pool.go over abstract certificates (tied to the code by
issuing real certificates for generated PKIs and comparing `Verify`'s outcome, see DESIGN §7 C10).
Here: the reference validator (`GoodSuffix`, `GoodPath`) and soundness of every returned chain for all
pools, signature relations and options (`buildChains_sound`, `verify_sound`).  `GoodSuffix.induction` and
`goodPath_issuers` are how the later files reason about good paths.  The equations of the search the proofs start from, and termination
(structural: the model carries the code's own work budget, `buildChains_budget`), are in
`Props/C10Search.lean`; completeness is in `Props/C10Complete.lean`.
-/
import Gmsm.Props.C10Search
namespace Props.C10
open Model.X509

/-- the last certificate of `chain` is correctly signed by `p` (CA conditions + signature) -/
def Link (chain : List Cert) (p : Cert) : Prop :=
  ∃ c, chain.getLast? = some c ∧ checkSigFrom c p = true

def Fresh (chain : List Cert) (p : Cert) : Prop := chain.any (·.id == p.id) = false

/-- What it means for `suffix` to complete `chain` (leaf first) to a valid path: every added
    certificate is taken from the right pool, correctly signs its predecessor, passes `isValid`
    (name chaining, validity period at `now`, permitted DNS domains, CA flag for intermediates, path
    length for its position), does not repeat, and the last one is a root. -/
def GoodSuffix (roots inters : List Cert) (o : Opts) : List Cert → List Cert → Prop
  | _, [] => False
  | chain, [r] => r ∈ roots ∧ Link chain r ∧ isValid r .root chain o = none ∧ Fresh chain r
  | chain, i :: r :: rest =>
      i ∈ inters ∧ Link chain i ∧ isValid i .intermediate chain o = none ∧ Fresh chain i ∧
      GoodSuffix roots inters o (chain ++ [i]) (r :: rest)

theorem mem_findVerifiedParents (pool : List Cert) (c p : Cert) (h : p ∈ findVerifiedParents pool c) :
    p ∈ pool ∧ checkSigFrom c p = true :=
  let ⟨h1, h2, _⟩ := (mem_findVerifiedParents_iff pool c p).mp h
  ⟨h1, h2⟩

theorem usable_iff {o : Opts} {kind : Kind} {chain : List Cert} {p : Cert} :
    usable o kind chain p = true ↔ isValid p kind chain o = none ∧ Fresh chain p := by
  simp only [usable, Fresh, Bool.and_eq_true, Bool.not_eq_true', Option.isNone_iff_eq_none, and_comm]

section
variable {roots inters : List Cert} {o : Opts}

/-- `GoodSuffix` read as an inductive predicate -/
theorem GoodSuffix.induction {motive : List Cert → List Cert → Prop}
    (root : ∀ chain r, r ∈ roots → Link chain r → usable o .root chain r = true → motive chain [r])
    (inter : ∀ chain i rest, i ∈ inters → Link chain i → usable o .intermediate chain i = true →
      GoodSuffix roots inters o (chain ++ [i]) rest → motive (chain ++ [i]) rest → motive chain (i :: rest))
    {chain suffix : List Cert} (h : GoodSuffix roots inters o chain suffix) : motive chain suffix := by
  induction suffix generalizing chain with
  | nil => exact h.elim
  | cons i rest ih =>
    cases rest with
    | nil =>
      obtain ⟨hr, hl, hu⟩ := h
      exact root _ _ hr hl (usable_iff.mpr hu)
    | cons r rest =>
      obtain ⟨hi, hl, hv, hf, hg⟩ := h
      exact inter _ _ _ hi hl (usable_iff.mpr ⟨hv, hf⟩) hg (ih hg)

theorem goodSuffix_root {chain : List Cert} {r : Cert}
    (hr : r ∈ roots) (hl : Link chain r) (hu : usable o .root chain r = true) : GoodSuffix roots inters o chain [r] :=
  ⟨hr, hl, usable_iff.mp hu⟩

theorem goodSuffix_cons {chain suffix : List Cert} {i : Cert}
    (hi : i ∈ inters) (hl : Link chain i) (hu : usable o .intermediate chain i = true)
    (hs : GoodSuffix roots inters o (chain ++ [i]) suffix) : GoodSuffix roots inters o chain (i :: suffix) := by
  cases suffix with
  | nil => exact hs.elim
  | cons r rest => exact ⟨hi, hl, (usable_iff.mp hu).1, (usable_iff.mp hu).2, hs⟩

end

/-- soundness of the search -/
theorem buildChains_sound (roots inters : List Cert) (o : Opts) (fuel steps : Nat) (chain : List Cert) :
    ∀ full ∈ (buildChains roots inters o fuel steps chain).1,
      ∃ suffix, full = chain ++ suffix ∧ GoodSuffix roots inters o chain suffix := by
  refine buildChains_induction (motive := fun _ _ chain res => ∀ full ∈ res.1,
    ∃ suffix, full = chain ++ suffix ∧ GoodSuffix roots inters o chain suffix) (fun _ _ _ _ _ h => nomatch h) ?_ fuel steps chain
  intro fuel steps chain c _ hc ih full h
  rcases mem_foldl_interStep h with h | ⟨i, hi, hu, st, h⟩
  · obtain ⟨r, hr, hu, rfl⟩ := mem_viaRoots.mp h
    have hr := mem_findVerifiedParents roots c r hr
    exact ⟨[r], rfl, goodSuffix_root hr.1 ⟨c, hc, hr.2⟩ hu⟩
  · obtain ⟨suffix, rfl, hg⟩ := ih st _ full h
    have hi := mem_findVerifiedParents inters c i hi
    exact ⟨i :: suffix, (List.append_cons ..).symm, goodSuffix_cons hi.1 ⟨c, hc, hi.2⟩ hu hg⟩

/-- The reference path validator: `chain` (leaf first) is the leaf alone and the leaf is in the root pool, or the
    leaf is not in the root pool and the chain is the leaf followed by a good suffix.  Key identifiers play no role. -/
def GoodPath (roots inters : List Cert) (o : Opts) (leaf : Cert) (chain : List Cert) : Prop :=
  (chain = [leaf] ∧ roots.any (·.id == leaf.id) = true) ∨
  (roots.any (·.id == leaf.id) = false ∧
    ∃ suffix, chain = [leaf] ++ suffix ∧ GoodSuffix roots inters o [leaf] suffix)

/-- what holds of every certificate that a chain was extended by holds of every issuer on a good path -/
theorem goodPath_issuers {roots inters : List Cert} {o : Opts} {leaf : Cert} {chain : List Cert} {P : Cert → Prop}
    (h : ∀ chain kind p, kind ≠ .leaf → Link chain p → usable o kind chain p = true → P p)
    (hg : GoodPath roots inters o leaf chain) : chain.head? = some leaf ∧ ∀ p ∈ chain.tail, P p := by
  rcases hg with ⟨rfl, _⟩ | ⟨_, suffix, rfl, hs⟩
  · exact ⟨rfl, fun _ hp => nomatch hp⟩
  · refine ⟨rfl, GoodSuffix.induction (motive := fun _ suffix => ∀ p ∈ suffix, P p) ?_ ?_ hs⟩
    · intro chain r _ hl hu p hp
      cases List.mem_singleton.mp hp
      exact h chain .root r (by decide) hl hu
    · intro chain i rest _ hl hu _ ih p hp
      rcases List.mem_cons.mp hp with rfl | hp
      · exact h chain .intermediate p (by decide) hl hu
      · exact ih p hp

theorem candidates_sound {roots inters : List Cert} {leaf : Cert} {o : Opts} {chain : List Cert}
    (h : chain ∈ candidates roots inters leaf o) : GoodPath roots inters o leaf chain := by
  unfold candidates at h
  split at h
  · next hroot => exact .inl ⟨List.mem_singleton.mp h, hroot⟩
  · next hroot => exact .inr ⟨Bool.eq_false_iff.mpr hroot, buildChains_sound roots inters o _ _ [leaf] chain h⟩

/-- soundness of `Verify`, no budget hypothesis: it returns at least one chain, and every chain it returns is a
    good path that is acceptable for the requested key usages -/
theorem verify_only_if_good_path {roots inters : List Cert} {leaf : Cert} {o : Opts} {chains : List (List Nat)}
    (h : verify roots inters leaf o = .ok chains) :
    chains ≠ [] ∧ ∀ ids ∈ chains,
      ∃ chain, ids = chain.map (·.id) ∧ GoodPath roots inters o leaf chain ∧ usageOK o chain = true := by
  obtain ⟨_, _, _, hne, rfl⟩ := verify_ok_iff.mp h
  refine ⟨by simpa using hne, fun ids hids => ?_⟩
  obtain ⟨ch, hch, rfl⟩ := List.mem_map.mp hids
  exact ⟨ch, rfl, candidates_sound (List.mem_filter.mp hch).1, (List.mem_filter.mp hch).2⟩

/-- C10, soundness: every chain `Verify` returns is either the leaf alone when the leaf itself is a trusted root, or
    the leaf followed by a good suffix (so it ends in a root, passes through intermediates only, every link is
    correctly signed, every certificate is valid at the verification time, name constraints, CA flags and path
    lengths are respected, nothing repeats); and the leaf carries no unhandled critical extension, is itself valid,
    matches the requested host name, and the chain is acceptable for the requested key usages. -/
theorem verify_sound (roots inters : List Cert) (leaf : Cert) (o : Opts) (chains : List (List Nat))
    (h : verify roots inters leaf o = .ok chains) :
    leaf.critical = false ∧ isValid leaf .leaf [] o = none ∧
    (o.dnsName.length > 0 → verifyHostname leaf o = true) ∧
    ∀ ids ∈ chains, ∃ chain : List Cert, ids = chain.map (·.id) ∧
      ((chain = [leaf] ∧ roots.any (·.id == leaf.id) = true) ∨
        ∃ suffix, chain = [leaf] ++ suffix ∧ GoodSuffix roots inters o [leaf] suffix) ∧
      ((if o.usages.isEmpty then [1] else o.usages).contains 0 = true ∨
        checkChainForKeyUsage chain (if o.usages.isEmpty then [1] else o.usages) = true) := by
  obtain ⟨h1, h2, h3, _⟩ := verify_ok_iff.mp h
  refine ⟨h1, h2, h3, fun ids hids => ?_⟩
  obtain ⟨chain, hc, hg, hu⟩ := (verify_only_if_good_path h).2 ids hids
  exact ⟨chain, hc, hg.imp_right (·.2), Bool.or_eq_true _ _ ▸ hu⟩

/-- one certificate: a certificate without any extended key usage, or with
    `anyExtendedKeyUsage`, never restricts the requested usages. -/
theorem eku_unrestricted (c : Cert) (us : List Nat) (h : (c.eku.isEmpty && !c.unknownEku) = true ∨ c.eku.contains 0 = true)
    (hne : us ≠ []) : checkChainForKeyUsage [c] us = true := by
  unfold checkChainForKeyUsage
  simp only [List.isEmpty_cons, Bool.false_eq_true, if_false, List.reverse_cons, List.reverse_nil, List.nil_append,
    List.foldl_cons, List.foldl_nil]
  rcases h with h | h
  · simp [h]
  · by_cases h1 : (c.eku.isEmpty && !c.unknownEku) = true
    · simp [h1]
    · have h0 : 0 ∈ c.eku := by simpa using h
      simp [h1, h0]

/-- root ← intermediate ← leaf, all fields in order, is verified with one chain. -/
def exRoot : Cert := ⟨1, 10, 10, 10, 10, none, none, -100, 100, true, true, -1, 0, [], [], [], "", [], false, false, 3⟩
def exInt : Cert := ⟨2, 20, 10, 20, 10, none, none, -100, 100, true, true, -1, 0, [], [], [], "", [], false, false, 3⟩
def exLeaf : Cert := ⟨3, 90, 20, 90, 20, none, none, -100, 100, false, false, -1, 1, [], ["www.example.com"], [], "", [], false, false, 3⟩
example : (match verify [exRoot] [exInt] exLeaf ⟨0, "", false, "", []⟩ with
    | .ok cs => cs | _ => []) = [[3, 2, 1]] := by decide

end Props.C10
