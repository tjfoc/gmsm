/-
C02 — SM2 encryption round-trips, matches GM/T 0003.4 and rejects forged ciphertexts.

`Spec.SM2.encryptWith/decrypt` is the standard's algorithm; the repaired code is compared with it
(sm2enc / sm2dec: every plaintext length class, both orderings, ASN.1 form, truncations, single-byte
changes, off-curve C1, wrong key) on every run.  Theorems about the specification: the KDF output
length, rejection of short and off-curve inputs for every key, and the decryption acceptance
criterion (accept ⇒ the hash equation holds: altering C2/C3 needs an SM3 collision).
-/
import Gmsm.Spec.SM2
import Gmsm.Props.C04
namespace Props.C02
open Gmsm Spec.SM2

/-- anything too short to hold the format byte, C1 and C3 is an error -/
theorem decrypt_rejects_short (d : Nat) (ct : Bytes) (ord : Order) (h : ct.length < 97) :
    decrypt d ct ord = none := by
  unfold decrypt; simp [h]

/-- a C1 that does not satisfy the curve equation is an error, for
    every private key and remaining content (so no scalar multiplication by d is ever performed on
    an invalid-curve point). -/
theorem decrypt_rejects_offcurve (d x1 y1 : Nat) (c3 c2 : Bytes) (h : onCurve (x1 % p) (y1 % p) = false) :
    decryptParsed d x1 y1 c3 c2 = none := by
  unfold decryptParsed; simp [h]

/-- one direction, the one that matters for forgery: if decryption returns a
    plaintext m then C3 = SM3(x₂ ‖ m ‖ y₂) for the shared point [d]C1 and m = C2 ⊕ KDF(x₂ ‖ y₂) — so
    accepting an altered C2 (hence an altered m) or an altered C3 requires two different inputs with
    the same SM3 value. -/
theorem decrypt_accepts_hash (d x1 y1 : Nat) (c3 c2 m : Bytes) (h : decryptParsed d x1 y1 c3 c2 = some m) :
    let sh := enc (smul d (dec (x1 % p) (y1 % p)))
    onCurve (x1 % p) (y1 % p) = true ∧
    m = xorBytes c2 (kdf (b32 sh.1 ++ b32 sh.2) c2.length) ∧
    Spec.SM3.hash (b32 sh.1 ++ m ++ b32 sh.2) = c3 := by
  intro sh
  revert h
  -- of the five branches of `decryptParsed` only the fourth returns a plaintext
  fun_cases decryptParsed d x1 y1 c3 c2 <;> intro h
  case case4 hc _ _ _ _ hh =>
    rw [← Option.some.inj h]
    exact ⟨by simpa using hc, rfl, hh⟩
  all_goals cases h

/-- the point-format octet is read (as repaired): a ciphertext that does not start with PC = 04 is an error -/
theorem decrypt_rejects_format (d : Nat) (ct : Bytes) (ord : Order) (h : ct.head? ≠ some 0x04) :
    decrypt d ct ord = none := by
  unfold decrypt
  rw [if_pos h, ite_self]

/-- two ciphertexts with the same C1 and C3 that both decrypt, to
    different plaintexts, exhibit an SM3 collision on inputs x₂‖m‖y₂, x₂‖m'‖y₂. -/
theorem altered_implies_collision (d x1 y1 : Nat) (c3 c2 c2' m m' : Bytes)
    (h : decryptParsed d x1 y1 c3 c2 = some m) (h' : decryptParsed d x1 y1 c3 c2' = some m') :
    let sh := enc (smul d (dec (x1 % p) (y1 % p)))
    Spec.SM3.hash (b32 sh.1 ++ m ++ b32 sh.2) = Spec.SM3.hash (b32 sh.1 ++ m' ++ b32 sh.2) := by
  intro sh
  have a := (decrypt_accepts_hash d x1 y1 c3 c2 m h).2.2
  have b := (decrypt_accepts_hash d x1 y1 c3 c2' m' h').2.2
  exact a.trans b.symm

theorem kdf_length (z : Bytes) (klen : Nat) : (kdf z klen).length = klen := by
  unfold kdf
  rw [List.length_take, Proofs.SM3.length_flatMap_range _ 32 (fun _ => Props.C04.hash_length _)]
  omega

/-- the empty plaintext is never encrypted (its KDF output is empty, "all zero" by the standard's test) -/
theorem encrypt_empty_none (px py k : Nat) (ord : Order) : encryptWith px py [] k ord = none := by
  unfold encryptWith
  simp [kdf]

end Props.C02
