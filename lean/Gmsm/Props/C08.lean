/-
C08 — Handshakes complete only with a peer that proves the certified identity.

Theorems about `Model.HandshakeAuth` (the acceptance decisions of gmtls' GM/T 0024 full handshake, ECC key
exchange).  The cryptographic primitives are parameters; nothing here claims that signatures cannot be forged
or that SM3 has no collisions — those facts enter as explicit hypotheses (`Binding`, `Unforgeable`).  What is
proved is the decision logic: a side that completes has performed every check, over THIS session's values.
-/
import Gmsm.Model.HandshakeAuth
import Gmsm.Props.C10
namespace Props.C08
open Model Model.HandshakeAuth

theorem allPass_iff (l : List (Reason × Bool)) : allPass l = true ↔ ∀ x ∈ l, x.2 = true := by
  simp [allPass, List.all_eq_true]

theorem firstFailure_none_iff (l : List (Reason × Bool)) : firstFailure l = none ↔ allPass l = true := by
  induction l with
  | nil => simp [firstFailure, allPass]
  | cons x xs ih =>
    obtain ⟨r, ok⟩ := x
    cases ok <;> simp_all [firstFailure, allPass]

/-- the verdict (first failing check, in code order) is "no failure" exactly when the side accepts -/
theorem clientVerdict_none_iff (P : Prims) (c : Client) (v : ClientView) :
    clientVerdict P c v = none ↔ clientAccepts P c v = true := firstFailure_none_iff _

theorem serverVerdict_none_iff (P : Prims) (s : Server) (v : ServerView) :
    serverVerdict P s v = none ↔ serverAccepts P s v = true := firstFailure_none_iff _

/-! ### the client -/

theorem peerCertsCheck_cons (P : Prims) (i d : Nat) (ds : List Nat) :
    peerCertsCheck P i (d :: ds) = none ↔
      (∃ p, P.parse d = some p ∧ p.sm2 = true ∧ kuOK i p = true) ∧ peerCertsCheck P (i + 1) ds = none := by
  rw [peerCertsCheck]
  cases P.parse d with
  | none => simp
  | some p => cases hs : p.sm2 <;> cases hk : kuOK i p <;> simp [hs, hk]

theorem peerCertsCheck_none_iff (P : Prims) (i : Nat) (ders : List Nat) :
    peerCertsCheck P i ders = none ↔
      ∀ j d, ders[j]? = some d → ∃ p, P.parse d = some p ∧ p.sm2 = true ∧ kuOK (i + j) p = true := by
  induction ders generalizing i with
  | nil => simp [peerCertsCheck]
  | cons d ds ih =>
    rw [peerCertsCheck_cons, ih]
    constructor
    · rintro ⟨h0, h⟩ (_ | j) e he
      · obtain rfl := Option.some.inj he; exact h0
      · rw [← Nat.add_assoc, Nat.add_right_comm]; exact h j e he
    · exact fun h => ⟨h 0 d rfl, fun j e he => Nat.add_right_comm .. ▸ Nat.add_assoc .. ▸ h (j + 1) e he⟩

/-- `Conn.Handshake()` succeeds on the client exactly when every check below holds (they are listed in the
    order `doFullHandshake` / `readFinished` perform them). -/
theorem client_accepts_iff (P : Prims) (c : Client) (v : ClientView) :
    clientAccepts P c v = true ↔
      v.sh.vers = versionGMSSL ∧
      (c.suites.contains v.sh.suite = true ∧ eccSuites.contains v.sh.suite = true) ∧
      v.sh.comp = 0 ∧
      2 ≤ v.ders.length ∧
      peerCertsCheck P 0 v.ders = none ∧
      (c.insecureSkipVerify = true ∨ (serverChainOK P c v.ders 0 = true ∧ serverChainOK P c v.ders 1 = true)) ∧
      skeOK P c v = true ∧
      (v.done = true ∧ v.inOrder = true) ∧
      v.fin = some (expectedServerFinished P c v) := by
  simp only [clientAccepts, clientChecks, clientChecks1, allPass, List.cons_append, List.nil_append, List.all_cons,
    List.all_nil, Bool.and_true, Bool.and_eq_true, beq_iff_eq, decide_eq_true_eq, Bool.or_eq_true, Option.isNone_iff_eq_none,
    Bool.not_eq_true', List.isEmpty_eq_false_iff]
  -- `!ders.isEmpty` follows from the count, `ske.isSome` from `skeOK`; the two chain checks share the bypass
  constructor
  · rintro ⟨h1, h2, h3, _, h5, h6, h7, h8, _, h10, h11, h12⟩
    exact ⟨h1, h2, h3, h5, h6, or_and_left.mpr ⟨h7, h8⟩, h10, h11, h12⟩
  · rintro ⟨h1, h2, h3, h5, h6, h7, h10, h11, h12⟩
    refine ⟨h1, h2, h3, fun he => by simp [he] at h5, h5, h6, (or_and_left.mp h7).1, (or_and_left.mp h7).2, ?_, h10,
      h11, h12⟩
    unfold skeOK at h10
    cases hs : v.ske with
    | none => simp [hs] at h10
    | some _ => rfl

theorem fin_of_clientAccepts {P : Prims} {c : Client} {v : ClientView} (h : clientAccepts P c v = true) :
    v.fin = some (expectedServerFinished P c v) :=
  ((client_accepts_iff P c v).mp h).2.2.2.2.2.2.2.2

/-- The property's client half.  A client that completes has received at least
    two certificates `s` (position 0) and `e` (position 1), both parse and carry SM2 keys, `s` may sign and `e`
    may encipher, and
    * verification was disabled by configuration, or both certificates verified against the client's roots, with the
      certificates that follow them in the message (`rest`) as intermediates, at the configured time and for the
      configured server name (`Model.X509.verify`, whose meaning is `client_chain_meaning` below);
    * a ServerKeyExchange came whose signature verifies under the key of `s` over THIS session's client random,
      the server random of the ServerHello this client received, and the DER of `e` as this client received it;
    * the server's Finished equals PRF(master, "server finished", SM3(transcript)) for the client's own transcript
      and the master secret derived from the pre-master secret this client encrypted to the key of `e`. -/
theorem client_accepts_only_if (P : Prims) (c : Client) (v : ClientView) (h : clientAccepts P c v = true) :
    ∃ ds de s e rest, v.ders = ds :: de :: rest ∧ P.parse ds = some s ∧ P.parse de = some e ∧
      s.sm2 = true ∧ e.sm2 = true ∧ s.x.keyUsage &&& 3 ≠ 0 ∧ e.x.keyUsage &&& 28 ≠ 0 ∧
      (c.insecureSkipVerify = true ∨
        (chainOK c.roots (rest.filterMap fun r => (P.parse r).map (·.x)) s.x c.opts = true ∧
         chainOK c.roots (rest.filterMap fun r => (P.parse r).map (·.x)) e.x c.opts = true)) ∧
      (∃ sig, v.ske = some sig ∧ P.sigOK s.x.key (.ske c.random v.sh.random de) sig = true) ∧
      clientT1 P c v = clientT0 c v ++ (if v.certReq.isSome then [.certificate c.cert] else []) ++
        [.clientKeyExchange (P.enc e.x.key c.pms)] ∧
      v.fin = some (P.prf (P.master c.pms c.random v.sh.random) .server (P.hash (clientTranscript P c v))) := by
  obtain ⟨_, _, _, hlen, hcerts, hchain, hske, _, hfin⟩ := (client_accepts_iff P c v).mp h
  match hd : v.ders, hlen with
  | ds :: de :: rest, _ =>
    rw [hd, peerCertsCheck_cons, peerCertsCheck_cons] at hcerts
    obtain ⟨⟨s, hs, hs2, hsk⟩, ⟨e, he, he2, hek⟩, _⟩ := hcerts
    have c0 : certAt P (ds :: de :: rest) 0 = some s := hs
    have c1 : certAt P (ds :: de :: rest) 1 = some e := he
    refine ⟨ds, de, s, e, rest, rfl, hs, he, hs2, he2, by simpa only [ne_eq, kuOK, bne_iff_ne] using hsk,
      by simpa only [ne_eq, kuOK, bne_iff_ne] using hek, ?_, ?_, ?_, ?_⟩
    · simpa only [serverChainOK, c0, c1, serverInters, hd, List.drop_succ_cons, List.drop_zero] using hchain
    · cases hsig : v.ske with
      | none => simp only [skeOK, hsig, Bool.false_eq_true] at hske
      | some sig =>
        exact ⟨sig, rfl, by simpa only [skeOK, hsig, c0, hd, List.getElem?_cons_succ, List.getElem?_cons_zero] using hske⟩
    · simp only [clientT1, encKeyOf, hd, c1, Option.map_some, Option.getD_some]
    · simpa only [expectedServerFinished, clientMaster] using hfin

theorem verify_ok_nonempty (roots inters : List X509.Cert) (leaf : X509.Cert) (o : X509.Opts) (chains : List (List Nat))
    (h : X509.verify roots inters leaf o = .ok chains) : chains ≠ [] :=
  (Props.C10.verify_only_if_good_path h).1

/-- the meaning of "the chain verified" (from C10 `verify_sound`): the certificate has no unhandled critical
    extension, is valid at the configured time, matches the configured server name, and heads a path of correctly
    signed, currently valid certificates — CA certificates taken from the intermediates the peer sent — that ends
    in one of the client's roots. -/
theorem client_chain_meaning (roots inters : List X509.Cert) (leaf : X509.Cert) (o : X509.Opts)
    (h : chainOK roots inters leaf o = true) :
    leaf.critical = false ∧ X509.isValid leaf .leaf [] o = none ∧
    (o.dnsName.length > 0 → X509.verifyHostname leaf o = true) ∧
    ∃ chains : List (List Nat), chains ≠ [] ∧ ∀ ids ∈ chains, ∃ chain : List X509.Cert, ids = chain.map (·.id) ∧
      ((chain = [leaf] ∧ roots.any (·.id == leaf.id) = true) ∨
        ∃ suffix, chain = [leaf] ++ suffix ∧ Props.C10.GoodSuffix roots inters o [leaf] suffix) := by
  unfold chainOK at h
  cases hv : X509.verify roots inters leaf o with
  | ok chains =>
    obtain ⟨a, b, c, d⟩ := Props.C10.verify_sound roots inters leaf o chains hv
    refine ⟨a, b, c, chains, ?_, fun ids hids => ?_⟩
    · exact verify_ok_nonempty roots inters leaf o chains hv
    · obtain ⟨chain, e, g, _⟩ := d ids hids
      exact ⟨chain, e, g⟩
  | _ => simp [hv] at h

/-! ### the server -/

/-- the certificate part of the server's decision, for each `ClientAuth` value.
    `cert = none` means the client sent no Certificate message, `some []` an empty one. -/
theorem client_auth_policy_table (P : Prims) (s : Server) (cert : Option (List Nat)) :
    certPolicyOK P s cert = true ↔
      match s.clientAuth with
      | .noClientCert => cert = none
      | .requestClientCert => ∃ ders, cert = some ders ∧ allParse P ders = true
      | .requireAnyClientCert => ∃ ders, cert = some ders ∧ ders ≠ [] ∧ allParse P ders = true
      | .verifyClientCertIfGiven =>
          ∃ ders, cert = some ders ∧ allParse P ders = true ∧ (ders = [] ∨ clientChainOK P s ders = true)
      | .requireAndVerifyClientCert =>
          ∃ ders, cert = some ders ∧ ders ≠ [] ∧ allParse P ders = true ∧ clientChainOK P s ders = true := by
  cases hp : s.clientAuth <;> cases cert <;>
    simp +contextual [certPolicyOK, certPolicyChecks, allPass, hp, Policy.requests, Policy.requires, Policy.verifies,
      allParse]

/-- `Conn.Handshake()` succeeds on the server exactly when … -/
theorem server_accepts_iff (P : Prims) (s : Server) (v : ServerView) :
    serverAccepts P s v = true ↔
      (mutualVersion v.ch.vers).isSome = true ∧ v.ch.comps.contains 0 = true ∧
      (∃ id, pickSuite s v.ch = some id ∧ eccSuites.contains id = true) ∧
      certPolicyOK P s v.cert = true ∧
      v.inOrder = true ∧
      (∃ cke pms, v.cke = some cke ∧ P.dec s.decKey cke = some pms ∧
        cvOK P s v = true ∧
        v.fin = some (P.prf (P.master pms v.ch.random s.random) .client (P.hash (serverT2 P s v)))) := by
  simp only [serverAccepts, serverChecks, serverHelloChecks, certPolicyOK, allPass, List.all_append, List.all_cons,
    List.all_nil, Bool.and_true, Bool.and_eq_true, and_assoc, beq_iff_eq]
  constructor
  · rintro ⟨h1, h2, h3, h4, hc, h6, h7, h8, h9, -, -, h12⟩
    obtain ⟨id, hs⟩ := Option.isSome_iff_exists.mp h3
    obtain ⟨cke, hk⟩ := Option.isSome_iff_exists.mp h6
    obtain ⟨m, hm⟩ := Option.isSome_iff_exists.mp h8
    rw [expectedClientFinished, hm] at h12
    rw [serverMaster, hk] at hm
    obtain ⟨pms, hd, rfl⟩ := Option.map_eq_some_iff.mp hm
    exact ⟨h1, h2, ⟨id, hs, by rwa [hs] at h4⟩, hc, h7, cke, pms, hk, hd, h9, h12⟩
  · rintro ⟨h1, h2, ⟨id, hs, he⟩, hc, hio, cke, pms, hk, hd, hcv, hf⟩
    have hm : serverMaster P s v = some (P.master pms v.ch.random s.random) := by
      rw [serverMaster, hk]; exact congrArg _ hd
    exact ⟨h1, h2, by rw [hs]; rfl, by rwa [hs], hc, by rw [hk]; rfl, hio, by rw [hm]; rfl, hcv, by rw [hf]; rfl,
      by rw [hf]; rfl, by rw [expectedClientFinished, hm]; exact hf⟩

/-- The property's server half.  A server that completes decrypted the
    ClientKeyExchange with ITS encryption key, checked the client's Finished against ITS transcript and the master
    secret from that pre-master secret, and — by policy:
    * RequireAndVerifyClientCert: a non-empty certificate list came whose leaf verified against ClientCAs for
      client authentication at the configured time, and a CertificateVerify came whose signature verifies under the
      leaf's key over the digest of the server's own transcript;
    * VerifyClientCertIfGiven: the same whenever a certificate was given;
    * RequireAnyClientCert / RequestClientCert: the CertificateVerify condition whenever a certificate was given
      (required for RequireAny), no chain verification;
    * NoClientCert: no Certificate message and no CertificateVerify. -/
theorem server_accepts_only_if (P : Prims) (s : Server) (v : ServerView) (h : serverAccepts P s v = true) :
    (∃ cke pms, v.cke = some cke ∧ P.dec s.decKey cke = some pms ∧
      v.fin = some (P.prf (P.master pms v.ch.random s.random) .client (P.hash (serverT2 P s v)))) ∧
    (s.clientAuth = .noClientCert → v.cert = none ∧ v.cv = none) ∧
    (s.clientAuth.requires = true → ∃ d ds, v.cert = some (d :: ds)) ∧
    (∀ d ds, v.cert = some (d :: ds) →
      (∃ leaf sig, P.parse d = some leaf ∧ v.cv = some sig ∧
        P.sigOK leaf.x.key (.transcript (P.hash (serverT1 P s v))) sig = true) ∧
      (s.clientAuth.verifies = true → clientChainOK P s (d :: ds) = true)) := by
  obtain ⟨_, _, _, hpol, _, cke, pms, hk, hd, hcv, hf⟩ := (server_accepts_iff P s v).mp h
  simp only [certPolicyOK, certPolicyChecks, allPass, List.all_cons, List.all_nil, Bool.and_eq_true, Bool.and_true] at hpol
  obtain ⟨hreq, hany, _, hchain⟩ := hpol
  refine ⟨⟨cke, pms, hk, hd, hf⟩, fun hp => ?_, fun hr => ?_, fun d ds hc => ⟨?_, fun hv => ?_⟩⟩
  · have hn : v.cert = none := by simpa [hp, Policy.requests] using hreq
    exact ⟨hn, by simpa [cvOK, hn] using hcv⟩
  · match hc : v.cert with
    | some (d :: ds) => exact ⟨d, ds, rfl⟩
    | some [] => simp [hr, hc] at hany
    | none => simp [hr, hc] at hany
  · cases hcvv : v.cv with
    | none => simp [cvOK, hc, hcvv] at hcv
    | some sig =>
      cases hpd : P.parse d with
      | none => simp [cvOK, hc, hcvv, hpd] at hcv
      | some leaf => exact ⟨leaf, sig, rfl, rfl, by simpa [cvOK, hc, hcvv, hpd] using hcv⟩
  · simpa [hc, hv] using hchain

/-! ### both sides -/

/-- the assumption under which a Finished value binds its inputs: the PRF separates master secrets and digests,
    and the transcript hash separates transcripts (collision resistance of SM3 / HMAC-SM3, stated as injectivity) -/
structure Binding (P : Prims) : Prop where
  prf_inj : ∀ m m' r d d', P.prf m r d = P.prf m' r d' → m = m' ∧ d = d'
  hash_inj : ∀ t t', P.hash t = P.hash t' → t = t'

/-- a client that accepts a Finished produced by a server (from that server's own view, whatever it is) has
    the same transcript and the same master secret as that server -/
theorem client_finished_binds (P : Prims) (hB : Binding P) (c : Client) (cv : ClientView) (s : Server) (sv : ServerView)
    (hc : clientAccepts P c cv = true) (hlink : cv.fin = some (serverFinished P s sv)) :
    clientTranscript P c cv = serverTranscript P s sv ∧ clientMaster P c cv = (serverMaster P s sv).getD [] := by
  have hf := fin_of_clientAccepts hc
  rw [hlink] at hf
  have := Option.some.inj hf
  unfold serverFinished expectedServerFinished at this
  obtain ⟨hm, hd⟩ := hB.prf_inj _ _ _ _ _ this
  exact ⟨(hB.hash_inj _ _ hd).symm, hm.symm⟩

/-- a server that accepts a Finished produced by a client (from that client's own view) saw exactly the
    messages the client saw, and holds the client's master secret -/
theorem server_finished_binds (P : Prims) (hB : Binding P) (c : Client) (cv : ClientView) (s : Server) (sv : ServerView)
    (hs : serverAccepts P s sv = true) (hlink : sv.fin = some (clientFinished P c cv)) :
    clientTranscript P c cv = serverTranscript P s sv ∧ serverMaster P s sv = some (clientMaster P c cv) := by
  obtain ⟨_, _, _, _, _, cke, pms, hk, hd, _, hf⟩ := (server_accepts_iff P s sv).mp hs
  rw [hlink] at hf
  have := Option.some.inj hf
  unfold clientFinished at this
  obtain ⟨hm, hdg⟩ := hB.prf_inj _ _ _ _ _ this
  have ht := hB.hash_inj _ _ hdg
  refine ⟨?_, ?_⟩
  · simp [clientTranscript, serverTranscript, ht, hlink]
  · simp [serverMaster, hk, hd, hm]

/-- if both sides complete, and the Finished message each side accepted is the one its peer computed (an
    attacker without the master secret cannot produce another one that is accepted: `Binding`), then the two
    sides hold the same list of handshake messages and the same master secret -/
theorem agree_or_abort (P : Prims) (hB : Binding P) (c : Client) (cv : ClientView) (s : Server) (sv : ServerView)
    (hc : clientAccepts P c cv = true) (_hs : serverAccepts P s sv = true)
    (hlink : cv.fin = some (serverFinished P s sv)) :
    clientTranscript P c cv = serverTranscript P s sv ∧ (serverMaster P s sv).getD [] = clientMaster P c cv := by
  obtain ⟨a, b⟩ := client_finished_binds P hB c cv s sv hc hlink
  exact ⟨a, b.symm⟩

/-- … hence any modification in transit that makes the two transcripts differ in any message — a rewritten suite
    list, random, certificate, signature, key exchange — makes the client abort (whatever the server does). -/
theorem tamper_detected (P : Prims) (hB : Binding P) (c : Client) (cv : ClientView) (s : Server) (sv : ServerView)
    (hlink : cv.fin = some (serverFinished P s sv))
    (hdiff : clientTranscript P c cv ≠ serverTranscript P s sv) : clientAccepts P c cv = false :=
  Bool.eq_false_iff.mpr fun h => hdiff (client_finished_binds P hB c cv s sv h hlink).1

/-- and symmetrically the server aborts when the client's Finished covers another transcript -/
theorem tamper_detected_by_server (P : Prims) (hB : Binding P) (c : Client) (cv : ClientView) (s : Server) (sv : ServerView)
    (hlink : sv.fin = some (clientFinished P c cv))
    (hdiff : clientTranscript P c cv ≠ serverTranscript P s sv) : serverAccepts P s sv = false :=
  Bool.eq_false_iff.mpr fun h => hdiff (server_finished_binds P hB c cv s sv h hlink).1

/-- a Finished computed from any master secret other than the one derived from the pre-master secret the
    client encrypted to certificate 1 is rejected — whoever answers must have decrypted the ClientKeyExchange -/
theorem possession_needed (P : Prims) (hB : Binding P) (c : Client) (v : ClientView) (m d : Val)
    (hfin : v.fin = some (P.prf m .server d)) (hm : m ≠ P.master c.pms c.random v.sh.random) :
    clientAccepts P c v = false :=
  Bool.eq_false_iff.mpr fun h => by
    have hf := fin_of_clientAccepts h
    rw [hfin] at hf
    exact hm (hB.prf_inj _ _ _ _ _ (Option.some.inj hf)).1

/-- … and a server whose decryption key does not open the ClientKeyExchange does not complete -/
theorem server_needs_decryption_key (P : Prims) (s : Server) (v : ServerView)
    (h : ∀ cke, v.cke = some cke → P.dec s.decKey cke = none) : serverAccepts P s v = false :=
  Bool.eq_false_iff.mpr fun hs => by
    obtain ⟨_, _, _, _, _, cke, pms, hk, hd, _⟩ := (server_accepts_iff P s v).mp hs
    rw [h cke hk] at hd; cases hd

/-- the assumption that stands for existential unforgeability: a value verifies under key `k` over `m` only if it
    is the signature made with `k` over `m` -/
def Unforgeable (P : Prims) : Prop :=
  ∀ k k' m m', P.sigOK k m (P.sign k' m') = true → k = k' ∧ m = m'

/-- a key-exchange signature made by another key, or over another client random, another server random or
    another encryption certificate (a replay from another session, a signature obtained for another
    certificate) is refused -/
theorem foreign_ske_rejected (P : Prims) (hU : Unforgeable P) (c : Client) (v : ClientView)
    (ds de : Nat) (rest : List Nat) (s : PCert) (hd : v.ders = ds :: de :: rest) (hs : P.parse ds = some s)
    (k cr sr e : Nat) (hske : v.ske = some (P.sign k (.ske cr sr e)))
    (hother : k ≠ s.x.key ∨ cr ≠ c.random ∨ sr ≠ v.sh.random ∨ e ≠ de) : clientAccepts P c v = false :=
  Bool.eq_false_iff.mpr fun h => by
    have hok := ((client_accepts_iff P c v).mp h).2.2.2.2.2.2.1
    have c0 : certAt P v.ders 0 = some s := by simp [certAt, hd, hs]
    unfold skeOK at hok
    rw [hske, c0] at hok
    simp only [hd, List.getElem?_cons_succ, List.getElem?_cons_zero] at hok
    obtain ⟨rfl, h2⟩ := hU _ _ _ _ hok
    obtain ⟨rfl, rfl, rfl⟩ := Signed.ske.inj h2
    simp at hother

/-- a CertificateVerify made by another key than the presented certificate's, or over the digest of another
    transcript (another session), is refused -/
theorem foreign_cv_rejected (P : Prims) (hU : Unforgeable P) (s : Server) (v : ServerView)
    (d : Nat) (ds : List Nat) (leaf : PCert) (hc : v.cert = some (d :: ds)) (hp : P.parse d = some leaf)
    (k : Key) (dg : Val) (hcv : v.cv = some (P.sign k (.transcript dg)))
    (hother : k ≠ leaf.x.key ∨ dg ≠ P.hash (serverT1 P s v)) : serverAccepts P s v = false :=
  Bool.eq_false_iff.mpr fun h => by
    obtain ⟨_, _, _, _, _, _, _, _, _, hok, _⟩ := (server_accepts_iff P s v).mp h
    simp only [cvOK, hc, Option.getD_some, hcv, hp] at hok
    obtain ⟨rfl, h2⟩ := hU _ _ _ _ hok
    obtain rfl := Signed.transcript.inj h2
    simp at hother

/-! ### one connection -/

theorem run_spec (P : Prims) (c : Client) (s : Server) (w : Wire) :
    ((run P c s w).clientDone = false ∧ (run P c s w).serverDone = false) ∨
    ∃ cv sv, (run P c s w).cview = some cv ∧ (run P c s w).sview = some sv ∧ (run P c s w).serverDone = true ∧
      serverAccepts P s sv = true ∧ cv.fin = w.finS (some (serverFinished P s sv)) ∧
      (run P c s w).clientDone = clientAccepts P c cv := by
  -- one copy of the unfolded `run` to split, not seven
  generalize hr : run P c s w = o
  unfold run at hr
  split at hr
  · subst hr; exact .inl ⟨rfl, rfl⟩
  · dsimp only at hr
    split at hr
    · subst hr; exact .inl ⟨rfl, rfl⟩
    · split at hr
      · subst hr; exact .inl ⟨rfl, rfl⟩
      · split at hr
        · subst hr; exact .inl ⟨rfl, rfl⟩
        · rename_i h
          subst hr
          exact .inr ⟨_, _, rfl, rfl, rfl, by simpa using h, rfl, rfl⟩

/-- `run` reports a side as done only when that side's decision function accepts the view `run` recorded -/
theorem run_done_sound (P : Prims) (c : Client) (s : Server) (w : Wire) :
    ((run P c s w).serverDone = true → ∃ sv, (run P c s w).sview = some sv ∧ serverAccepts P s sv = true) ∧
    ((run P c s w).clientDone = true → (run P c s w).serverDone = true ∧
      ∃ cv, (run P c s w).cview = some cv ∧ clientAccepts P c cv = true) := by
  rcases run_spec P c s w with ⟨hc, hs⟩ | ⟨cv, sv, hcv, hsv, hsd, hsa, _, hcd⟩
  · rw [hc, hs]; exact ⟨nofun, nofun⟩
  · exact ⟨fun _ => ⟨sv, hsv, hsa⟩, fun h => ⟨hsd, cv, hcv, hcd ▸ h⟩⟩

/-- over a network that cannot forge the server's Finished (`finS` delivers it or nothing), whenever the client
    of `run` completes — whatever was rewritten before — both sides hold the same transcript.  "Never both
    sides complete with different views of the handshake." -/
theorem run_never_diverges (P : Prims) (hB : Binding P) (c : Client) (s : Server) (w : Wire)
    (hfin : ∀ x, w.finS x = x ∨ w.finS x = none) (hdone : (run P c s w).clientDone = true) :
    ∃ cv sv, (run P c s w).cview = some cv ∧ (run P c s w).sview = some sv ∧
      clientTranscript P c cv = serverTranscript P s sv := by
  rcases run_spec P c s w with ⟨hc, _⟩ | ⟨cv, sv, hcv, hsv, _, _, hf, hcd⟩
  · rw [hc] at hdone; cases hdone
  · rw [hcd] at hdone
    refine ⟨cv, sv, hcv, hsv, (client_finished_binds P hB c cv s sv hdone ?_).1⟩
    rcases hfin (some (serverFinished P s sv)) with e | e
    · rw [hf, e]
    · -- nothing delivered: the client cannot have accepted
      have := fin_of_clientAccepts hdone
      rw [hf, e] at this
      cases this

/-! ### non-vacuity -/

section Examples

def exCA : X509.Cert := ⟨1, 100, 100, 2000, 2000, none, none, -48, 48, true, true, -1, 96, [], [], [], "CA", [], false, false, 3⟩
def exLeaf (id subj key ku : Nat) (eku : List Nat) : X509.Cert :=
  ⟨id, subj, 100, key, 2000, none, none, -24, 24, false, false, -1, ku, [], [], ["10.1.2.3"], "", eku, false, false, 3⟩
def exTable : List (Nat × PCert) :=
  [(10, ⟨exLeaf 10 110 2001 1 [1], true⟩), (11, ⟨exLeaf 11 111 2002 28 [1], true⟩), (12, ⟨exLeaf 12 112 2003 1 [2], true⟩),
   (13, ⟨exLeaf 13 113 2004 28 [1], true⟩)]
def exP : Prims := ideal exTable
/-- verification enabled.  The server is named by an IP address here only because `decide` cannot evaluate the
    string functions of DNS-name matching in the kernel; DNS names are exercised by the driver on every run. -/
def exClient : Client :=
  { insecureSkipVerify := false, roots := [exCA], opts := ⟨0, "10.1.2.3", true, "10.1.2.3", []⟩, suites := [0xe013, 0xe053],
    ext := 7, cert := [12], key := 2003, random := 1001, pms := [5005] }
def exServer (pol : Policy) : Server :=
  { certs := [10, 11], encDer := 11, signKey := 2001, decKey := 2002, clientAuth := pol, clientCAs := [exCA], now := 0,
    suites := gmSuites, random := 2002, ext := 9, certReq := (3, 100) }

/-- an honest mutually authenticated handshake is accepted by both sides … -/
example : ((run exP exClient (exServer .requireAndVerifyClientCert) {}).clientDone,
           (run exP exClient (exServer .requireAndVerifyClientCert) {}).serverDone) = (true, true) := by decide +kernel
/-- … and so is one without client authentication -/
example : ((run exP exClient (exServer .noClientCert) {}).clientDone,
           (run exP exClient (exServer .noClientCert) {}).serverDone) = (true, true) := by decide +kernel
/-- another server name, or a verification time after the certificates expired, is refused — unless the client
    was configured to skip verification, in which case the possession checks still apply -/
example : (run exP { exClient with opts := ⟨0, "10.9.9.9", true, "10.9.9.9", []⟩ } (exServer .noClientCert) {}).clientDone = false := by
  decide +kernel
example : (run exP { exClient with opts := ⟨100, "10.1.2.3", true, "10.1.2.3", []⟩ } (exServer .noClientCert) {}).clientDone = false := by
  decide +kernel
example : (run exP { exClient with opts := ⟨100, "10.9.9.9", true, "10.9.9.9", []⟩, insecureSkipVerify := true }
    (exServer .noClientCert) {}).clientDone = true := by decide +kernel
example : (run exP { exClient with insecureSkipVerify := true } { exServer .noClientCert with signKey := 2999 } {}).clientDone = false := by
  decide +kernel
/-- a server holding another signing key, or another decryption key, is not accepted -/
example : (run exP exClient { exServer .noClientCert with signKey := 2999 } {}).clientDone = false := by decide +kernel
example : (run exP exClient { exServer .noClientCert with decKey := 2999 } {}).clientDone = false := by decide +kernel
/-- a client presenting a certificate with another private key is not accepted -/
example : (run exP { exClient with key := 2999 } (exServer .requireAndVerifyClientCert) {}).serverDone = false := by decide +kernel
/-- swapping the encryption certificate in transit is detected (the signature covers it) -/
example : (run exP exClient (exServer .noClientCert) { s2c := fun f => { f with ders := [10, 13] } }).clientDone = false := by
  decide +kernel
/-- rewriting the offered suites in transit is detected by the Finished exchange -/
example : (run exP exClient (exServer .noClientCert)
    { ch := fun h => some { h with suites := [0xe053] } }).serverDone = false := by decide +kernel

end Examples

/-! ### the hypotheses are satisfiable
The ideal primitives (the ones the driver runs the model with) are binding and unforgeable, so the theorems above are
not vacuous, and they hold outright for the executed model. -/

def unNats : List Nat → List Nat × List Nat
  | [] => ([], [])
  | n :: l => (l.take n, l.drop n)

theorem unNats_serNats (a x : List Nat) : unNats (serNats a ++ x) = (a, x) := by
  simp [unNats, serNats]

theorem serNats_append_inj (a b x y : List Nat) (h : serNats a ++ x = serNats b ++ y) : a = b ∧ x = y := by
  have := congrArg unNats h
  rwa [unNats_serNats, unNats_serNats, Prod.mk.injEq] at this

/-- reads back one serialised message from the front of a list: the first number tells the kind, every field is a
    single number or a length-prefixed list (`if` on the kind: a `match` on nine numerals reduces slowly) -/
def decode : List Nat → Option (Msg × List Nat)
  | [] => none
  | k :: l =>
    if k = 11 then some ((unNats l).map .certificate id)
    else if k = 12 then some ((unNats l).map .serverKeyExchange id)
    else if k = 16 then some ((unNats l).map .clientKeyExchange id)
    else if k = 15 then some ((unNats l).map .certificateVerify id)
    else if k = 20 then some ((unNats l).map .finished id)
    else if k = 14 then some (.serverHelloDone, l)
    else if k = 13 then match l with
      | t :: c :: l => some (.certificateRequest t c, l)
      | _ => none
    else if k = 2 then match l with
      | v :: r :: s :: su :: co :: e :: l => some (.serverHello ⟨v, r, s, su, co, e⟩, l)
      | _ => none
    else if k = 1 then match l with
      | v :: r :: s :: l =>
        match (unNats (unNats l).2).2 with
        | e :: l' => some (.clientHello ⟨v, r, s, (unNats l).1, (unNats (unNats l).2).1, e⟩, l')
        | [] => none
      | _ => none
    else none

theorem decode_ser (m : Msg) (x : List Nat) : decode (m.ser ++ x) = some (m, x) := by
  cases m <;> simp [decode, Msg.ser, unNats_serNats]

/-- a concatenation of serialised messages is read back one message at a time -/
theorem ideal_hash_inj (t t' : List Msg) (h : t.flatMap Msg.ser = t'.flatMap Msg.ser) : t = t' := by
  induction t generalizing t' with
  | nil =>
    cases t' with
    | nil => rfl
    | cons m ms => have := congrArg decode h; rw [List.flatMap_cons, decode_ser] at this; cases this
  | cons m ms ih =>
    have := congrArg decode h
    cases t' with
    | nil => rw [List.flatMap_cons, decode_ser] at this; cases this
    | cons m' ms' =>
      rw [List.flatMap_cons, List.flatMap_cons, decode_ser, decode_ser] at this
      obtain ⟨rfl, e⟩ := Prod.mk.inj (Option.some.inj this)
      rw [ih _ e]

theorem ideal_binding (t : List (Nat × PCert)) : Binding (ideal t) where
  prf_inj := by
    intro m m' r d d' h
    simp only [ideal, List.cons_append, List.cons.injEq, true_and] at h
    exact serNats_append_inj _ _ _ _ h
  hash_inj := ideal_hash_inj

/-- for the executed model (ideal primitives) no hypothesis about the primitives is left: whatever is rewritten in
    transit, short of forging a Finished, a client that completes holds the server's transcript -/
theorem run_never_diverges_ideal (t : List (Nat × PCert)) (c : Client) (s : Server) (w : Wire)
    (hfin : ∀ x, w.finS x = x ∨ w.finS x = none) (hdone : (run (ideal t) c s w).clientDone = true) :
    ∃ cv sv, (run (ideal t) c s w).cview = some cv ∧ (run (ideal t) c s w).sview = some sv ∧
      clientTranscript (ideal t) c cv = serverTranscript (ideal t) s sv :=
  run_never_diverges (ideal t) (ideal_binding t) c s w hfin hdone

theorem ideal_unforgeable (t : List (Nat × PCert)) : Unforgeable (ideal t) := by
  intro k k' m m' h
  simp only [ideal, beq_iff_eq, List.cons.injEq] at h
  refine ⟨h.1.symm, ?_⟩
  cases m <;> cases m' <;> simp_all [Signed.ser]

end Props.C08
