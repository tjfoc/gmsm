/-
C17 / C20 (PKCS#7 enveloping): `pad` of x509/pkcs7.go, seen at the level of slices and backing arrays
(Model.SliceMem).

Before the repair the function was `return append(data, pad...)`: with spare capacity behind the caller's
content (`content = buf[a:b]`) the 1..blocklen padding bytes were written into `buf[b:]`.
`padMem_frame` - no allocation that existed before the call is changed - was false
(`padInPlace_writes_caller_memory` is the counterexample for the old function); the returned BYTES were
right before and after (`padMem_value`: they are `Model.BER.pad`, for which Props.C17.unpad_pad holds).
-/
import Gmsm.Model.SliceMem
import Gmsm.Model.BER
namespace Props.C17Mem
open Gmsm Gmsm.Model.SliceMem

theorem arr_append_left (h : Heap) (z : Bytes) (i : Nat) (hi : i < h.length) : arr (h ++ [z]) i = arr h i := by
  simp [arr, List.getD_eq_getElem?_getD, List.getElem?_append_left hi]

theorem arr_append_new (h : Heap) (z : Bytes) : arr (h ++ [z]) h.length = z := by
  simp [arr, List.getD_eq_getElem?_getD]

theorem arr_set_same (h : Heap) (i : Nat) (v : Bytes) (hi : i < h.length) : arr (h.set i v) i = v := by
  simp [arr, List.getD_eq_getElem?_getD, hi]

/-- `append` never touches an allocation with a smaller number than the slice's own -/
theorem goAppend_frame (h : Heap) (s : Slice) (xs : Bytes) (n : Nat) (hn : n ≤ s.id) (hl : n ≤ h.length) :
    (goAppend h s xs).1.take n = h.take n := by
  unfold goAppend
  split
  · simp only
    apply List.ext_getElem?
    intro i
    by_cases hi : i < n
    · simp only [List.getElem?_take, if_pos hi]
      rw [List.getElem?_set_ne (by omega)]
    · simp only [List.getElem?_take, if_neg hi]
  · simp only
    rw [List.take_append_of_le_length hl]

theorem goAppend_id_ge (h : Heap) (s : Slice) (xs : Bytes) (n : Nat) (hn : n ≤ s.id) (hl : n ≤ h.length) :
    n ≤ (goAppend h s xs).2.id := by
  unfold goAppend
  split <;> simp only <;> omega

theorem goAppend_length_ge (h : Heap) (s : Slice) (xs : Bytes) : h.length ≤ (goAppend h s xs).1.length := by
  unfold goAppend
  split <;> simp

/-- The repaired `pad` leaves every allocation that existed before the call as it was - whatever the
    caller's slice header is (any offset, any spare capacity), and the result lives in an allocation made by
    the call.  In particular the bytes behind `len(content)` in the caller's buffer,
    which may be another goroutine's record, are not written. -/
theorem padMem_frame (h : Heap) (data : Slice) (bl : Nat) (h' : Heap) (out : Slice)
    (hp : padMem h data bl = some (h', out)) :
    h'.take h.length = h ∧ h.length ≤ out.id := by
  unfold padMem at hp
  split at hp
  · exact absurd hp (by simp)
  · simp only [goMake, Option.some.injEq] at hp
    generalize hz : List.replicate (data.len + padLen data.len bl) (0 : Byte) = z at hp
    generalize hs0 : (⟨h.length, 0, 0, data.len + padLen data.len bl⟩ : Slice) = s0 at hp
    have hs0id : s0.id = h.length := by rw [← hs0]
    generalize hxs : elems (h ++ [z]) data = xs at hp
    have hl1 : h.length ≤ (h ++ [z]).length := by simp
    have f1 := goAppend_frame (h ++ [z]) s0 xs h.length (by omega) hl1
    have i1 := goAppend_id_ge (h ++ [z]) s0 xs h.length (by omega) hl1
    have l1 := goAppend_length_ge (h ++ [z]) s0 xs
    generalize hg : goAppend (h ++ [z]) s0 xs = g at hp f1 i1 l1
    obtain ⟨h2, s2⟩ := g
    simp only at hp f1 i1 l1
    have f2 := goAppend_frame h2 s2 (padBytes data.len bl) h.length i1 (by omega)
    have i2 := goAppend_id_ge h2 s2 (padBytes data.len bl) h.length i1 (by omega)
    rw [hp] at f2 i2
    simp only at f2 i2
    refine ⟨?_, i2⟩
    rw [f2, f1, List.take_append_of_le_length (Nat.le_refl _), List.take_length]

/-- `padMem_frame` read at the caller's own buffer: the whole backing array of the content - the bytes before the
    record, the record, and the spare capacity behind it - is after the call what it was before. -/
theorem padMem_caller_buffer_unchanged (h : Heap) (data : Slice) (bl : Nat) (h' : Heap) (out : Slice)
    (hp : padMem h data bl = some (h', out)) (hd : data.id < h.length) :
    arr h' data.id = arr h data.id ∧ out.id ≠ data.id := by
  obtain ⟨hf, hi⟩ := padMem_frame h data bl h' out hp
  refine ⟨?_, by omega⟩
  have e : (h'.take h.length)[data.id]? = h'[data.id]? := by
    rw [List.getElem?_take, if_pos hd]
  rw [hf] at e
  simp only [arr, List.getD_eq_getElem?_getD, e]

theorem elems_length (h : Heap) (s : Slice) (hv : s.Valid h) : (elems h s).length = s.len := by
  obtain ⟨_, h2, h3⟩ := hv
  simp only [elems, List.length_take, List.length_drop]
  omega

theorem elems_append_left (h : Heap) (z : Bytes) (s : Slice) (hv : s.id < h.length) : elems (h ++ [z]) s = elems h s := by
  simp only [elems, arr_append_left h z s.id hv]

theorem padLen_eq (n bl : Nat) (hb : 1 ≤ bl) : padLen n bl = bl - n % bl ∧ 1 ≤ padLen n bl := by
  have := Nat.mod_lt n hb
  unfold padLen
  simp only
  rw [if_neg (by omega)]
  omega

/-- The slice the repaired `pad` returns holds exactly the bytes of the functional model
    `Model.BER.pad` (content, then `padlen` bytes of value `padlen`), and the error return coincides. -/
theorem padMem_value (h : Heap) (data : Slice) (bl : Nat) (hv : data.Valid h) :
    (padMem h data bl).map (fun r => elems r.1 r.2) = Model.BER.pad (elems h data) bl := by
  unfold padMem Model.BER.pad
  by_cases hb : bl < 1
  · rw [if_pos hb, if_pos hb]; rfl
  · rw [if_neg hb, if_neg hb]
    have hpl := padLen_eq data.len bl (by omega)
    have hrl := elems_length h data hv
    simp only [goMake, Option.map_some, Option.some.injEq]
    rw [elems_append_left h _ data hv.1]
    generalize hxs : elems h data = xs at hrl ⊢
    generalize hk : padLen data.len bl = k at hpl ⊢
    have hkk : bl - xs.length % bl = k := by rw [hrl]; exact hpl.1.symm
    rw [hkk]
    have hpb : padBytes data.len bl = List.replicate k (BitVec.ofNat 8 k) := by
      unfold padBytes; rw [hk]
    rw [hpb]
    -- first append: in place into the new array
    have e1 : goAppend (h ++ [List.replicate (data.len + k) (0 : Byte)]) ⟨h.length, 0, 0, data.len + k⟩ xs
        = ((h ++ [List.replicate (data.len + k) (0 : Byte)]).set h.length (xs ++ List.replicate k 0),
           ⟨h.length, 0, xs.length, data.len + k⟩) := by
      unfold goAppend
      rw [if_pos (by simp only; omega)]
      simp only [arr_append_new, writeAt, Nat.zero_add, List.take_zero, List.nil_append, List.drop_replicate]
      rw [show data.len + k - xs.length = k by omega]
    rw [e1]
    simp only
    -- second append: in place again
    have hlen : h.length < (h ++ [List.replicate (data.len + k) (0 : Byte)]).length := by simp
    unfold goAppend
    rw [if_pos (by simp only [List.length_replicate]; omega)]
    simp only [arr_set_same _ _ _ hlen, elems, List.set_set, writeAt, Nat.zero_add, List.length_replicate, List.drop_zero]
    have hl : (xs ++ List.replicate k (BitVec.ofNat 8 k)).length = xs.length + k := by simp
    rw [List.take_left' (rfl : xs.length = xs.length)]
    exact List.take_left' hl

/-- The frame statement is not a triviality of the memory model - for the function as it was before the
    repair (`append(data, pad...)`) it fails: a 13-byte record at the start of a 26-byte buffer, block
    length 8: three bytes of the NEXT record become 03 03 03. -/
theorem padInPlace_writes_caller_memory :
    ∃ (h : Heap) (data : Slice) (h' : Heap) (out : Slice), data.Valid h ∧ padInPlace h data 8 = some (h', out) ∧
      h'.take h.length ≠ h ∧ out.id = data.id ∧
      arr h' 0 = List.replicate 13 0x41 ++ [3, 3, 3] ++ List.replicate 10 0x41 := by
  refine ⟨[List.replicate 26 0x41], ⟨0, 0, 13, 26⟩, _, _, ⟨by decide, by decide, by decide⟩, rfl, by decide, rfl, by decide⟩

-- the same buffer through the repaired function
example : (padMem [List.replicate 26 0x41] ⟨0, 0, 13, 26⟩ 8).map (fun r => (r.1.take 1, r.2.id, elems r.1 r.2))
    = some ([List.replicate 26 0x41], 1, List.replicate 13 0x41 ++ [3, 3, 3]) := by decide
example : padMem [[1, 2, 3]] ⟨0, 0, 3, 3⟩ 0 = none := rfl

end Props.C17Mem
