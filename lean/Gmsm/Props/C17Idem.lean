/-
C17 — the BER → DER transcoder in front of `ParsePKCS7` is stable: DER in, the same DER out.

`WF` is well-formedness of an object tree for re-reading (tag octets of the shape `readObject` consumes,
constructed bit set exactly for structured objects, every content / inner encoding shorter than 2^31).
`readObject` reads the encoding `encodeTo o` of a well-formed tree back as `o`, anywhere inside a longer byte
string (`readObject_encodeTo`; the recursion on the tree is `readObject_encodeTo_need` / `readItems_members_need`,
the item loop for definite and indefinite parents at once; `header_append`, `readObject_prim_at`,
`readObject_cons_at` also serve for the length octet `80` in C18Empty), hence `ber2der_encodeTo`.  Everything
`readObject` returns is well-formed once its encoding is shorter than 2^31 (`readObject_wf`); together:
`ber2der_idempotent`.
-/
import Gmsm.Props.C17
import Gmsm.Props.C18
namespace Props.C17Idem
open Gmsm Model.BER Props.C18

/-- the continuation octets of a high-tag-number tag: all but the last ≥ 0x80, the last < 0x80 -/
def contTag : Bytes → Prop
  | [] => False
  | x :: r => if x.toNat ≥ 0x80 then contTag r else r = []

/-- shape of the tag octets `readObject` consumes, with the constructed bit -/
def TagOK (tag : Bytes) (cons : Bool) : Prop :=
  match tag with
  | [] => False
  | b :: ts => ((b.toNat / 32) % 2 = 1 ↔ cons = true) ∧ (if b.toNat % 32 = 0x1F then contTag ts else ts = [])

theorem getElem?_mid (pre : Bytes) (x : Byte) (rest : Bytes) : (pre ++ x :: rest)[pre.length]? = some x := by
  simp

theorem take_drop_mid (pre x rest : Bytes) : ((pre ++ x ++ rest).drop pre.length).take x.length = x := by
  rw [List.append_assoc, List.drop_left, List.take_left]

theorem readTag_contTag : ∀ (ts pre rest : Bytes) (fuel : Nat), contTag ts → ts.length ≤ fuel →
    readTag fuel (pre ++ ts ++ rest) pre.length = .ok (pre.length + ts.length) := by
  intro ts
  induction ts with
  | nil => intro pre rest fuel h; simp [contTag] at h
  | cons x r ih =>
    intro pre rest fuel h hf
    cases fuel with
    | zero => simp at hf
    | succ f =>
      rw [readTag]
      have e : pre ++ x :: r ++ rest = pre ++ x :: (r ++ rest) := by simp
      rw [e, getElem?_mid]
      dsimp only
      simp only [contTag] at h
      split
      · rename_i hge
        rw [if_pos hge] at h
        have := ih (pre ++ [x]) rest f h (by simpa using hf)
        simp only [List.length_append, List.length_cons, List.length_nil] at this
        have e2 : pre ++ [x] ++ r ++ rest = pre ++ x :: (r ++ rest) := by simp
        rw [e2] at this
        rw [this]; simp; omega
      · rename_i hge
        rw [if_neg hge] at h
        subst h; simp

/-- the header of `tag ‖ L ‖ …` behind `pre`, for a well-shaped `tag` and length octets `L` that `readLength`
    accepts: this is how both `encodeLength n` (definite) and `80` (indefinite) are read back -/
theorem header_append {tag : Bytes} {c : Bool} (ht : TagOK tag c) (pre L rest : Bytes) {n o2 : Nat} {ind : Bool}
    (hL : L ≠ [])
    (hl : readLength (pre ++ tag ++ L ++ rest) ((pre ++ tag).length + 1) (L.headD 0) = .ok (n, o2, ind)) :
    header (pre ++ tag ++ L ++ rest) pre.length = .ok ⟨tag.headD 0, (pre ++ tag).length, n, o2, ind⟩ := by
  cases tag with
  | nil => exact ht.elim
  | cons b ts =>
  cases L with
  | nil => exact absurd rfl hL
  | cons l0 Lr =>
  refine header_eq_ok.mpr ⟨?_, ?_, l0, ?_, hl⟩
  · rw [List.append_assoc, List.append_assoc]; exact getElem?_mid pre b _
  · show (if b.toNat % 32 = 0x1F then readTag _ _ _ else .ok _) = .ok _
    by_cases h31 : b.toNat % 32 = 0x1F
    · rw [if_pos h31]
      have := readTag_contTag ts (pre ++ [b]) (l0 :: Lr ++ rest) ((pre ++ b :: ts ++ l0 :: Lr ++ rest).length + 1)
        (by simpa [h31] using ht.2) (by simp only [List.length_append, List.length_cons]; omega)
      simpa [Nat.add_assoc, Nat.add_comm 1] using this
    · rw [if_neg h31]
      have : ts = [] := by simpa [h31] using ht.2
      subst this; simp
  · rw [List.append_assoc (pre ++ b :: ts)]; exact getElem?_mid (pre ++ b :: ts) l0 _

theorem length_roundtrip_at (pre : Bytes) (n : Nat) (h : n < 2 ^ 31) (rest : Bytes) :
    readLength (pre ++ encodeLength n ++ rest) (pre.length + 1) ((encodeLength n).headD 0) =
      .ok (n, pre.length + (encodeLength n).length, false) := by
  rw [List.append_assoc]
  exact readLength_shift pre (Props.C17.length_roundtrip n h rest)
mutual
  def WF : Obj → Prop
    | .prim tag c => TagOK tag false ∧ c.length < 2 ^ 31
    | .cons tag items => TagOK tag true ∧ (encodeItems items).length < 2 ^ 31 ∧ WFItems items
  def WFItems : List Obj → Prop
    | [] => True
    | o :: os => WF o ∧ WFItems os
end

theorem WFItems.mem : ∀ {os : List Obj}, WFItems os → ∀ o ∈ os, WF o
  | _ :: _, h, o, ho => by
    rw [WFItems] at h
    rcases List.mem_cons.mp ho with rfl | ho
    · exact h.1
    · exact h.2.mem o ho

mutual
  /-- fuel that re-reading the encoding of an object needs -/
  def need : Obj → Nat
    | .prim _ _ => 1
    | .cons _ items => needItems items + 1
  def needItems : List Obj → Nat
    | [] => 1
    | o :: os => max (need o) (needItems os) + 1
end

theorem tag_append (b : Byte) (pre tag rest : Bytes) (n o2 : Nat) (ind : Bool) :
    (⟨b, (pre ++ tag).length, n, o2, ind⟩ : Hdr).tag (pre ++ tag ++ rest) pre.length = tag := by
  rw [Hdr.tag, List.length_append, Nat.add_sub_cancel_left]
  exact take_drop_mid pre tag rest

theorem readObject_prim_at {tag : Bytes} (ht : TagOK tag false) (pre L rest : Bytes) {n o2 : Nat} (hL : L ≠ [])
    (hl : readLength (pre ++ tag ++ L ++ rest) ((pre ++ tag).length + 1) (L.headD 0) = .ok (n, o2, false))
    (hfit : o2 + n ≤ (pre ++ tag ++ L ++ rest).length) (f d : Nat) :
    readObject (f + 1) (pre ++ tag ++ L ++ rest) pre.length d
      = .ok (.prim tag (((pre ++ tag ++ L ++ rest).drop o2).take n), o2 + n) := by
  rw [readObject_succ, header_append ht pre L rest hL hl]
  refine (body_prim hfit ?_ rfl).trans ?_
  · cases tag with
    | nil => exact ht.elim
    | cons b ts => exact fun h => Bool.noConfusion (ht.1.mp h)
  · rw [List.append_assoc (pre ++ tag), tag_append]

theorem readObject_cons_at {tag : Bytes} (ht : TagOK tag true) (pre L rest : Bytes) {n o2 : Nat} {ind : Bool}
    (hL : L ≠ [])
    (hl : readLength (pre ++ tag ++ L ++ rest) ((pre ++ tag).length + 1) (L.headD 0) = .ok (n, o2, ind))
    (hfit : o2 + n ≤ (pre ++ tag ++ L ++ rest).length) {f d : Nat} {items : List Obj} {e1 : Nat}
    (hd : d < maxBERDepth)
    (hi : readItems f (pre ++ tag ++ L ++ rest) o2 (o2 + n) ind (d + 1) = .ok (items, e1)) :
    readObject (f + 1) (pre ++ tag ++ L ++ rest) pre.length d
      = .ok (.cons tag items, if ind then e1 + 2 else o2 + n) := by
  rw [readObject_succ, header_append ht pre L rest hL hl]
  show body _ _ _ _ (readItems f _ o2 (o2 + n) ind (d + 1)) = _
  rw [hi]
  refine (body_cons _ hfit ?_ hd).trans ?_
  · cases tag with
    | nil => exact ht.elim
    | cons b ts => exact ht.1.mpr rfl
  · rw [List.append_assoc (pre ++ tag), tag_append]; rfl

theorem encodeTo_length_ge2 (o : Obj) (h : WF o) : 2 ≤ (encodeTo o).length := by
  have key : ∀ (tag : Bytes) (c : Bool) (n : Nat) (x : Bytes), TagOK tag c →
      2 ≤ (tag ++ encodeLength n ++ x).length := by
    intro tag c n x ht
    have := List.length_pos_iff.mpr (Props.C17.encodeLength_ne_nil n)
    cases tag with
    | nil => exact ht.elim
    | cons b ts => simp only [List.length_append, List.length_cons]; omega
  cases o with
  | prim tag c => rw [WF] at h; rw [encodeTo]; exact key _ _ _ _ h.1
  | cons tag items => rw [WF] at h; rw [encodeTo]; exact key _ _ _ _ h.1

mutual
theorem readObject_encodeTo_need : (o : Obj) → WF o → ∀ (pre rest : Bytes) (f d : Nat), need o ≤ f →
    o.depth + d ≤ maxBERDepth →
    readObject f (pre ++ encodeTo o ++ rest) pre.length d = .ok (o, pre.length + (encodeTo o).length)
  | .prim tag c, hwf, pre, rest, f, d, hf, hd => by
    rw [WF] at hwf
    cases f with
    | zero => simp [need] at hf
    | succ f =>
      have e : pre ++ encodeTo (.prim tag c) ++ rest = pre ++ tag ++ encodeLength c.length ++ (c ++ rest) := by
        rw [encodeTo]; simp only [List.append_assoc]
      rw [e, readObject_prim_at hwf.1 pre _ (c ++ rest) (Props.C17.encodeLength_ne_nil _)
        (length_roundtrip_at (pre ++ tag) c.length hwf.2 (c ++ rest)) (by simp only [List.length_append]; omega),
        ← List.length_append, ← List.append_assoc _ c, take_drop_mid, encodeTo]
      simp only [List.length_append, Nat.add_assoc]
  | .cons tag items, hwf, pre, rest, f, d, hf, hd => by
    rw [WF] at hwf
    obtain ⟨htag, hlen, hitems⟩ := hwf
    rw [need] at hf
    rw [Obj.depth] at hd
    cases f with
    | zero => omega
    | succ f =>
      have e : pre ++ encodeTo (.cons tag items) ++ rest
          = pre ++ tag ++ encodeLength (encodeItems items).length ++ (encodeItems items ++ rest) := by
        rw [encodeTo]; simp only [List.append_assoc]
      have ih := readItems_members_need items hitems false (pre ++ tag ++ encodeLength (encodeItems items).length)
        rest f (d + 1) _ (by omega) (by omega) (fun _ => rfl) nofun
      rw [List.append_assoc _ (encodeItems items), List.length_append (as := pre ++ tag)] at ih
      rw [e, readObject_cons_at htag pre _ _ (Props.C17.encodeLength_ne_nil _)
        (length_roundtrip_at (pre ++ tag) _ hlen (encodeItems items ++ rest))
        (by simp only [List.length_append]; omega) (by omega) ih, encodeTo]
      simp only [List.length_append, Nat.add_assoc, Bool.false_eq_true, if_false]
/-- The item loop on the encodings of well-formed members `os`, anywhere in a longer input: in a definite-length
    parent that ends with them, or in an indefinite-length one where `00 00` follows and no member starts with
    `00 00` (the end-of-contents test comes before each member). -/
theorem readItems_members_need : (os : List Obj) → WFItems os → ∀ (ind : Bool) (pre rest : Bytes) (f d ce : Nat),
    needItems os ≤ f → depthItems os + d ≤ maxBERDepth →
    (ind = false → ce = pre.length + (encodeItems os).length) →
    (ind = true → (∀ o ∈ os, ¬ ((encodeTo o).getD 0 1 = 0 ∧ (encodeTo o).getD 1 1 = 0)) ∧ ∃ r, rest = 0 :: 0 :: r) →
    readItems f (pre ++ encodeItems os ++ rest) pre.length ce ind d = .ok (os, pre.length + (encodeItems os).length)
  | [], _, ind, pre, rest, f, d, ce, hf, _, hF, hT => by
    cases f with
    | zero => simp [needItems] at hf
    | succ f =>
      rw [encodeItems, List.append_nil]
      refine readItems_stop f d ?_
      cases ind with
      | false => rw [loopTest_def, if_neg (by rw [hF rfl]; exact Nat.lt_irrefl _)]; rfl
      | true =>
        obtain ⟨_, r, rfl⟩ := hT rfl
        exact loopTest_eoc pre r ce
  | o :: os, hwf, ind, pre, rest, f, d, ce, hf, hd, hF, hT => by
    rw [WFItems] at hwf
    rw [needItems] at hf
    rw [depthItems] at hd
    rw [encodeItems, List.length_append] at hF
    cases f with
    | zero => omega
    | succ f =>
      have hf := Nat.le_of_succ_le_succ hf
      have ih1 := readObject_encodeTo_need o hwf.1 pre (encodeItems os ++ rest) f d
        (Nat.le_trans (Nat.le_max_left _ _) hf) (Nat.le_trans (Nat.add_le_add_right (Nat.le_max_left _ _) d) hd)
      have ih2 := readItems_members_need os hwf.2 ind (pre ++ encodeTo o) rest f d ce
        (Nat.le_trans (Nat.le_max_right _ _) hf) (Nat.le_trans (Nat.add_le_add_right (Nat.le_max_right _ _) d) hd)
        (fun h => by rw [hF h, List.length_append, Nat.add_assoc])
        (fun h => ⟨fun x hx => (hT h).1 x (List.mem_cons_of_mem _ hx), (hT h).2⟩)
      have hge := encodeTo_length_ge2 o hwf.1
      rw [List.append_assoc _ (encodeItems os), List.length_append, Nat.add_assoc] at ih2
      rw [encodeItems, List.length_append, ← List.append_assoc, List.append_assoc _ (encodeItems os)]
      refine readItems_member ?_ ih1 (fun h => by rw [hF h]; omega) ih2
      cases ind with
      | false => rw [loopTest_def, if_pos (by rw [hF rfl]; omega)]
      | true =>
        rw [List.append_assoc]
        refine loopTest_member ce (by rw [List.length_append]; omega) ?_
        rw [getD_append_left _ _ 0 (by omega), getD_append_left _ _ 1 (by omega)]
        exact (hT rfl).1 o List.mem_cons_self
end

theorem readTag_ok_contTag : ∀ (fuel : Nat) (ber : Bytes) (off e : Nat), readTag fuel ber off = .ok e →
    contTag ((ber.drop off).take (e - off)) := by
  intro fuel
  induction fuel with
  | zero => intro ber off e h; simp [readTag] at h
  | succ f ih =>
    intro ber off e h
    have hbd := readTag_bounds _ _ _ _ h
    rw [readTag] at h
    cases hb : ber[off]? with
    | none => simp [hb] at h
    | some x =>
      simp only [hb] at h
      have ht : e - off = (e - (off + 1)) + 1 := by omega
      rw [drop_of_getElem? hb, ht, List.take_succ_cons, contTag]
      split at h
      · rename_i hge
        rw [if_pos hge]
        exact ih ber (off + 1) e h
      · rename_i hge
        rw [if_neg hge]
        injection h with h
        subst h
        simp

theorem header_tagOK {ber : Bytes} {off : Nat} {hd : Hdr} (h : header ber off = .ok hd) :
    TagOK (hd.tag ber off) (decide hd.cons) := by
  obtain ⟨hb, ht, _⟩ := header_eq_ok.mp h
  have hbd := header_bounds h
  rw [Hdr.tag, drop_of_getElem? hb, show hd.tagEnd - off = (hd.tagEnd - (off + 1)) + 1 by omega, List.take_succ_cons]
  refine ⟨by simp, ?_⟩
  split at ht
  · rename_i h31
    rw [if_pos h31]; exact readTag_ok_contTag _ _ _ _ ht
  · rename_i h31
    injection ht with ht
    rw [if_neg h31, ← ht]; simp

mutual
  def TagsOK : Obj → Prop
    | .prim tag _ => TagOK tag false
    | .cons tag items => TagOK tag true ∧ TagsOKItems items
  def TagsOKItems : List Obj → Prop
    | [] => True
    | o :: os => TagsOK o ∧ TagsOKItems os
end

theorem tagsOK_all (ber : Bytes) : ∀ f : Nat,
    (∀ off d o e, readObject f ber off d = .ok (o, e) → TagsOK o) ∧
    (∀ off ce ind d os e, readItems f ber off ce ind d = .ok (os, e) → TagsOKItems os) := by
  refine parse_induction ber (PO := fun _ _ o _ => TagsOK o) (PI := fun _ _ _ _ os _ => TagsOKItems os) ?_ ?_ ?_ ?_
  · intro off d hd hh _ hc
    rw [TagsOK]; exact decide_eq_false hc ▸ header_tagOK hh
  · intro f off d hd items e1 hh _ hc _ _ hI
    rw [TagsOK]; exact ⟨decide_eq_true hc ▸ header_tagOK hh, hI⟩
  · intro off ce ind d _ _
    rw [TagsOKItems]; trivial
  · intro f off ce ind d o e1 os e _ _ _ hO hI
    rw [TagsOKItems]; exact ⟨hO, hI⟩

mutual
/-- all content and inner lengths are bounded by the length of the whole encoding -/
theorem wf_of_tagsOK : (o : Obj) → TagsOK o → (encodeTo o).length < 2 ^ 31 → WF o
  | .prim tag c, ht, hl => by
    rw [TagsOK] at ht
    rw [encodeTo] at hl
    simp only [List.length_append] at hl
    rw [WF]; exact ⟨ht, by omega⟩
  | .cons tag items, ht, hl => by
    rw [TagsOK] at ht
    have hin := encodeTo_cons_length tag items
    rw [WF]
    exact ⟨ht.1, by omega, wfItems_of_tagsOK items ht.2 (by omega)⟩
theorem wfItems_of_tagsOK : (os : List Obj) → TagsOKItems os → (encodeItems os).length < 2 ^ 31 → WFItems os
  | [], _, _ => by simp [WFItems]
  | o :: os, ht, hl => by
    rw [TagsOKItems] at ht
    rw [encodeItems, List.length_append] at hl
    rw [WFItems]
    exact ⟨wf_of_tagsOK o ht.1 (by omega), wfItems_of_tagsOK os ht.2 (by omega)⟩
end

/-- Reading back what `EncodeTo` wrote: for a well-formed tree `o`, anywhere inside a longer byte string, at
    any depth `d` that leaves room for its nesting, and with the fuel of `Props.C18.fuel_sufficient`,
    `readObject` returns `o` itself and the offset right after its encoding. -/
theorem readObject_encodeTo (o : Obj) (hwf : WF o) (pre rest : Bytes) (fuel d : Nat)
    (hd : o.depth + d ≤ maxBERDepth)
    (hf : 2 * ((pre ++ encodeTo o ++ rest).length - pre.length) + 1 ≤ fuel) :
    readObject fuel (pre ++ encodeTo o ++ rest) pre.length d = .ok (o, pre.length + (encodeTo o).length) :=
  readObject_ok_fuel (readObject_encodeTo_need o hwf pre rest _ d (Nat.le_refl _) hd) hf

/-- companion for the item loop in the definite case: the concatenated encodings of well-formed children,
    with `contentEnd` at their end, are read back as exactly those children -/
theorem readItems_encodeItems (os : List Obj) (hwf : WFItems os) (pre rest : Bytes) (fuel d : Nat)
    (hd : depthItems os + d ≤ maxBERDepth)
    (hf : 2 * ((pre ++ encodeItems os ++ rest).length - pre.length) + 2 ≤ fuel) :
    readItems fuel (pre ++ encodeItems os ++ rest) pre.length (pre.length + (encodeItems os).length) false d
      = .ok (os, pre.length + (encodeItems os).length) := by
  rw [← readItems_fuel_add _ _ _ _ d fuel (fuel_sufficient_items _ _ _ false d fuel hf) (needItems os)]
  exact readItems_members_need os hwf false pre rest _ d _ (by omega) hd (fun _ => rfl) nofun

/-- DER in, the same DER out: the encoding of a well-formed tree of depth ≤ `maxBERDepth` is a fixed point of
    `ber2der` -/
theorem ber2der_encodeTo (o : Obj) (hwf : WF o) (hd : o.depth ≤ maxBERDepth) :
    ber2der (encodeTo o) = .ok (encodeTo o) := by
  have h := readObject_encodeTo o hwf [] [] (2 * (encodeTo o).length + 2) 0 (by omega)
    (by simp only [List.nil_append, List.append_nil, List.length_nil]; omega)
  simp only [List.nil_append, List.append_nil, List.length_nil] at h
  rw [ber2der_eq (List.ne_nil_of_length_pos (Nat.lt_of_lt_of_le Nat.zero_lt_two (encodeTo_length_ge2 o hwf))), h]
  rfl

/-- Everything `readObject` returns is well-formed: its tags are what `readTag` consumed, the constructed bit
    decided between `.prim` and `.cons`, and all lengths are bounded by the length of the re-encoding. -/
theorem readObject_wf {fuel : Nat} {ber : Bytes} {off d : Nat} {o : Obj} {e : Nat}
    (h : readObject fuel ber off d = .ok (o, e)) (hl : (encodeTo o).length < 2 ^ 31) : WF o :=
  wf_of_tagsOK o ((tagsOK_all ber fuel).1 off d o e h) hl

/-- Idempotence of the transcoder: whatever `ber2der` outputs is accepted by `ber2der` unchanged (for outputs
    shorter than 2^31 bytes, the lengths the Go `int` arithmetic of `readObject` accepts) — so the bytes
    `ParsePKCS7` parses after transcoding are stable under transcoding again. -/
theorem ber2der_idempotent {ber der : Bytes} (h : ber2der ber = .ok der) (hl : der.length < 2 ^ 31) :
    ber2der der = .ok der := by
  obtain ⟨o, e, hr, rfl⟩ := ber2der_ok h
  exact ber2der_encodeTo o (readObject_wf hr hl) (depth_bounded (Nat.zero_le _) hr)

/-- a well-formed tree (SEQUENCE { INTEGER 5, [high tag 0x1F 0x81 0x01] "ab" }) and its fixed point -/
example : WF (.cons [0x30] [.prim [0x02] [0x05], .prim [0x1F, 0x81, 0x01] [0x61, 0x62]]) := by
  simp [WF, WFItems, TagOK, contTag, encodeItems, encodeTo, encodeLength]

example : ber2der (encodeTo (.cons [0x30] [.prim [0x02] [0x05], .prim [0x1F, 0x81, 0x01] [0x61, 0x62]]))
    = .ok [0x30, 0x09, 0x02, 0x01, 0x05, 0x1F, 0x81, 0x01, 0x02, 0x61, 0x62] := by rfl

/-- indefinite-length input: the first pass changes the bytes, the second does not -/
example : ber2der [0x30, 0x80, 0x30, 0x80, 0x02, 0x01, 0x05, 0x00, 0x00, 0x00, 0x00]
      = .ok [0x30, 0x05, 0x30, 0x03, 0x02, 0x01, 0x05]
    ∧ ber2der [0x30, 0x05, 0x30, 0x03, 0x02, 0x01, 0x05] = .ok [0x30, 0x05, 0x30, 0x03, 0x02, 0x01, 0x05] := by
  constructor <;> rfl

/-- well-formedness is needed: a "primitive" whose tag carries the constructed bit is not read back -/
example : (ber2der (encodeTo (.prim [0x30] [0x01]))).toOption.isNone = true := by rfl

end Props.C17Idem
