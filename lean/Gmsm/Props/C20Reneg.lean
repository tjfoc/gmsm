/-
C20 (renegotiation part) — `Conn.Write` on a healthy connection while a concurrent `Conn.Read` renegotiates,
under ALL interleavings.  Model: `Model.ConnReneg` (one atomic action of one goroutine per step; `fixed = true`
is the repaired Write loop, `fixed = false` the code as found).  The theorems hold for ANY number of goroutines in
Write, ANY number of renegotiations the peer asks for and ANY schedule; they are proved by induction over the
schedule (`Proofs.Sched`) with the invariant `Inv`.  `old_write_internal_error_witness`: the code as found,
one Write, one renegotiation, a schedule after which the Write has returned alertInternalError with nothing written.

What is NOT covered: failing renegotiations and transport errors (the legitimate error returns of Write), Close
(Model.ConnInterlock), the contents of the handshake, the Go memory model (atomics are sequentially consistent).
Core Lean only.
-/
import Gmsm.Model.ConnReneg
import Gmsm.Props.C20Interlock
namespace Props.C20Reneg
open Model.ConnReneg
open Props.C20Interlock (sumBy sumBy_split le_sumBy sumBy_eq_zero exists_of_sumBy_pos sumBy_add)

/-- holds handshakeMutex, no renegotiation window open by it -/
def hsIdle : Thread → Nat
  | .writer .hsCheck | .writer .hsUnlock | .reader .rnClear | .reader .rnUnlock => 1
  | _ => 0
/-- holds handshakeMutex, handshakeStatus = 0, ClientHello not yet on the wire -/
def preHello : Thread → Nat
  | .reader .helloLock | .reader .helloSend => 1
  | _ => 0
/-- holds handshakeMutex, handshakeStatus = 0, ClientHello on the wire -/
def afterHello : Thread → Nat
  | .reader .finLock | .reader .finSend | .reader .rnFinish => 1
  | _ => 0
/-- holds c.out, about to write an application record -/
def atRecord : Thread → Nat
  | .writer .record => 1
  | _ => 0
/-- holds c.out otherwise -/
def outOther : Thread → Nat
  | .writer .outCheck | .writer .retryUnlock | .writer (.outUnlock _) | .reader .helloSend | .reader .finSend => 1
  | _ => 0
def intErr : Thread → Nat
  | .writer (.outUnlock .internalError) | .writer (.done .internalError) => 1
  | _ => 0
/-- a Write whose record is on the wire -/
def sent : Thread → Nat
  | .writer (.outUnlock .ok) | .writer (.done .ok) => 1
  | _ => 0
/-- a renegotiation taken from the peer and not yet completed -/
def inReneg : Thread → Nat
  | .reader .rnLock | .reader .rnClear | .reader .helloLock | .reader .helloSend | .reader .finLock
  | .reader .finSend | .reader .rnFinish => 1
  | _ => 0
def readerDone : Thread → Nat
  | .reader .done => 1
  | _ => 0

theorem step_some {fixed : Bool} {s s' : State} {t : ThreadId} (h : step fixed s t = some s') :
    ∃ th sh' th', s.threads[t]? = some th ∧ localStep fixed s.toShared th = some (sh', th') ∧
      s' = { toShared := sh', threads := s.threads.set t th' } := by
  unfold step at h
  split at h
  · simp at h
  · rename_i th hget
    split at h
    · simp at h
    · rename_i sh th' hl
      simp at h
      subst h
      exact ⟨th, sh, th', hget, hl, rfl⟩

theorem next_of_none {fixed : Bool} {s : State} {t : ThreadId} (h : step fixed s t = none) : next fixed s t = s :=
  Proofs.Sched.next_of_none h
theorem next_of_some {fixed : Bool} {s s' : State} {t : ThreadId} (h : step fixed s t = some s') :
    next fixed s t = s' :=
  Proofs.Sched.next_of_some h
theorem run_nil (fixed : Bool) (s : State) : run fixed s [] = s := rfl
theorem run_cons (fixed : Bool) (s : State) (t : ThreadId) (ts : List ThreadId) :
    run fixed s (t :: ts) = run fixed (next fixed s t) ts := rfl
theorem run_append (fixed : Bool) (s : State) (a b : List ThreadId) :
    run fixed s (a ++ b) = run fixed (run fixed s a) b := List.foldl_append ..

/-- `next` and `run` are those of `Proofs.Sched` for `step fixed`: what every action preserves holds along a
    schedule -/
theorem run_preserves {fixed : Bool} {P : State → Prop} (hP : ∀ {s t s'}, P s → step fixed s t = some s' → P s')
    {s : State} (h : P s) (sched : List ThreadId) : P (run fixed s sched) :=
  Proofs.Sched.run_preserves (step := step fixed) hP h sched

structure Inv (fixed : Bool) (renegs : Nat) (s : State) : Prop where
  hs : sumBy hsIdle s.threads + sumBy preHello s.threads + sumBy afterHello s.threads = s.hsHeld.toNat
  out : sumBy atRecord s.threads + sumBy outOther s.threads = s.outHeld.toNat
  window : sumBy preHello s.threads + sumBy afterHello s.threads + s.complete.toNat = 1
  hello : sumBy afterHello s.threads = s.helloSent.toNat
  excl : sumBy atRecord s.threads + sumBy afterHello s.threads ≤ 1
  mid : s.appMidHandshake = 0
  self : s.selfHandshakes = 0
  recs : s.appRecords = sumBy sent s.threads
  noErr : fixed = true → sumBy intErr s.threads = 0
  acct : s.pendingRenegs + sumBy inReneg s.threads + s.renegsDone = renegs
  drained : sumBy readerDone s.threads = 0 ∨ s.pendingRenegs = 0

/-- the record action's increment of `appMidHandshake`, `if sh.helloSent then 1 else 0`, as arithmetic -/
theorem ite_toNat (b : Bool) : (if b.toNat = 1 then 1 else 0) = b.toNat := by cases b <;> rfl

/-- each sum is split into the share of the goroutine that moves and the share `r` of the others
    (`sumBy_split`); one case analysis over the program counters then leaves linear arithmetic -/
theorem Inv.step {fixed : Bool} {renegs : Nat} {s s' : State} {t : ThreadId} (hI : Inv fixed renegs s)
    (h : step fixed s t = some s') : Inv fixed renegs s' := by
  obtain ⟨th, sh', th', hget, hl, rfl⟩ := step_some h
  obtain ⟨r, er, er'⟩ := sumBy_split hget
  obtain ⟨i1, i2, i3, i4, i5, i6, i7, i8, i9, i10, i11⟩ := hI
  simp only [er] at i1 i2 i3 i4 i5 i8 i9 i10 i11
  clear h hget er
  have hb1 := Bool.toNat_le s.hsHeld
  have hb2 := Bool.toNat_le s.outHeld
  have hb3 := Bool.toNat_le s.complete
  have hb4 := Bool.toNat_le s.helloSent
  generalize s.toShared = sh at *
  revert hl
  fun_cases localStep fixed sh th <;> rintro ⟨⟩
  all_goals try cases ‹Outcome›
  -- the tests `localStep` made on the flags, in the form the invariant speaks of them (`.toNat`)
  all_goals simp only [← Bool.toNat_eq_one, ite_toNat] at *
  all_goals simp only [hsIdle, preHello, afterHello, atRecord, outOther, intErr, sent, inReneg, readerDone]
    at i1 i2 i3 i4 i5 i8 i9 i10 i11
  all_goals
    refine ⟨?_, ?_, ?_, ?_, ?_, ?_, ?_, ?_, ?_, ?_, ?_⟩ <;>
    simp only [er', hsIdle, preHello, afterHello, atRecord, outOther, intErr,
      sent, inReneg, readerDone, Bool.toNat_true, Bool.toNat_false, ← Bool.toNat_eq_one] <;>
    omega

theorem sumBy_init (kinds : List Kind) (renegs : Nat) (f : Thread → Nat) (h1 : f (.writer .hsLock) = 0)
    (h2 : f (.reader .read) = 0) : sumBy f (initOf kinds renegs).threads = 0 :=
  Props.C20Interlock.sumBy_map_eq_zero f _ (fun k => by cases k <;> assumption) kinds

theorem Inv.init (fixed : Bool) (kinds : List Kind) (renegs : Nat) : Inv fixed renegs (initOf kinds renegs) := by
  have z := fun f h1 h2 => sumBy_init kinds renegs f h1 h2
  constructor
  · rw [z hsIdle rfl rfl, z preHello rfl rfl, z afterHello rfl rfl]; rfl
  · rw [z atRecord rfl rfl, z outOther rfl rfl]; rfl
  · rw [z preHello rfl rfl, z afterHello rfl rfl]; rfl
  · rw [z afterHello rfl rfl]; rfl
  · rw [z atRecord rfl rfl, z afterHello rfl rfl]; exact Nat.zero_le _
  · rfl
  · rfl
  · rw [z sent rfl rfl]; rfl
  · intro _; exact z intErr rfl rfl
  · rw [z inReneg rfl rfl]; simp [initOf, initShared]
  · exact Or.inl (z readerDone rfl rfl)

theorem Inv.run {fixed : Bool} {renegs : Nat} {s : State} (hI : Inv fixed renegs s) (sched : List ThreadId) :
    Inv fixed renegs (run fixed s sched) := run_preserves Inv.step hI sched

/-- every state of every execution: any number of goroutines in Write / Read, any number of renegotiations the
    peer asks for, any schedule -/
theorem inv_reachable (fixed : Bool) (kinds : List Kind) (renegs : Nat) (sched : List ThreadId) :
    Inv fixed renegs (run fixed (initOf kinds renegs) sched) := (Inv.init fixed kinds renegs).run sched

theorem localStep_kind {fixed : Bool} {sh sh' : Shared} {th th' : Thread} (h : localStep fixed sh th = some (sh', th')) :
    th'.kind = th.kind := by
  revert h
  fun_cases localStep fixed sh th <;> rintro ⟨⟩ <;> rfl

theorem run_kinds (fixed : Bool) (s : State) (sched : List ThreadId) :
    (run fixed s sched).threads.map Thread.kind = s.threads.map Thread.kind :=
  run_preserves (P := fun s' => s'.threads.map Thread.kind = s.threads.map Thread.kind)
    (fun h hs => by
      obtain ⟨th, sh', th', hget, hl, rfl⟩ := step_some hs
      exact (Props.C20Interlock.map_set_same _ _ hget (localStep_kind hl)).trans h) rfl sched

theorem run_length (fixed : Bool) (s : State) (sched : List ThreadId) :
    (run fixed s sched).threads.length = s.threads.length := by
  simpa using congrArg List.length (run_kinds fixed s sched)

/-- no Write - finished or about to unlock - has the result alertInternalError, in any reachable state of the
    repaired code: a Write that finds the handshake incomplete under c.out goes back to wait in Handshake() -/
theorem write_never_internal_error (kinds : List Kind) (renegs : Nat) (sched : List ThreadId) (t : ThreadId) :
    (run true (initOf kinds renegs) sched).threads[t]? ≠ some (.writer (.done .internalError)) ∧
    (run true (initOf kinds renegs) sched).threads[t]? ≠ some (.writer (.outUnlock .internalError)) := by
  have h := (inv_reachable true kinds renegs sched).noErr rfl
  have key : ∀ th, intErr th = 1 → (run true (initOf kinds renegs) sched).threads[t]? ≠ some th := fun th h1 hget => by
    have := le_sumBy intErr (List.mem_of_getElem? hget)
    omega
  exact ⟨key _ rfl, key _ rfl⟩

/-- the same, in terms of the results -/
theorem write_outcomes_ok (kinds : List Kind) (renegs : Nat) (sched : List ThreadId) :
    ∀ o ∈ (run true (initOf kinds renegs) sched).outcomes, o = none ∨ o = some .ok := by
  intro o ho
  simp only [State.outcomes, List.mem_map] at ho
  obtain ⟨th, hmem, rfl⟩ := ho
  obtain ⟨i, hi⟩ := List.getElem?_of_mem hmem
  have h1 := (write_never_internal_error kinds renegs sched i).1
  rcases th with pc | pc <;> cases pc <;> simp [Thread.outcome]
  rename_i o
  cases o
  · rfl
  · exact absurd hi h1

theorem sumBy_const_of_all {l : List Thread} (f : Thread → Nat) (p : Thread → Bool)
    (h : ∀ a ∈ l, f a = if p a then 1 else 0) : sumBy f l = l.countP p := by
  induction l with
  | nil => rfl
  | cons a l ih =>
    have h1 := h a (by simp)
    have h2 := ih (fun b hb => h b (by simp [hb]))
    simp only [sumBy, h1, h2, List.countP_cons]
    omega

theorem start_kinds (kinds : List Kind) : (kinds.map Thread.start).map Thread.kind = kinds := by
  induction kinds with
  | nil => rfl
  | cons k ks ih => cases k <;> simp [Thread.start, Thread.kind] <;> simpa using ih

theorem countP_writer_kinds (l : List Thread) :
    l.countP (fun a => a.kind == .writer) = (l.map Thread.kind).count .writer := by
  induction l with
  | nil => rfl
  | cons a l ih => simp [List.countP_cons, List.count_cons, ih]

/-- when every call has returned (repaired code): the number of application records on the wire is the number of
    Write calls, every renegotiation the peer asked for has been completed (if there is a goroutine in Read), no
    record went out in the middle of a handshake -/
theorem writes_all_delivered (kinds : List Kind) (renegs : Nat) (sched : List ThreadId)
    (hd : (run true (initOf kinds renegs) sched).allDone = true) :
    (run true (initOf kinds renegs) sched).appRecords = kinds.count .writer ∧
    (.reader ∈ kinds → (run true (initOf kinds renegs) sched).renegsDone = renegs) ∧
    (run true (initOf kinds renegs) sched).appMidHandshake = 0 := by
  have hI := inv_reachable true kinds renegs sched
  have hk := run_kinds true (initOf kinds renegs) sched
  generalize run true (initOf kinds renegs) sched = s at *
  have hall : ∀ a ∈ s.threads, a.isDone = true := by
    simpa [State.allDone, List.all_eq_true] using hd
  refine ⟨?_, ?_, hI.mid⟩
  · rw [hI.recs]
    have h0 := hI.noErr rfl
    have : sumBy sent s.threads = s.threads.countP (fun a => a.kind == .writer) := by
      apply sumBy_const_of_all
      intro a ha
      have hdn := hall a ha
      have he := le_sumBy intErr ha
      rcases a with pc | pc <;> cases pc <;> simp [Thread.isDone] at hdn <;> simp [sent, Thread.kind]
      rename_i o
      cases o
      · simp
      · simp [intErr] at he; omega
    rw [this, countP_writer_kinds, hk]
    simp only [initOf, start_kinds]
  · intro hr
    have hmem : Kind.reader ∈ s.threads.map Thread.kind := by
      rw [hk]; simp only [initOf, start_kinds]; exact hr
    obtain ⟨a, ha, hka⟩ := List.mem_map.1 hmem
    have hdn := hall a ha
    have ha' : a = .reader .done := by
      rcases a with pc | pc <;> cases pc <;> simp [Thread.isDone, Thread.kind] at hdn hka ⊢
    subst ha'
    have h1 := le_sumBy readerDone ha
    have hz : sumBy inReneg s.threads = 0 := by
      apply sumBy_eq_zero
      intro b hb
      have := hall b hb
      rcases b with pc | pc <;> cases pc <;> simp [Thread.isDone] at this <;> rfl
    have := hI.acct
    rcases hI.drained with h | h
    · simp [readerDone] at h1; omega
    · omega

/-- no application record is ever written between the ClientHello of a renegotiation and the end of that handshake
    (the peer would refuse it: unexpected_message) - for the repaired loop and for the code as found -/
theorem no_appdata_mid_handshake (fixed : Bool) (kinds : List Kind) (renegs : Nat) (sched : List ThreadId) :
    (run fixed (initOf kinds renegs) sched).appMidHandshake = 0 := (inv_reachable fixed kinds renegs sched).mid

/-- the `Handshake()` call at the top of Write's loop never has a handshake to run: whenever it gets
    handshakeMutex the (re)negotiation in progress has finished -/
theorem write_never_runs_handshake (fixed : Bool) (kinds : List Kind) (renegs : Nat) (sched : List ThreadId) :
    (run fixed (initOf kinds renegs) sched).selfHandshakes = 0 := (inv_reachable fixed kinds renegs sched).self

/-- whoever holds handshakeMutex outside a renegotiation window sees a completed handshake -/
theorem complete_of_hsIdle {fixed : Bool} {renegs : Nat} {s : State} (hI : Inv fixed renegs s) {t : ThreadId} {th : Thread}
    (hget : s.threads[t]? = some th) (h : hsIdle th = 1) : s.complete = true := by
  have := le_sumBy hsIdle (List.mem_of_getElem? hget)
  have h1 := hI.hs; have h3 := hI.window; have hb := Bool.toNat_le s.hsHeld
  exact Bool.toNat_eq_one.1 (by omega)

/-- a Write that holds handshakeMutex sees a completed handshake -/
theorem complete_when_write_holds_hs {fixed : Bool} {renegs : Nat} {s : State} (hI : Inv fixed renegs s) {t : ThreadId}
    (ht : s.threads[t]? = some (.writer .hsCheck) ∨ s.threads[t]? = some (.writer .hsUnlock)) : s.complete = true :=
  ht.elim (complete_of_hsIdle hI · rfl) (complete_of_hsIdle hI · rfl)

theorem step_isSome {fixed : Bool} {s : State} {t : ThreadId} {th : Thread} (hget : s.threads[t]? = some th)
    (hl : (localStep fixed s.toShared th).isSome = true) : t < s.threads.length ∧ (step fixed s t).isSome = true := by
  obtain ⟨p, hp⟩ := Option.isSome_iff_exists.1 hl
  exact ⟨(List.getElem?_eq_some_iff.1 hget).1, by simp [step, hget, hp]⟩

theorem localStep_isSome_outHolder {fixed : Bool} {sh : Shared} {th : Thread} (hh : 0 < atRecord th + outOther th) :
    (localStep fixed sh th).isSome = true := by
  fun_cases localStep fixed sh th <;> simp_all [atRecord, outOther]

theorem localStep_isSome_hsHolder {fixed : Bool} {sh : Shared} {th : Thread} (hfree : sh.outHeld = false)
    (hh : 0 < hsIdle th + preHello th + afterHello th) : (localStep fixed sh th).isSome = true := by
  fun_cases localStep fixed sh th <;> simp_all [hsIdle, preHello, afterHello]

theorem localStep_isSome_free {fixed : Bool} {sh : Shared} {th : Thread} (h1 : sh.outHeld = false) (h2 : sh.hsHeld = false)
    (hnd : th.isDone = false) : (localStep fixed sh th).isSome = true := by
  fun_cases localStep fixed sh th <;> simp_all [Thread.isDone]

/-- deadlock freedom: in a reachable state in which some call has not returned, some goroutine can take a step.
    (A goroutine waits for c.out or for handshakeMutex only. The holder of c.out never waits. With c.out free the
    holder of handshakeMutex does not wait. The retry of the repaired Write releases c.out BEFORE it waits for
    handshakeMutex, so the order handshakeMutex -> c.out of the handshake is never reversed.) -/
theorem no_deadlock {fixed : Bool} {renegs : Nat} {s : State} (hI : Inv fixed renegs s) (hnd : s.allDone = false) :
    ∃ t, t < s.threads.length ∧ (step fixed s t).isSome = true := by
  cases hout : s.outHeld with
  | true =>
    have h1 := hI.out
    rw [hout, ← sumBy_add] at h1
    obtain ⟨i, a, hi, ha⟩ := exists_of_sumBy_pos _ (by rw [h1]; decide)
    exact ⟨i, step_isSome hi (localStep_isSome_outHolder ha)⟩
  | false =>
    cases hhs : s.hsHeld with
    | true =>
      have h1 := hI.hs
      rw [hhs, ← sumBy_add, ← sumBy_add] at h1
      obtain ⟨i, a, hi, ha⟩ := exists_of_sumBy_pos _ (by rw [h1]; decide)
      exact ⟨i, step_isSome hi (localStep_isSome_hsHolder hout ha)⟩
    | false =>
      simp only [State.allDone, List.all_eq_false, Bool.not_eq_true] at hnd
      obtain ⟨th, hmem, hd⟩ := hnd
      obtain ⟨i, hi⟩ := List.getElem?_of_mem hmem
      exact ⟨i, step_isSome hi (localStep_isSome_free hout hhs hd)⟩

/-- actions a call still has to perform if nothing interferes (the reader: up to its next Read-loop iteration) -/
def localRem : Thread → Nat
  | .writer .hsLock => 7 | .writer .hsCheck => 6 | .writer .hsUnlock => 5 | .writer .outLock => 4
  | .writer .outCheck => 3 | .writer .retryUnlock => 8 | .writer .record => 2 | .writer (.outUnlock _) => 1
  | .writer (.done _) => 0
  | .reader .read => 1 | .reader .rnLock => 9 | .reader .rnClear => 8 | .reader .helloLock => 7
  | .reader .helloSend => 6 | .reader .finLock => 5 | .reader .finSend => 4 | .reader .rnFinish => 3
  | .reader .rnUnlock => 2 | .reader .done => 0
/-- a renegotiation taken from the peer whose `handshakeStatus = 0` is still to come -/
def beforeClear : Thread → Nat
  | .reader .rnLock | .reader .rnClear => 1
  | _ => 0
/-- a Write that will test handshakeComplete() without waiting for handshakeMutex first: the renegotiation
    running now can send it round the loop -/
def waitOut : Thread → Nat
  | .writer .outLock | .writer .outCheck => 1
  | _ => 0
def notWait : Thread → Nat
  | .writer .outLock | .writer .outCheck => 0
  | _ => 1

theorem waitOut_add_notWait (l : List Thread) : sumBy waitOut l + sumBy notWait l = l.length := by
  induction l with
  | nil => rfl
  | cons a l ih =>
    have : waitOut a + notWait a = 1 := by rcases a with pc | pc <;> cases pc <;> rfl
    simp only [sumBy, List.length_cons]; omega

/-- termination measure: every action that happens decreases it. A Write goes round its loop only when a
    renegotiation is running (handshakeStatus = 0) and then waits for that renegotiation: 6 per goroutine and
    renegotiation still to come pays for the 5 extra actions of one round. -/
def mu (s : State) : Nat :=
  sumBy localRem s.threads +
  6 * (s.threads.length * s.pendingRenegs + s.threads.length * sumBy beforeClear s.threads +
       (sumBy waitOut s.threads - s.threads.length * s.complete.toNat)) +
  10 * s.pendingRenegs

/-- what an action costs, by what it does to the shared variables `mu` mentions.  Nothing: the goroutine's own
    remainder falls, and it begins to wait for c.out only as the holder of handshakeMutex, when (by `Inv`) the
    handshake is complete and no waiter counts; or a running renegotiation sends a Write round its loop, five actions
    more and one waiter fewer.  The reader takes the next HelloRequest.  The reader clears `handshakeStatus`: every
    waiter counts from now on, which the `beforeClear` term has paid for.  `handshakeStatus` is set: no waiter counts. -/
theorem localStep_cost {fixed : Bool} {sh sh' : Shared} {th th' : Thread} (h : localStep fixed sh th = some (sh', th')) :
    sh'.complete = sh.complete ∧ sh'.pendingRenegs = sh.pendingRenegs ∧ beforeClear th' = beforeClear th ∧
      (localRem th' < localRem th ∧ (waitOut th' ≤ waitOut th ∨ hsIdle th = 1) ∨
       sh.complete = false ∧ waitOut th' + 1 = waitOut th ∧ localRem th' ≤ localRem th + 5) ∨
    sh'.complete = sh.complete ∧ sh'.pendingRenegs + 1 = sh.pendingRenegs ∧ beforeClear th' = beforeClear th + 1 ∧
      waitOut th' = waitOut th ∧ localRem th' ≤ localRem th + 8 ∨
    sh'.complete = false ∧ sh'.pendingRenegs = sh.pendingRenegs ∧ beforeClear th' + 1 = beforeClear th ∧
      waitOut th' = waitOut th ∧ notWait th = 1 ∧ localRem th' < localRem th ∨
    sh'.complete = true ∧ sh'.pendingRenegs = sh.pendingRenegs ∧ beforeClear th' = beforeClear th ∧
      waitOut th' = waitOut th ∧ localRem th' < localRem th := by
  revert h
  fun_cases localStep fixed sh th <;> rintro ⟨⟩ <;> simp [*, localRem, beforeClear, waitOut, notWait, hsIdle] <;> omega

theorem step_measure {fixed : Bool} {renegs : Nat} {s s' : State} {t : ThreadId} (hI : Inv fixed renegs s)
    (h : step fixed s t = some s') : mu s' < mu s := by
  obtain ⟨th, sh', th', hget, hl, rfl⟩ := step_some h
  obtain ⟨r, er, er'⟩ := sumBy_split hget
  -- the goroutines that wait for c.out are at most all of them, before and after
  have w := waitOut_add_notWait s.threads
  have w' := waitOut_add_notWait (s.threads.set t th')
  have hc := complete_of_hsIdle hI hget
  unfold mu
  simp only [List.length_set, er, er'] at w w' ⊢
  generalize s.threads.length = n at *
  rcases localStep_cost hl with ⟨e1, e2, e3, h⟩ | ⟨e1, e2, e3, e4, h⟩ | ⟨e1, e2, e3, e4, e5, h⟩ | ⟨e1, e2, e3, e4, h⟩
  · rw [e1, e2, e3]
    rcases h with ⟨h1, h2 | h2⟩ | ⟨h1, h2, h3⟩
    · omega
    · rw [hc h2, Bool.toNat_true, Nat.mul_one]; omega
    · rw [h1, Bool.toNat_false, Nat.mul_zero]; omega
  · have : n * (sh'.pendingRenegs + 1) = n * sh'.pendingRenegs + n := Nat.mul_succ ..
    have : n * (beforeClear th + 1 + r beforeClear) = n * (beforeClear th + r beforeClear) + n := by
      rw [Nat.add_right_comm]; exact Nat.mul_succ ..
    rw [e1, ← e2, e3, e4]; omega
  · have : n * (beforeClear th' + 1 + r beforeClear) = n * (beforeClear th' + r beforeClear) + n := by
      rw [Nat.add_right_comm]; exact Nat.mul_succ ..
    rw [e1, e2, ← e3, e4, Bool.toNat_false, Nat.mul_zero]; omega
  · rw [e1, e2, e3, e4, Bool.toNat_true, Nat.mul_one]; omega

theorem step_none_of_done {fixed : Bool} {s : State} (t : ThreadId) (hd : s.allDone = true) : step fixed s t = none := by
  unfold step
  cases hget : s.threads[t]? with
  | none => rfl
  | some th =>
    have : th.isDone = true := by
      simp only [State.allDone, List.all_eq_true] at hd
      exact hd th (List.mem_of_getElem? hget)
    cases fixed <;> rcases th with pc | pc <;> cases pc <;> first | rfl | (simp [Thread.isDone] at this)

theorem fair_termination {fixed : Bool} {renegs : Nat} {s : State} (hI : Inv fixed renegs s) (rounds : List (List ThreadId))
    (hfair : ∀ r ∈ rounds, ∀ t, t < s.threads.length → t ∈ r) (hlen : mu s ≤ rounds.length) :
    (run fixed s rounds.flatten).allDone = true :=
  Proofs.Sched.fair_termination (step := step fixed) (done := State.allDone)
    (I := fun s' => Inv fixed renegs s' ∧ s'.threads.length = s.threads.length)
    (fun h hs => ⟨h.1.step hs, by
      obtain ⟨_, _, _, _, _, rfl⟩ := step_some hs
      exact List.length_set.trans h.2⟩)
    (fun h hs => step_measure h.1 hs) (fun h hnd => h.2 ▸ no_deadlock h.1 hnd) step_none_of_done ⟨hI, rfl⟩
    rounds hfair hlen

theorem localRem_init_le (kinds : List Kind) : sumBy localRem (kinds.map Thread.start) ≤ 7 * kinds.length := by
  induction kinds with
  | nil => simp [sumBy]
  | cons k ks ih => cases k <;> simp [sumBy, Thread.start, localRem] <;> omega

theorem mu_init_le (kinds : List Kind) (renegs : Nat) :
    mu (initOf kinds renegs) ≤ 7 * kinds.length + (6 * kinds.length + 10) * renegs := by
  unfold mu
  have h1 := localRem_init_le kinds
  have h2 : sumBy beforeClear (initOf kinds renegs).threads = 0 := sumBy_init kinds renegs _ rfl rfl
  have h3 : sumBy waitOut (initOf kinds renegs).threads = 0 := sumBy_init kinds renegs _ rfl rfl
  rw [h2, h3]
  simp only [initOf, initShared, List.length_map, Nat.mul_zero, Nat.zero_sub, Nat.add_zero]
  rw [Nat.add_mul, Nat.mul_assoc]
  omega

/-- The repaired loop and the code as found: a schedule of at least `7·N + (6·N + 10)·renegs`
    rounds, each giving every one of the N goroutines at least one turn, finishes every Write and the Read - whatever
    the number of goroutines in Write and of renegotiations the peer asks for. A Write is sent round its loop only
    by a renegotiation that is running, and then waits for it: nobody spins, nobody waits forever. -/
theorem progress (fixed : Bool) (kinds : List Kind) (renegs : Nat) (rounds : List (List ThreadId))
    (hfair : ∀ r ∈ rounds, ∀ t, t < kinds.length → t ∈ r)
    (hlen : 7 * kinds.length + (6 * kinds.length + 10) * renegs ≤ rounds.length) :
    (run fixed (initOf kinds renegs) rounds.flatten).allDone = true := by
  apply fair_termination (Inv.init fixed kinds renegs) rounds
  · intro r hr t ht
    have : (initOf kinds renegs).threads.length = kinds.length := by simp [initOf]
    rw [this] at ht
    exact hfair r hr t ht
  · exact Nat.le_trans (mu_init_le kinds renegs) hlen

/-- one goroutine in Write (0), one in Read (1), the peer asks for one renegotiation. Write's Handshake() returns
    (3 actions), Read takes the HelloRequest, locks handshakeMutex and clears handshakeStatus (3 actions), Write
    locks c.out, tests handshakeComplete() and returns alertInternalError (3 actions); the renegotiation then
    completes normally. Nothing was written for the Write. -/
theorem old_write_internal_error_witness :
    let s := run false (init 1 1) [0, 0, 0, 1, 1, 1, 0, 0, 0, 1, 1, 1, 1, 1, 1, 1, 1]
    s.outcomes = [some .internalError, none] ∧ s.allDone = true ∧ s.appRecords = 0 ∧ s.renegsDone = 1 := by
  decide

/-- the same schedule on the repaired code: the Write waits for the renegotiation and is delivered -/
example :
    let s := run true (init 1 1) ([0, 0, 0, 1, 1, 1, 0, 0, 0, 1, 1, 1, 1, 1, 1, 1, 1] ++ [0, 0, 0, 0, 0, 0, 0, 0])
    s.outcomes = [some .ok, none] ∧ s.allDone = true ∧ s.appRecords = 1 ∧ s.renegsDone = 1 := by
  decide

/-- non-vacuity of the universally quantified theorems: 2 Writes, 2 renegotiations, an interleaved schedule that
    finishes everything with both Writes delivered, one of them after going round the loop -/
example :
    let s := run true (init 2 2)
      ([0, 0, 0, 2, 2, 2, 0, 0, 0, 1, 2, 2, 2, 2, 2, 2, 1, 1, 1, 1, 1, 1, 1] ++ List.replicate 12 2 ++ List.replicate 8 0)
    s.outcomes = [some .ok, some .ok, none] ∧ s.allDone = true ∧ s.appRecords = 2 ∧ s.renegsDone = 2 := by
  decide +kernel

/-- the hypotheses of `progress` are satisfiable: 2 Writes + the Read, 2 renegotiations, round robin -/
example : (run true (init 2 2) (List.replicate 40 [0, 1, 2]).flatten).allDone = true ∧
    (run true (init 2 2) (List.replicate 40 [0, 1, 2]).flatten).appRecords = 2 := by decide +kernel

end Props.C20Reneg

