/-
C10 (continued) — host-name matching stated at the level of labels.
`Model.X509.matchHostnames` splits pattern and host at dots (after dropping one trailing dot) and
compares label by label; the theorems below characterise that comparison for every pair of label
lists, so that "a wildcard stands for exactly one, leftmost, label" is a theorem about the model the
real `matchHostnames` is compared with on every run.
-/
import Gmsm.Model.X509Verify
namespace Props.C10
open Model.X509

/-- the label comparison inside `matchHostnames` -/
def matchLabels (pp hp : List String) : Bool :=
  if pp.length != hp.length then false
  else (List.zip pp hp).zipIdx.all fun ((p, h), i) => (i == 0 && p == "*") || p == h

theorem matchHostnames_eq (pattern host : String) :
    matchHostnames pattern host =
      (if (trimDot pattern).length == 0 || (trimDot host).length == 0 then false
       else matchLabels ((trimDot pattern).splitOn ".") ((trimDot host).splitOn ".")) := by
  unfold matchHostnames matchLabels
  rfl

theorem zipIdx_all_from (l : List (String × String)) (k : Nat) (hk : 0 < k) :
    (l.zipIdx k).all (fun x => (x.2 == 0 && x.1.1 == "*") || x.1.1 == x.1.2) = l.all (fun x => x.1 == x.2) := by
  induction l generalizing k with
  | nil => rfl
  | cons a as ih =>
    simp only [List.zipIdx_cons, List.all_cons]
    have : (k == 0) = false := by simp; omega
    rw [this, ih (k + 1) (by omega)]
    simp

theorem matchLabels_cons (p h : String) (ps hs : List String) :
    matchLabels (p :: ps) (h :: hs) = ((p == "*" || p == h) && decide (ps.length = hs.length) && (List.zip ps hs).all (fun x => x.1 == x.2)) := by
  unfold matchLabels
  by_cases hl : ps.length = hs.length
  · have : ((p :: ps).length != (h :: hs).length) = false := by simp [hl]
    simp only [this, Bool.false_eq_true, if_false, List.zip_cons_cons, List.zipIdx_cons, List.all_cons, hl, decide_true,
      Bool.and_true]
    have := zipIdx_all_from (List.zip ps hs) 1 (by omega)
    simp only [Nat.zero_add] at this ⊢
    rw [this]
    simp
  · simp [hl]

/-- a pattern never matches a host with a different number of labels — in particular
    `*.example.com` (3 labels) matches neither `example.com` nor `a.b.example.com`. -/
theorem wildcard_one_label (pp hp : List String) (h : pp.length ≠ hp.length) : matchLabels pp hp = false := by
  unfold matchLabels
  have : (pp.length != hp.length) = true := by simp [h]
  simp [this]

/-- a `*` anywhere but in the leftmost label is an ordinary label: it must equal the
    host's label literally. -/
theorem wildcard_leftmost_only (p h : String) (ps hs : List String) (hm : matchLabels (p :: ps) (h :: hs) = true) :
    ps = hs := by
  rw [matchLabels_cons] at hm
  simp only [Bool.and_eq_true, decide_eq_true_eq, List.all_eq_true, beq_iff_eq] at hm
  obtain ⟨⟨_, hl⟩, ha⟩ := hm
  apply List.ext_getElem hl
  intro i h1 h2
  have hz : (ps[i], hs[i]) ∈ List.zip ps hs := by
    have hi : i < (List.zip ps hs).length := by simp [List.length_zip]; omega
    have := List.getElem_mem hi
    simpa [List.getElem_zip] using this
  exact ha _ hz

/-- a leftmost `*` stands for one label, not for two, and is no wildcard in the second position -/
example : matchLabels ["*", "example", "com"] ["www", "example", "com"] = true := by decide
example : matchLabels ["*", "example", "com"] ["a", "b", "example", "com"] = false := by decide
example : matchLabels ["www", "*", "com"] ["www", "example", "com"] = false := by decide

end Props.C10
