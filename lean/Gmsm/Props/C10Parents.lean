/-
C10 — the parent selection of `Certificate.Verify` in the two points where it differs from the code as found, stated
over `Model.X509`.

*   cert_pool.go `findVerifiedParents` (false reject).  As found, the subject-name index was consulted only
    when the lookup by the child's AuthorityKeyId gave nothing: one unusable pool member with the matching
    SubjectKeyId (the expired predecessor of a renewed CA certificate, say) hid every other certificate of the
    same CA, and ADDING a certificate to a pool could make a valid chain disappear.  Repaired rule: key-id
    matches first, then the name matches not already listed.  Here: the set of chains is monotone in both pools
    (`verify_mono`); the local facts `findVerifiedParents_complete` / `findVerifiedParents_mono` and the
    completeness theorems without any key-identifier side condition are in `Props/C10Complete.lean`.
*   x509.go `CheckSignatureFrom` (false accept).  As found, the requirement "the parent is a CA" was waived
    whenever the CHILD carried one particular (public) RSA SubjectPublicKeyInfo (`entrustBrokenSPKI`), so an
    explicit non-CA certificate in the root pool was accepted as issuer of any leaf with that key.  The exemption
    is removed; the model never had it.  Here: `checkSigFrom_child_key_irrelevant`, `verify_issuers_ca` (every
    issuer in every chain `Verify` returns satisfies the CA conditions of RFC 5280 4.2.1.9, root pool members
    included).
-/
import Gmsm.Props.C10Complete
namespace Props.C10
open Model.X509

/-- `GoodSuffix` mentions the pools only through membership -/
theorem goodSuffix_mono (roots roots2 inters inters2 : List Cert) (o : Opts)
    (hr : ∀ x ∈ roots, x ∈ roots2) (hi : ∀ x ∈ inters, x ∈ inters2) (suffix : List Cert) :
    ∀ chain, GoodSuffix roots inters o chain suffix → GoodSuffix roots2 inters2 o chain suffix :=
  fun _ => GoodSuffix.induction (motive := fun chain suffix => GoodSuffix roots2 inters2 o chain suffix)
    (fun _ _ h1 h2 h3 => goodSuffix_root (hr _ h1) h2 h3)
    (fun _ _ _ h1 h2 h3 _ ih => goodSuffix_cons (hi _ h1) h2 h3 ih)

/-- every chain the search finds is also found with larger pools (any recursion depth that covers the larger
    intermediate pool, any budgets), unless the larger search is cut by its work budget.  False for the rule as
    found. -/
theorem buildChains_mono (roots roots2 inters inters2 : List Cert) (o : Opts)
    (hr : ∀ x ∈ roots, x ∈ roots2) (hi : ∀ x ∈ inters, x ∈ inters2)
    (fuel steps fuel2 steps2 : Nat) (chain full : List Cert)
    (h : full ∈ (buildChains roots inters o fuel steps chain).1)
    (hfuel : inters2.length + 1 ≤ fuel2)
    (hb : 0 < (buildChains roots2 inters2 o fuel2 steps2 chain).2) :
    full ∈ (buildChains roots2 inters2 o fuel2 steps2 chain).1 := by
  obtain ⟨suffix, rfl, hg⟩ := buildChains_sound roots inters o fuel steps chain full h
  have hg2 := goodSuffix_mono roots roots2 inters inters2 o hr hi suffix chain hg
  have hlen := goodSuffix_length_le roots2 inters2 o chain suffix hg2
  exact buildChains_complete roots2 inters2 o fuel2 steps2 chain suffix hg2 (Nat.le_trans hlen hfuel) hb

theorem candidates_mono (roots roots2 inters inters2 : List Cert) (leaf : Cert) (o : Opts)
    (hr : ∀ x ∈ roots, x ∈ roots2) (hi : ∀ x ∈ inters, x ∈ inters2)
    (hnr : roots2.any (·.id == leaf.id) = false)
    (hb : WithinBudget roots2 inters2 leaf o) :
    ∀ ch ∈ candidates roots inters leaf o, ch ∈ candidates roots2 inters2 leaf o := by
  intro ch hch
  refine candidates_complete hb (.inr ⟨hnr, ?_⟩)
  rcases candidates_sound hch with ⟨_, h⟩ | ⟨_, suffix, h1, hg⟩
  · obtain ⟨x, hx, hxe⟩ := List.any_eq_true.mp h
    rw [List.any_eq_true.mpr ⟨x, hr x hx, hxe⟩] at hnr
    cases hnr
  · exact ⟨suffix, h1, goodSuffix_mono roots roots2 inters inters2 o hr hi suffix [leaf] hg⟩

/-- adding a certificate to the intermediates or to the roots never removes a chain, provided
    * the leaf is not itself (by `Equal`) a member of the larger root pool - in that case `Verify` answers with
      the one-element chain `[leaf]` and does not search (`verify_complete_root`), and
    * the search over the larger pools is not cut by `maxChainBuildSteps` (`WithinBudget`).
    False for the rule as found (see the examples below: the expired predecessor of a renewed CA certificate). -/
theorem verify_mono (roots roots2 inters inters2 : List Cert) (leaf : Cert) (o : Opts) (chains : List (List Nat))
    (hr : ∀ x ∈ roots, x ∈ roots2) (hi : ∀ x ∈ inters, x ∈ inters2)
    (hnr : roots2.any (·.id == leaf.id) = false)
    (hb : WithinBudget roots2 inters2 leaf o)
    (h : verify roots inters leaf o = .ok chains) :
    ∃ chains2, verify roots2 inters2 leaf o = .ok chains2 ∧ ∀ ids ∈ chains, ids ∈ chains2 := by
  obtain ⟨h1, h2, h3, hne, hch⟩ := verify_ok_iff.mp h
  have hsub : ∀ ch ∈ (candidates roots inters leaf o).filter (usageOK o),
      ch ∈ (candidates roots2 inters2 leaf o).filter (usageOK o) := by
    intro ch hc
    rw [List.mem_filter] at hc ⊢
    exact ⟨candidates_mono roots roots2 inters inters2 leaf o hr hi hnr hb ch hc.1, hc.2⟩
  obtain ⟨ch0, hch0⟩ := List.exists_mem_of_ne_nil _ hne
  refine ⟨_, verify_ok_iff.mpr
    ⟨h1, h2, h3, List.ne_nil_of_mem (hsub ch0 hch0), rfl⟩, ?_⟩
  intro ids hids
  rw [hch] at hids
  obtain ⟨ch, hc, rfl⟩ := List.mem_map.mp hids
  exact List.mem_map_of_mem (hsub ch hc)

/-- the CA conditions of `CheckSignatureFrom` on the parent (RFC 5280 4.2.1.9 and 4.2.1.3): a v3 parent has a
    basicConstraints extension, a basicConstraints extension asserts cA, and a keyUsage extension, if present,
    contains keyCertSign -/
def IssuerIsCA (p : Cert) : Prop :=
  (p.version = 3 → p.bcValid = true) ∧ (p.bcValid = true → p.isCA = true) ∧
  (p.keyUsage ≠ 0 → p.keyUsage &&& certSign ≠ 0)

/-- for every child: as found, the Go function skipped the first two conditions for children carrying the
    Entrust public key -/
theorem checkSigFrom_parent_ca (c p : Cert) (h : checkSigFrom c p = true) : IssuerIsCA p := by
  unfold checkSigFrom at h
  simp only [Bool.and_eq_true, Bool.not_eq_true', Bool.or_eq_false_iff, Bool.and_eq_false_iff,
    beq_eq_false_iff_ne, bne_iff_ne, beq_iff_eq, Bool.not_eq_false', ne_eq] at h
  obtain ⟨⟨⟨h1, h2⟩, h3⟩, _⟩ := h
  exact ⟨fun hv => h1.resolve_left (not_not_intro hv), fun hb => h2.resolve_left (by simp [hb]),
    fun hk => h3.resolve_left (by simpa using hk)⟩

/-- the verdict of `CheckSignatureFrom` does not depend on the public key the child certifies (nor on anything of
    the child but the key that signed it) -/
theorem checkSigFrom_child_key_irrelevant (c p : Cert) (k : Nat) :
    checkSigFrom { c with key := k } p = checkSigFrom c p := rfl

theorem checkSigFrom_child_irrelevant (c c2 p : Cert) (h : c.signer = c2.signer) :
    checkSigFrom c p = checkSigFrom c2 p := by
  unfold checkSigFrom; rw [h]

/-- in every chain `Verify` returns, every certificate after the leaf - intermediates and the certificate taken
    from the root pool - satisfies the CA conditions, for every leaf (no public key buys an exemption).  The only
    chain without this guarantee is `[leaf]` for a leaf that is itself a trusted root: it has no issuer. -/
theorem verify_issuers_ca (roots inters : List Cert) (leaf : Cert) (o : Opts) (chains : List (List Nat))
    (h : verify roots inters leaf o = .ok chains) :
    ∀ ids ∈ chains, ∃ chain : List Cert, ids = chain.map (·.id) ∧ chain.head? = some leaf ∧
      ∀ p ∈ chain.tail, IssuerIsCA p := by
  intro ids hids
  obtain ⟨chain, hc, hg, _⟩ := (verify_only_if_good_path h).2 ids hids
  exact ⟨chain, hc, goodPath_issuers (fun _ _ p _ ⟨c, _, hsig⟩ _ => checkSigFrom_parent_ca c p hsig) hg⟩

/-- a renewed CA: `caOld` (SubjectKeyId 1, expired) and `caNew` (SubjectKeyId 2, valid) carry the same name and
    the same key; `rLeaf` was issued while `caOld` was current (AuthorityKeyId 1).  The chain through `caNew` is
    found with both certificates in the pool, in either order - exactly the chain found when `caNew` is the only
    intermediate.  For the rule as found both two-certificate pools gave "no chain". -/
def caOld : Cert := { exInt with id := 5, ski := some 1, nb := -300, na := -200 }
def caNew : Cert := { exInt with id := 6, ski := some 2 }
def rLeaf : Cert := { exLeaf with aki := some 1 }

example : (match verify [exRoot] [caNew] rLeaf exOpts with | .ok cs => cs | _ => []) = [[3, 6, 1]] := by decide
example : (match verify [exRoot] [caOld, caNew] rLeaf exOpts with | .ok cs => cs | _ => []) = [[3, 6, 1]] := by decide
example : (match verify [exRoot] [caNew, caOld] rLeaf exOpts with | .ok cs => cs | _ => []) = [[3, 6, 1]] := by decide
example : findVerifiedParents [caOld, caNew] rLeaf = [caOld, caNew] := by decide
example : findVerifiedParents [caNew, caOld] rLeaf = [caOld, caNew] := by decide

example : ∃ chains2, verify [exRoot] [caOld, caNew] rLeaf exOpts = .ok chains2 ∧ ∀ ids ∈ [[3, 6, 1]], ids ∈ chains2 :=
  verify_mono [exRoot] [exRoot] [caNew] [caOld, caNew] rLeaf exOpts [[3, 6, 1]] (fun _ h => h)
    (by intro x hx; simp at hx; subst hx; simp) (by decide) (fun _ => by decide) rfl

/-- a pinned end-entity certificate in the root pool (basicConstraints present, cA = FALSE) is nobody's
    issuer: a leaf signed with its key is rejected whatever public key the leaf carries (999 is the identity the
    harness gives to the Entrust RSA key). -/
def pinned : Cert := { exRoot with isCA := false }
def pLeaf (k : Nat) : Cert := { exLeaf with iss := 10, signer := 10, key := k }

example : ¬ IssuerIsCA pinned := by unfold IssuerIsCA; decide
example : (match verify [pinned] [] (pLeaf 90) exOpts with | .noChain => true | _ => false) = true := by decide
example : (match verify [pinned] [] (pLeaf 999) exOpts with | .noChain => true | _ => false) = true := by decide
/-- … while the same leaves verify under the CA root -/
example : (match verify [exRoot] [] (pLeaf 999) exOpts with | .ok cs => cs | _ => []) = [[3, 1]] := by decide

end Props.C10
