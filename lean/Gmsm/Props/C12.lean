/-
C12 — SM4-GCM helpers compute standard GCM and authenticate all inputs.
Lemmas are in Gmsm/Proofs/GCM.lean.  The repaired sm4/sm4_gcm.go is compared
with `Spec.GCM` over `Spec.SM4` on every run (and so is crypto/cipher's GCM over sm4.NewCipher, the
path the TLS suites use); these theorems are about `Spec.GCM`.
-/
import Gmsm.Proofs.GCM
import Gmsm.Props.C05
namespace Props.C12
open Gmsm Spec.GCM Proofs.GCM Proofs.Modes

/-- C12: authenticated decryption of what authenticated encryption produced accepts the tag and returns exactly the
    plaintext -/
theorem dec_enc (E : Bytes → Bytes) (hE : ∀ x, (E x).length = 16) (iv p a : Bytes) :
    ad E iv (ae E iv p a).1 a (ae E iv p a).2 = some p := by
  unfold ad ae
  simp only [if_true]
  congr 1
  unfold gctrAll
  rw [gctr_length E hE _ _ p (by omega)]
  exact gctr_involution E hE _ _ p (by omega)

theorem sm4gcm_dec_enc (key iv p a : Bytes) :
    ad (Spec.SM4.encrypt key) iv (ae (Spec.SM4.encrypt key) iv p a).1 a (ae (Spec.SM4.encrypt key) iv p a).2 = some p :=
  dec_enc _ (Props.C05.enc_length key) iv p a

theorem ae_lengths (E : Bytes → Bytes) (hE : ∀ x, (E x).length = 16) (iv p a : Bytes) :
    (ae E iv p a).1.length = p.length ∧ (ae E iv p a).2.length = 16 := by
  unfold ae
  constructor
  · exact gctr_length E hE _ _ p (by omega)
  · simp [xorBytes_length, hE, toBytes, i2osp]

/-- a tag different from the recomputed one is rejected (and only such a tag). -/
theorem tag_flip (E : Bytes → Bytes) (iv c a t : Bytes) :
    (ad E iv c a t).isSome ↔
      t = xorBytes (toBytes (ghash (ofBytes (E (List.replicate 16 0))) a c))
            (E (toBytes (j0 (ofBytes (E (List.replicate 16 0))) iv))) := by
  unfold ad
  simp only
  split
  · rename_i h; simp only [Option.isSome_some, true_iff]; exact h.symm
  · rename_i h; simp only [Option.isSome_none, Bool.false_eq_true, false_iff]; intro h'; exact h h'.symm

/-- GF(2^128) multiplication (SP 800-38D Algorithm 1, which is what
    sm4_gcm.go's `multiplication` computes — compared on every run) is linear in its first argument. -/
theorem mul_linear (a b y : B128) : mulGF (a ^^^ b) y = mulGF a y ^^^ mulGF b y := mulGF_xor_left a b y

/-- difference propagation through the GHASH chain -/
theorem ghash_tail_diff (h : B128) (post : List B128) (acc d : B128) :
    post.foldl (fun acc b => mulGF (acc ^^^ b) h) (acc ^^^ d) =
      post.foldl (fun acc b => mulGF (acc ^^^ b) h) acc ^^^ post.foldl (fun acc _ => mulGF acc h) d := by
  induction post generalizing acc d with
  | nil => rfl
  | cons c cs ih =>
    simp only [List.foldl_cons]
    have : acc ^^^ d ^^^ c = (acc ^^^ c) ^^^ d := by ac_rfl
    rw [this, mulGF_xor_left, ih]

theorem mul_chain_ne_zero (h : B128) (hinj : ∀ d, mulGF d h = 0 → d = 0) (post : List B128) (d : B128)
    (hd : d ≠ 0) : post.foldl (fun acc _ => mulGF acc h) d ≠ 0 := by
  induction post generalizing d with
  | nil => exact hd
  | cons _ cs ih => exact ih (mulGF d h) (fun hz => hd (hinj d hz))

/-- For every hash key `H` for which multiplication by `H` is
    injective (true of every non-zero element of a field; stated here as a hypothesis because
    "GF(2^128) has no zero divisors" is not proved for the bit-level `mulGF`), changing exactly one
    block of the GHASH input — one block of the additional data or of the ciphertext — changes
    GHASH, hence the tag.  The unconditional statement for multi-block changes is false for any
    polynomial hash (collisions exist with probability 2^-128) and is not claimed. -/
theorem ghash_single_block_partial (h : B128) (hinj : ∀ d, mulGF d h = 0 → d = 0)
    (pre post : List B128) (b b' : B128) (hb : b ≠ b') :
    ghashBlocks h (pre ++ b :: post) ≠ ghashBlocks h (pre ++ b' :: post) := by
  unfold ghashBlocks
  simp only [List.foldl_append, List.foldl_cons]
  generalize pre.foldl (fun acc b => mulGF (acc ^^^ b) h) 0 = acc
  have e : acc ^^^ b = (acc ^^^ b') ^^^ (b ^^^ b') := by
    rw [BitVec.xor_assoc, ← BitVec.xor_assoc b', BitVec.xor_comm b' b, BitVec.xor_assoc b, BitVec.xor_self, BitVec.xor_zero]
  rw [e, mulGF_xor_left, ghash_tail_diff]
  intro heq
  refine mul_chain_ne_zero h hinj post _ (fun hz => hb (BitVec.xor_eq_zero_iff.mp (hinj _ hz))) ?_
  -- `x ^^^ y = x` only for `y = 0`
  exact (BitVec.xor_right_inj _).mp (heq.trans BitVec.xor_zero.symm)

/-- the counter blocks used for one message are pairwise distinct as long as
    fewer than 2^32 blocks are encrypted (inc32 only touches, and cycles through, the low 32 bits). -/
theorem counter_no_repeat (j : B128) (i k : Nat) (hi : i < 2^32) (hk : k < 2^32) (hik : i ≠ k) :
    iterInc i j ≠ iterInc k j := by
  intro h
  have := iterInc_eq_mod j i k h
  rw [Nat.mod_eq_of_lt hi, Nat.mod_eq_of_lt hk] at this
  exact hik this

/-- RFC 8998 appendix A.2, the SM4-GCM vector: ciphertext of GCM-AE over SM4, kernel-evaluated. -/
theorem rfc8998_ciphertext :
    (ae (Spec.SM4.encrypt [0x01,0x23,0x45,0x67,0x89,0xAB,0xCD,0xEF,0xFE,0xDC,0xBA,0x98,0x76,0x54,0x32,0x10])
        [0x00,0x00,0x12,0x34,0x56,0x78,0x00,0x00,0x00,0x00,0xAB,0xCD]
        (List.replicate 8 0xAA ++ List.replicate 8 0xBB)
        [0xFE,0xED,0xFA,0xCE,0xDE,0xAD,0xBE,0xEF,0xFE,0xED,0xFA,0xCE,0xDE,0xAD,0xBE,0xEF,0xAB,0xAD,0xDA,0xD2]).1 =
      [0x17,0xF3,0x99,0xF0,0x8C,0x67,0xD5,0xEE,0x19,0xD0,0xDC,0x99,0x69,0xC4,0xBB,0x7D] := by
  decide +kernel

example :
    let key : Bytes := [0x01,0x23,0x45,0x67,0x89,0xAB,0xCD,0xEF,0xFE,0xDC,0xBA,0x98,0x76,0x54,0x32,0x10]
    let iv : Bytes := [0x00,0x00,0x12,0x34,0x56,0x78,0x00,0x00,0x00,0x00,0xAB,0xCD]
    let aad : Bytes := [0xFE,0xED,0xFA,0xCE,0xDE,0xAD,0xBE,0xEF,0xFE,0xED,0xFA,0xCE,0xDE,0xAD,0xBE,0xEF,0xAB,0xAD,0xDA,0xD2]
    let pt : Bytes := List.replicate 8 0xAA ++ List.replicate 8 0xBB
    (ae (Spec.SM4.encrypt key) iv pt aad).1 =
      [0x17,0xF3,0x99,0xF0,0x8C,0x67,0xD5,0xEE,0x19,0xD0,0xDC,0x99,0x69,0xC4,0xBB,0x7D] :=
  rfc8998_ciphertext

end Props.C12
