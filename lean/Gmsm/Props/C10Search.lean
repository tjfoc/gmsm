/-
C10 — how `findVerifiedParents`, `buildChains` and `verify` (`Model.X509`, x509/verify.go + cert_pool.go) compute:
the equations the soundness, completeness and invariance theorems of C10 are proved from.

* one level of `buildChains` is a fold of `interStep` (a recursive call for every `usable` candidate
  intermediate, the work budget threaded through) over the start value `viaRoots`; `buildChains_induction`
  is the induction principle of the search in these terms, and the `foldl_interStep_*` lemmas say what the
  fold returns for ANY recursive call, so that each theorem about the search is one induction;
* `buildChains_map`: a map `φ` of chains that commutes with everything one level reads maps the result of the
  search (same work, chains mapped);
* `verify_eq`: `verify` is the leaf's own checks followed by the `verdict` on the `candidates`.
-/
import Gmsm.Model.X509Verify
namespace Props.C10
open Model.X509

/-- The candidate selection of `findVerifiedParents`: `c` has an AuthorityKeyId equal to `p`'s SubjectKeyId, or
    `p`'s subject is `c`'s issuer; what else the pool holds plays no part. -/
def Selected (c p : Cert) : Prop :=
  (∃ k, c.aki = some k ∧ p.ski = some k) ∨ p.subj = c.iss

theorem keyIdMatch_iff (c p : Cert) : keyIdMatch c p = true ↔ ∃ k, c.aki = some k ∧ p.ski = some k := by
  unfold keyIdMatch
  cases c.aki <;> simp

theorem mem_findVerifiedParents_iff (pool : List Cert) (c p : Cert) :
    p ∈ findVerifiedParents pool c ↔ p ∈ pool ∧ checkSigFrom c p = true ∧ Selected c p := by
  unfold findVerifiedParents Selected
  rw [← keyIdMatch_iff]
  simp only [List.mem_filter, List.mem_append, Bool.and_eq_true, beq_iff_eq, Bool.not_eq_true']
  constructor
  · rintro ⟨⟨h1, h2⟩ | ⟨h1, h2, _⟩, h3⟩
    · exact ⟨h1, h3, Or.inl h2⟩
    · exact ⟨h1, h3, Or.inr h2⟩
  · rintro ⟨h1, h3, h⟩
    refine ⟨?_, h3⟩
    by_cases hk : keyIdMatch c p = true
    · exact Or.inl ⟨h1, hk⟩
    · exact Or.inr ⟨h1, h.resolve_left hk, by simpa using hk⟩

/-! ### `isValid`: a chain of `if … then some reason else …` -/

theorem ite_ne_of_ne {α : Type} {c : Prop} [Decidable c] {a b x : α} (ha : a ≠ x) (hb : b ≠ x) :
    (if c then a else b) ≠ x := by
  split <;> assumption

theorem ite_some_eq_none {α : Type} {c : Prop} [Decidable c] {x : α} {r : Option α} :
    (if c then some x else r) = none ↔ ¬ c ∧ r = none := by
  split <;> simp [*]

theorem isValid_eq_none_iff (c : Cert) (kind : Kind) (chain : List Cert) (o : Opts) :
    isValid c kind chain o = none ↔
      (∀ child, chain.getLast? = some child → child.iss = c.subj) ∧
      (c.nb ≤ o.now ∧ o.now ≤ c.na) ∧
      (kind ≠ .leaf → permittedOK c o = true) ∧
      (kind = .intermediate → c.bcValid = true ∧ c.isCA = true) ∧
      (c.bcValid = true → 0 ≤ c.maxPathLen → (chain.length : Int) - 1 ≤ c.maxPathLen) := by
  unfold isValid
  simp only [ite_some_eq_none, and_true]
  refine and_congr ?_ (and_congr ?_ (and_congr ?_ (and_congr ?_ ?_)))
  · cases chain.getLast? <;> simp
  · simp [Int.not_lt]
  · simp
  · simp
  · simp [Int.not_lt]

section search
variable {roots inters : List Cert} {o : Opts}

/-- a candidate issuer is taken up when it is not on the chain yet (`Equal`) and passes `isValid` for its
    position -/
def usable (o : Opts) (kind : Kind) (chain : List Cert) (p : Cert) : Bool :=
  !chain.any (·.id == p.id) && (isValid p kind chain o).isNone

def viaRoots (roots : List Cert) (o : Opts) (chain : List Cert) (c : Cert) : List (List Cert) :=
  (findVerifiedParents roots c).filterMap fun r => if usable o .root chain r then some (chain ++ [r]) else none

/-- the loop body of `buildChains` over the candidate intermediates; `rec` is the recursive call (budget and
    longer chain to results and remaining budget) -/
def interStep (rec : Nat → List Cert → List (List Cert) × Nat) (o : Opts) (chain : List Cert)
    (acc : List (List Cert) × Nat) (i : Cert) : List (List Cert) × Nat :=
  if usable o .intermediate chain i then
    (acc.1 ++ (rec acc.2 (chain ++ [i])).1, (rec acc.2 (chain ++ [i])).2)
  else acc

theorem buildChains_stop {fuel steps : Nat} {chain : List Cert}
    (h : fuel = 0 ∨ steps = 0 ∨ chain.getLast? = none) :
    buildChains roots inters o fuel steps chain = ([], steps) := by
  cases fuel with
  | zero => rfl
  | succ fuel =>
    rw [buildChains]
    split
    · next h0 => rw [h0]
    · rcases h with h | h | h
      · cases h
      · contradiction
      · rw [h]

theorem buildChains_succ {fuel steps : Nat} {chain : List Cert} {c : Cert}
    (hs : steps ≠ 0) (hc : chain.getLast? = some c) :
    buildChains roots inters o (fuel + 1) steps chain =
      (findVerifiedParents inters c).foldl (interStep (buildChains roots inters o fuel) o chain)
        (viaRoots roots o chain c, steps - 1) := by
  rw [buildChains]
  simp only [hs, if_false, hc]
  congr
  · funext acc i
    unfold interStep usable
    cases chain.any _ <;> cases isValid i .intermediate chain o <;> rfl
  · funext r
    unfold usable
    cases chain.any _ <;> cases isValid r .root chain o <;> rfl

theorem buildChains_induction {motive : Nat → Nat → List Cert → List (List Cert) × Nat → Prop}
    (stop : ∀ fuel steps chain, fuel = 0 ∨ steps = 0 ∨ chain.getLast? = none → motive fuel steps chain ([], steps))
    (step : ∀ fuel steps chain c, steps ≠ 0 → chain.getLast? = some c →
      (∀ st ch, motive fuel st ch (buildChains roots inters o fuel st ch)) →
      motive (fuel + 1) steps chain
        ((findVerifiedParents inters c).foldl (interStep (buildChains roots inters o fuel) o chain)
          (viaRoots roots o chain c, steps - 1)))
    (fuel steps : Nat) (chain : List Cert) : motive fuel steps chain (buildChains roots inters o fuel steps chain) := by
  induction fuel generalizing steps chain with
  | zero => exact buildChains_stop (.inl rfl) ▸ stop 0 steps chain (.inl rfl)
  | succ fuel ih =>
    by_cases hs : steps = 0
    · exact buildChains_stop (.inr (.inl hs)) ▸ stop _ steps chain (.inr (.inl hs))
    · cases hc : chain.getLast? with
      | none => exact buildChains_stop (.inr (.inr hc)) ▸ stop _ steps chain (.inr (.inr hc))
      | some c => exact buildChains_succ hs hc ▸ step fuel steps chain c hs hc ih

theorem mem_viaRoots {chain full : List Cert} {c : Cert} :
    full ∈ viaRoots roots o chain c ↔
      ∃ r ∈ findVerifiedParents roots c, usable o .root chain r = true ∧ full = chain ++ [r] := by
  unfold viaRoots
  rw [List.mem_filterMap]
  refine exists_congr fun r => and_congr_right fun _ => ?_
  cases usable o .root chain r
  · simp
  · simpa using eq_comm

/-! ### the fold over the candidate intermediates, for any recursive call `rec` -/

variable {rec : Nat → List Cert → List (List Cert) × Nat} {chain : List Cert}

theorem foldl_interStep_mono (hrec : ∀ st ch, (rec st ch).2 ≤ st) (l : List Cert) (acc : List (List Cert) × Nat) :
    (∀ x ∈ acc.1, x ∈ (l.foldl (interStep rec o chain) acc).1) ∧ (l.foldl (interStep rec o chain) acc).2 ≤ acc.2 := by
  refine List.foldlRecOn (motive := fun (res : List (List Cert) × Nat) => (∀ x ∈ acc.1, x ∈ res.1) ∧ res.2 ≤ acc.2) l _
    ⟨fun _ h => h, Nat.le_refl _⟩ ?_
  intro b ⟨h1, h2⟩ i _
  unfold interStep
  split
  · exact ⟨fun x hx => List.mem_append_left _ (h1 x hx), Nat.le_trans (hrec _ _) h2⟩
  · exact ⟨h1, h2⟩

theorem mem_foldl_interStep {l : List Cert} {acc : List (List Cert) × Nat} {x : List Cert}
    (h : x ∈ (l.foldl (interStep rec o chain) acc).1) :
    x ∈ acc.1 ∨ ∃ i ∈ l, usable o .intermediate chain i = true ∧ ∃ st, x ∈ (rec st (chain ++ [i])).1 := by
  induction l generalizing acc with
  | nil => exact .inl h
  | cons j l ih =>
    rcases ih h with h | ⟨i, hi, h⟩
    · unfold interStep at h
      split at h
      · rcases List.mem_append.mp h with h | h
        · exact .inl h
        · exact .inr ⟨j, List.mem_cons_self, ‹_›, _, h⟩
      · exact .inl h
    · exact .inr ⟨i, List.mem_cons_of_mem _ hi, h⟩

/-- if the fold ends with budget left, the call made for a usable candidate `i` had budget left too, and all it
    found is in the result -/
theorem foldl_interStep_complete (hrec : ∀ st ch, (rec st ch).2 ≤ st) {i : Cert}
    (hu : usable o .intermediate chain i = true) {l : List Cert} (hi : i ∈ l) {acc : List (List Cert) × Nat}
    (hb : 0 < (l.foldl (interStep rec o chain) acc).2) :
    ∃ st, 0 < (rec st (chain ++ [i])).2 ∧
      ∀ x ∈ (rec st (chain ++ [i])).1, x ∈ (l.foldl (interStep rec o chain) acc).1 := by
  induction l generalizing acc with
  | nil => cases hi
  | cons j l ih =>
    rcases List.mem_cons.mp hi with rfl | hi
    · have hm := foldl_interStep_mono (o := o) (chain := chain) hrec l (interStep rec o chain acc i)
      rw [List.foldl_cons] at hb ⊢
      simp only [interStep, hu, if_true] at hm hb ⊢
      exact ⟨acc.2, Nat.lt_of_lt_of_le hb hm.2, fun x hx => hm.1 x (List.mem_append_right _ hx)⟩
    · exact ih hi hb

/-- bounded work: the search never returns more budget than it was given (the recursion is structural in the fuel;
    the code's `maxChainBuildSteps` is the `steps` argument) -/
theorem buildChains_budget (roots inters : List Cert) (o : Opts) (fuel steps : Nat) (chain : List Cert) :
    (buildChains roots inters o fuel steps chain).2 ≤ steps := by
  refine buildChains_induction (motive := fun _ steps _ res => res.2 ≤ steps) (fun _ _ _ _ => Nat.le_refl _) ?_ fuel steps chain
  intro fuel steps chain c _ _ ih
  exact Nat.le_trans (foldl_interStep_mono ih _ _).2 (Nat.sub_le _ _)

theorem buildChains_root {fuel steps : Nat} {chain : List Cert} {c r : Cert} (hs : steps ≠ 0)
    (hc : chain.getLast? = some c) (hr : r ∈ findVerifiedParents roots c) (hu : usable o .root chain r = true) :
    chain ++ [r] ∈ (buildChains roots inters o (fuel + 1) steps chain).1 := by
  rw [buildChains_succ hs hc]
  exact (foldl_interStep_mono (buildChains_budget roots inters o fuel) _ _).1 _ (mem_viaRoots.mpr ⟨r, hr, hu, rfl⟩)

/-- A search over other pools and options, started from `φ chain`, that reads at every level what the given one
    reads (the verified parents of the last certificate mapped by `g`, the same `usable` verdicts) does the same work
    and finds the chains of the given one mapped by `φ`. -/
theorem buildChains_map {roots' inters' : List Cert} {o' : Opts} (g : Cert → Cert) (φ : List Cert → List Cert)
    (hnil : φ [] = []) (happ : ∀ chain i, chain ≠ [] → φ (chain ++ [i]) = φ chain ++ [g i])
    (hpar : ∀ chain c, chain.getLast? = some c → ∃ c', (φ chain).getLast? = some c' ∧
      findVerifiedParents roots' c' = (findVerifiedParents roots c).map g ∧
      findVerifiedParents inters' c' = (findVerifiedParents inters c).map g)
    (hu : ∀ kind chain p, usable o' kind (φ chain) (g p) = usable o kind chain p)
    (fuel steps : Nat) (chain : List Cert) :
    buildChains roots' inters' o' fuel steps (φ chain) =
      Prod.map (List.map φ) id (buildChains roots inters o fuel steps chain) := by
  refine buildChains_induction (roots := roots) (inters := inters) (o := o)
    (motive := fun fuel steps chain res =>
      buildChains roots' inters' o' fuel steps (φ chain) = Prod.map (List.map φ) id res) ?_ ?_ fuel steps chain
  · intro fuel steps chain h
    refine buildChains_stop (h.imp_right (Or.imp_right fun h => ?_))
    rw [List.getLast?_eq_none_iff.mp h, hnil]
    rfl
  · intro fuel steps chain c hs hc ih
    have hne : chain ≠ [] := by rintro rfl; cases hc
    obtain ⟨c', hc', hr, hi⟩ := hpar chain c hc
    have hroots : viaRoots roots' o' (φ chain) c' = (viaRoots roots o chain c).map φ := by
      unfold viaRoots
      rw [hr, List.filterMap_map, List.map_filterMap]
      congr 1
      funext r
      simp only [Function.comp, hu]
      split
      · exact congrArg some (happ chain r hne).symm
      · rfl
    rw [buildChains_succ hs hc', hi, List.foldl_map, hroots]
    refine List.foldl_hom (init := (viaRoots roots o chain c, steps - 1)) (Prod.map (List.map φ) id) fun acc i => ?_
    unfold interStep
    rw [hu]
    split
    · rw [← happ chain i hne, ih]
      simp only [Prod.map, id, List.map_append]
    · rfl

end search

/-- the requested usages (`opts.KeyUsages`, default serverAuth) -/
def reqUsages (o : Opts) : List Nat := if o.usages.isEmpty then [1] else o.usages

/-- the key-usage acceptance of a candidate chain: `ExtKeyUsageAny` requested, or
    `checkChainForKeyUsage` passes -/
def usageOK (o : Opts) (chain : List Cert) : Bool :=
  (reqUsages o).contains 0 || checkChainForKeyUsage chain (reqUsages o)

/-- the candidate chains of `Verify` before the key-usage filter -/
def candidates (roots inters : List Cert) (leaf : Cert) (o : Opts) : List (List Cert) :=
  if roots.any (·.id == leaf.id) then [[leaf]]
  else (buildChains roots inters o (roots.length + inters.length + 2) maxSteps [leaf]).1

/-- what `Verify` answers from the candidate chains, once the leaf has passed its own checks -/
def verdict (o : Opts) (cands : List (List Cert)) : Res :=
  if cands.isEmpty then .noChain
  else if (reqUsages o).contains 0 then .ok (cands.map (·.map (·.id)))
  else
    let good := cands.filter (checkChainForKeyUsage · (reqUsages o))
    if good.isEmpty then .usage else .ok (good.map (·.map (·.id)))

theorem verify_eq (roots inters : List Cert) (leaf : Cert) (o : Opts) :
    verify roots inters leaf o =
      if leaf.critical then .critical
      else match isValid leaf .leaf [] o with
        | some r => .leafInvalid r
        | none =>
          if o.dnsName.length > 0 && !verifyHostname leaf o then .hostname
          else verdict o (candidates roots inters leaf o) :=
  rfl

theorem verdict_eq (o : Opts) (cands : List (List Cert)) :
    verdict o cands =
      if cands.isEmpty then .noChain
      else if (cands.filter (usageOK o)).isEmpty then .usage
      else .ok ((cands.filter (usageOK o)).map (·.map (·.id))) := by
  unfold verdict
  split
  · rfl
  · -- with `ExtKeyUsageAny` requested the filter keeps every candidate, otherwise it is the key-usage check
    cases hany : (reqUsages o).contains 0 with
    | true =>
      have hfil : cands.filter (usageOK o) = cands :=
        List.filter_eq_self.mpr fun a _ => by simp only [usageOK, hany, Bool.true_or]
      simp only [*, if_true, Bool.false_eq_true, if_false]
    | false =>
      have hfil : cands.filter (usageOK o) = cands.filter (checkChainForKeyUsage · (reqUsages o)) :=
        List.filter_congr fun a _ => by simp only [usageOK, hany, Bool.false_or]
      simp only [hfil, Bool.false_eq_true, if_false]

theorem verdict_ok_iff {o : Opts} {cands : List (List Cert)} {chains : List (List Nat)} :
    verdict o cands = .ok chains ↔
      cands.filter (usageOK o) ≠ [] ∧ chains = (cands.filter (usageOK o)).map (·.map (·.id)) := by
  rw [verdict_eq]
  cases hf : cands.filter (usageOK o) with
  | nil => split <;> simp
  | cons a t =>
    have : cands.isEmpty = false := by cases cands <;> simp_all
    simp [this, eq_comm]

theorem verify_ok_iff {roots inters : List Cert} {leaf : Cert} {o : Opts} {chains : List (List Nat)} :
    verify roots inters leaf o = .ok chains ↔
      leaf.critical = false ∧ isValid leaf .leaf [] o = none ∧
      (o.dnsName.length > 0 → verifyHostname leaf o = true) ∧
      (candidates roots inters leaf o).filter (usageOK o) ≠ [] ∧
      chains = ((candidates roots inters leaf o).filter (usageOK o)).map (·.map (·.id)) := by
  rw [verify_eq]
  cases leaf.critical
  case true => simp
  cases isValid leaf .leaf [] o
  case some => simp
  simp only [Bool.false_eq_true, if_false, true_and]
  split
  · next hh => simp at hh ⊢; exact fun h => by simp [h hh.1] at hh
  · next hh =>
    rw [verdict_ok_iff]
    exact (and_iff_right fun hl => by simpa [hl] using hh).symm

/-- The verdict is the same for two leaves, pools and option sets when the leaf's own checks answer the same and
    the searches correspond under a map `φ` of chains that keeps identities and key-usage acceptance. -/
theorem verify_map {roots inters roots' inters' : List Cert} {leaf leaf' : Cert} {o o' : Opts} (φ : List Cert → List Cert)
    (hcrit : leaf'.critical = leaf.critical) (hv : isValid leaf' .leaf [] o' = isValid leaf .leaf [] o)
    (hh : (decide (o'.dnsName.length > 0) && !verifyHostname leaf' o') = (decide (o.dnsName.length > 0) && !verifyHostname leaf o))
    (hroot : roots'.any (·.id == leaf'.id) = roots.any (·.id == leaf.id)) (hleaf : φ [leaf] = [leaf'])
    (hb : buildChains roots' inters' o' (roots'.length + inters'.length + 2) maxSteps [leaf'] =
      Prod.map (List.map φ) id (buildChains roots inters o (roots.length + inters.length + 2) maxSteps [leaf]))
    (hu : usageOK o' ∘ φ = usageOK o) (hids : ∀ ch, (φ ch).map (·.id) = ch.map (·.id)) :
    verify roots' inters' leaf' o' = verify roots inters leaf o := by
  have hc : candidates roots' inters' leaf' o' = (candidates roots inters leaf o).map φ := by
    unfold candidates
    rw [hroot, hb]
    split
    · rw [List.map_singleton, hleaf]
    · rfl
  rw [verify_eq, verify_eq, hcrit, hv, hh, hc, verdict_eq, verdict_eq, List.filter_map, hu]
  simp only [List.isEmpty_map, List.map_map, Function.comp_def, hids]

end Props.C10
