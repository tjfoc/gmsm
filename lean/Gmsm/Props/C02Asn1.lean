/-
C02 (sm2.go `CipherUnmarshal`, as repaired): what the ASN.1 form of a ciphertext decodes to.

Before the repair the two INTEGERs of the SEQUENCE were taken by magnitude and any length, and the digest field
with any length: `SEQUENCE { -x, y, C3, C2 }` decrypted like `SEQUENCE { x, y, C3, C2 }` although (-x, y) is no point
of the curve, and a 33-byte "coordinate" (or a 31-byte "digest") was re-split into some other C1 ‖ C3 ‖ C2 - i.e.
ciphertexts whose encoded C1 is not a point on the curve, or whose encoded C3 differs, were accepted.
Now: an accepted ASN.1 ciphertext has coordinates in [0, 2^256) and a 32-byte digest, and the raw ciphertext
handed to `Decrypt` is exactly 04 ‖ x ‖ y ‖ C3 ‖ C2 with those values - `Decrypt`'s own checks (C1 on the curve, C3)
are then checks about the encoded values.
-/
import Gmsm.Props.C14Codec

namespace Props.C02Asn1
open Gmsm Model.SM2Codec Props.C14Codec

/-- the structure of an ASN.1 ciphertext as far as `CipherUnmarshal` looks at it -/
def fields (data : Bytes) : Option (Int × Int × Bytes × Bytes) :=
  match parseField 0x30 data with
  | none => none
  | some (body, _) =>
    match parseField 0x02 body with
    | none => none
    | some (xc, r1) =>
      match parseBigInt xc with
      | none => none
      | some x =>
        match parseField 0x02 r1 with
        | none => none
        | some (yc, r2) =>
          match parseBigInt yc with
          | none => none
          | some y =>
            match parseField 0x04 r2 with
            | none => none
            | some (hash, r3) =>
              match parseField 0x04 r3 with
              | none => none
              | some (cipherText, _) => some (x, y, hash, cipherText)

theorem cipherUnmarshal_eq_fields (data : Bytes) :
    cipherUnmarshal data =
      match fields data with
      | none => none
      | some (x, y, hash, ct) =>
        if x < 0 ∨ y < 0 ∨ (natBytes x.natAbs).length > 32 ∨ (natBytes y.natAbs).length > 32 ∨ hash.length ≠ 32 then none
        else some (0x04 :: (leftPad32 (natBytes x.natAbs) ++ leftPad32 (natBytes y.natAbs) ++ hash ++ ct)) := by
  -- both sides make the same seven case distinctions
  unfold cipherUnmarshal fields
  rcases parseField 0x30 data with _ | ⟨body, _⟩
  · rfl
  dsimp only
  rcases parseField 0x02 body with _ | ⟨xc, r1⟩
  · rfl
  dsimp only
  rcases parseBigInt xc with _ | x
  · rfl
  dsimp only
  rcases parseField 0x02 r1 with _ | ⟨yc, r2⟩
  · rfl
  dsimp only
  rcases parseBigInt yc with _ | y
  · rfl
  dsimp only
  rcases parseField 0x04 r2 with _ | ⟨hash, r3⟩
  · rfl
  dsimp only
  rcases parseField 0x04 r3 with _ | ⟨ct, _⟩
  · rfl
  rfl

/-- Accepted ASN.1 ciphertexts are canonical in C1 and C3: whenever `CipherUnmarshal` succeeds, the encoded
    coordinates are integers in [0, 2^256), the digest field is 32 bytes long, and the result is
    04 ‖ x ‖ y ‖ C3 ‖ C2 with x, y as 32-byte big-endian strings. -/
theorem cipherUnmarshal_sound (data raw : Bytes) (h : cipherUnmarshal data = some raw) :
    ∃ x y : Nat, ∃ H C : Bytes, fields data = some ((x : Int), (y : Int), H, C) ∧
      x < 2 ^ 256 ∧ y < 2 ^ 256 ∧ H.length = 32 ∧
      (leftPad32 (natBytes x)).length = 32 ∧ (leftPad32 (natBytes y)).length = 32 ∧
      os2ip (leftPad32 (natBytes x)) = x ∧ os2ip (leftPad32 (natBytes y)) = y ∧
      raw = 0x04 :: (leftPad32 (natBytes x) ++ leftPad32 (natBytes y) ++ H ++ C) := by
  rw [cipherUnmarshal_eq_fields] at h
  cases hf : fields data with
  | none => rw [hf] at h; cases h
  | some t =>
    obtain ⟨x, y, hash, ct⟩ := t
    rw [hf] at h
    dsimp only at h
    split at h
    · cases h
    · rename_i hc
      have hxl : (natBytes x.natAbs).length ≤ 32 := by omega
      have hyl : (natBytes y.natAbs).length ≤ 32 := by omega
      have e : (256 : Nat) ^ 32 = 2 ^ 256 := by decide
      refine ⟨x.natAbs, y.natAbs, hash, ct, ?_, e ▸ lt_of_natBytes_length_le _ 32 hxl, e ▸ lt_of_natBytes_length_le _ 32 hyl,
        by omega, leftPad32_length _ hxl, leftPad32_length _ hyl, ?_, ?_, (Option.some.inj h).symm⟩
      · rw [Int.natAbs_of_nonneg (by omega : 0 ≤ x), Int.natAbs_of_nonneg (by omega : 0 ≤ y)]
      · rw [os2ip_leftPad32, os2ip_natBytes]
      · rw [os2ip_leftPad32, os2ip_natBytes]

/-- a well-formed ciphertext is accepted, and `fields` reads its four members -/
example : cipherUnmarshal (Spec.DER.encCipher 5 7 (List.replicate 32 0xaa) [1, 2, 3]) ≠ none ∧
    fields (Spec.DER.encCipher 5 7 (List.replicate 32 0xaa) [1, 2, 3]) = some (5, 7, List.replicate 32 0xaa, [1, 2, 3]) := by
  constructor
  · decide
  · rfl

end Props.C02Asn1
