/-
C06 — what a GMSSL client offers (repair "ecdheoffer"): `makeClientHelloGM` no longer advertises the ECDHE-SM2
suites e011 / e051, whose client-side key exchange `ecdheKeyAgreementGM.processServerKeyExchange` can never
complete.  Before the repair the default hello was [e013, e053, e011, e051]: a GM/T 0024 server that prefers
ECDHE selected e011 and the handshake failed although both ends support the ECC suites.
Theorems over `Model.Negotiate.hello` / `gmOffer` / `peerSelect` / `clientMeets`.
-/
import Gmsm.Props.C06
namespace Props.C06Offer
open Model.Negotiate Model.Suites

/-- The client-side predicate and the server-side predicate of 40f1c44 coincide: a row of `gmCipherSuites` that
    is not an ECDHE suite. -/
theorem gmClientKx_eq_gmServable : gmClientKx = gmServable := by
  funext s; rfl

theorem gmServable_isGM (s : Suite) (h : gmServable s = true) : isGM s = true := by
  unfold gmServable at h
  unfold isGM
  cases hr : gmRow s with
  | none => simp [hr] at h
  | some r => rfl

/-- Over the regenerated table: the suites whose key exchange the client can complete are exactly e013 and e053. -/
theorem gmClientKx_table (s : Suite) : gmClientKx s = true ↔ s = 0xe013 ∨ s = 0xe053 := by
  unfold gmClientKx gmRow
  have ht : Gen.TLS.gmCipherSuites = [(0xe013, false, true), (0xe053, false, true), (0xe011, true, true), (0xe051, true, true)] := by decide
  rw [ht]
  simp only [List.find?_cons, List.find?_nil]
  by_cases h1 : s = 0xe013
  · subst h1; simp
  · by_cases h2 : s = 0xe053
    · subst h2; simp
    · by_cases h3 : s = 0xe011
      · subst h3; simp
      · by_cases h4 : s = 0xe051
        · subst h4; simp
        · have e1 : ((57363 : Nat) == s) = false := beq_eq_false_iff_ne.mpr (fun h => h1 h.symm)
          have e2 : ((57427 : Nat) == s) = false := beq_eq_false_iff_ne.mpr (fun h => h2 h.symm)
          have e3 : ((57361 : Nat) == s) = false := beq_eq_false_iff_ne.mpr (fun h => h3 h.symm)
          have e4 : ((57425 : Nat) == s) = false := beq_eq_false_iff_ne.mpr (fun h => h4 h.symm)
          simp [e1, e2, e3, e4, h1, h2]

/-- False before the repair: every suite in the ClientHello of a GMSSL client — whatever `Config.CipherSuites` is —
    is a configured suite with a row in `gmCipherSuites` whose client-side key exchange the client can complete
    (equivalently: one a GMSSL server of this library can serve). -/
theorem gm_offer_completable (p : Params) (hc : p.client = .gm) :
    ∀ s ∈ (hello p).2, gmClientKx s = true ∧ gmServable s = true ∧ isGM s = true ∧ s ∈ p.csuites.getD gmDefaultList := by
  intro s hs
  simp only [hello, hc, List.mem_filter] at hs
  exact ⟨hs.2, hs.2, gmServable_isGM s hs.2, hs.1⟩

/-- The repair removes nothing else: every configured suite the client can complete is offered, and the offer
    keeps the configured order. -/
theorem gm_offer_complete (p : Params) (hc : p.client = .gm) :
    (∀ s ∈ p.csuites.getD gmDefaultList, gmClientKx s = true → s ∈ (hello p).2) ∧
    (hello p).2.Sublist (p.csuites.getD gmDefaultList) ∧ (hello p).1 = Gen.TLS.versionGMSSL := by
  refine ⟨?_, ?_, ?_⟩
  · intro s h1 h2
    simp only [hello, hc, List.mem_filter]
    exact ⟨h1, h2⟩
  · simp only [hello, hc]
    exact List.filter_sublist
  · simp [hello, hc]

/-- `gmOffer` is the hello of any GMSSL client with that `CipherSuites` (the other parameters do not matter). -/
theorem gmOffer_eq (p : Params) (hc : p.client = .gm) : (hello p).2 = gmOffer p.csuites := by
  simp [gmOffer, hello, hc]

/-- An independent server may answer with any suite `sel`.  Whatever it selects,
    the GMSSL client never meets a suite of its own hello whose key exchange it must refuse: either the server
    selected something the client did not offer (a protocol violation, refused by `pickCipherSuite`), or the
    client can complete the key exchange. -/
theorem gm_client_never_refuses_kx (cs : Option (List Suite)) (sel : Suite) :
    clientMeets (gmOffer cs) sel ≠ .refusesKx ∧
    (sel ∈ gmOffer cs → clientMeets (gmOffer cs) sel = .proceeds) := by
  have key : sel ∈ gmOffer cs → gmClientKx sel = true := by
    intro h
    exact (gm_offer_completable ⟨.gm, .gm, cs, none, false, 0, 0, .rsa⟩ rfl sel h).1
  unfold clientMeets
  by_cases hm : sel ∈ gmOffer cs
  · have hk := key hm
    simp [hm, hk]
  · simp [hm]

/-- A conforming independent server with an arbitrary preference order `pref` (it may put the ECDHE suites first)
    selects, from the hello of a GMSSL client, only a suite the client can
    complete; and it does select one whenever its order contains an ECC suite the client is configured with. -/
theorem peer_preference_completable (cs : Option (List Suite)) (pref : List Suite) :
    (∀ s, peerSelect pref (gmOffer cs) = some s →
        s ∈ pref ∧ clientMeets (gmOffer cs) s = .proceeds ∧ gmClientKx s = true) ∧
    (∀ s ∈ pref, s ∈ cs.getD gmDefaultList → gmClientKx s = true → ∃ t, peerSelect pref (gmOffer cs) = some t) := by
  constructor
  · intro s h
    unfold peerSelect at h
    have hm := List.mem_of_find?_eq_some h
    have hp := List.find?_some h
    simp only [List.contains_eq_mem, decide_eq_true_eq] at hp
    have h2 := (gm_client_never_refuses_kx cs s).2 hp
    exact ⟨hm, h2, (gm_offer_completable ⟨.gm, .gm, cs, none, false, 0, 0, .rsa⟩ rfl s hp).1⟩
  · intro s h1 h2 h3
    have hoff : s ∈ gmOffer cs := (gm_offer_complete ⟨.gm, .gm, cs, none, false, 0, 0, .rsa⟩ rfl).1 s h2 h3
    unfold peerSelect
    cases hf : pref.find? (fun s => (gmOffer cs).contains s) with
    | some t => exact ⟨t, rfl⟩
    | none =>
      have := List.find?_eq_none.mp hf s h1
      simp [hoff] at this

theorem pick_filter_other (q ok : Suite → Bool) (h : ∀ s, ok s = true → q s = true) (pref l : List Suite) :
    pick pref (l.filter q) ok = pick pref l ok := by
  unfold pick
  congr 1
  funext s
  cases hs : ok s
  · simp
  · simp [List.mem_filter, h s hs]

theorem pick_filter_pref (q ok : Suite → Bool) (h : ∀ s, ok s = true → q s = true) (l other : List Suite) :
    pick (l.filter q) other ok = pick l other ok := by
  unfold pick
  rw [List.find?_filter]
  congr 1
  funext s
  cases hs : ok s
  · simp
  · simp [h s hs]

/-- With the library's own server the verdict of a handshake is the one the unrepaired hello gave (the server
    never selected an ECDHE suite since 40f1c44): filtering the ECDHE suites out of the offer does not change
    `pick` under the server's `gmServable` restriction. -/
theorem pick_unchanged (l sl : List Suite) :
    pick sl (l.filter gmClientKx) gmServable = pick sl (l.filter isGM) gmServable ∧
    pick (l.filter gmClientKx) sl gmServable = pick (l.filter isGM) sl gmServable := by
  have hk : ∀ s, gmServable s = true → gmClientKx s = true := fun _ h => h
  exact ⟨(pick_filter_other _ _ hk sl l).trans (pick_filter_other _ _ gmServable_isGM sl l).symm,
    (pick_filter_pref _ _ hk l sl).trans (pick_filter_pref _ _ gmServable_isGM l sl).symm⟩

/-- The default configuration offers exactly [e013, e053] (before the repair: [e013, e053, e011, e051], and e011 is
    a suite the client must refuse). -/
example : gmOffer none = [0xe013, 0xe053] := by decide
example : gmDefaultList.filter isGM = [0xe013, 0xe053, 0xe011, 0xe051] ∧ gmClientKx 0xe011 = false := by decide
example : (hello ⟨.auto, .gm, none, none, true, 4, 1, .rsa⟩) = (0x0101, [0xe013, 0xe053]) := by decide
/-- Configured order is kept, unknown ids and ECDHE ids are dropped. -/
example : gmOffer (some [0xe011, 0xe053, 0x002f, 0xe051, 0xe013]) = [0xe053, 0xe013] := by decide
/-- An ECDHE-first server: selected e011 from the old offer (refused by the client), selects e013 now. -/
example : peerSelect [0xe011, 0xe051, 0xe013, 0xe053] (gmDefaultList.filter isGM) = some 0xe011 ∧
    clientMeets (gmDefaultList.filter isGM) 0xe011 = .refusesKx := by decide
example : peerSelect [0xe011, 0xe051, 0xe013, 0xe053] (gmOffer none) = some 0xe013 ∧
    clientMeets (gmOffer none) 0xe013 = .proceeds := by decide
/-- A client configured with ECDHE suites only sends an empty list (as a client configured with TLS suites only
    always did): every server answers handshake_failure; a server that selects e011 regardless is refused by
    `pickCipherSuite`. -/
example : gmOffer (some [0xe011, 0xe051]) = [] ∧ peerSelect [0xe011, 0xe013] (gmOffer (some [0xe011, 0xe051])) = none ∧
    clientMeets (gmOffer (some [0xe011, 0xe051])) 0xe011 = .unconfigured ∧
    negotiate ⟨.gm, .gm, some [0xe011, 0xe051], none, false, 0, 0, .rsa⟩ = .fail := by decide

end Props.C06Offer
