/-
C09 / C20 — a template is an INPUT of `CreateCertificate` / `CreateCertificateRequest`: the library does not
modify it, so what a call produces depends on that call's own arguments only — not on the calls made before with
the same template object (C09: the object made from a template parses back to the template's values) and not on
calls made at the same time by other goroutines (C20: nothing is written to the shared object).
Model: `Model.TemplateReuse` (the repaired x509/utils.go and x509/x509.go).
The code as found violated both (`old_aki_stale_witness`, `old_csr_stale_witness`: concrete runs of the old model).

The ops `akiseq` / `csrseq` run these sequences on the real code (harness/c09tmpl.go) and on the model; the C20
scenarios `tmplissuers` / `csrtmpl` run the same calls from goroutines released together.
-/
import Gmsm.Model.TemplateReuse
namespace Props.C09Template
open Gmsm Model.X509Names Model.TemplateReuse

/-- a step that leaves the state alone makes every call independent of the others -/
theorem seqWith_const {σ α β : Type} (step : σ → α → β × σ) (h : ∀ t p, (step t p).2 = t) :
    ∀ (t : σ) (ps : List α), seqWith step t ps = (ps.map (fun p => (step t p).1), t)
  | t, [] => rfl
  | t, p :: ps => by
      have ih := seqWith_const step h t ps
      simp only [seqWith, h, ih, List.map_cons]

/-- `CreateCertificate` leaves `template.AuthorityKeyId` as it was (it works on a copy) -/
theorem aki_template_unchanged (t : Bytes) (p : Issue) : (issueStep t p).2 = t := rfl

/-- certificates made in a row from ONE template object: each carries the id `effectiveAKI` gives for ITS parent
    and the template as the caller wrote it; the template is unchanged at the end -/
theorem aki_sequence_independent (t : Bytes) (ps : List Issue) :
    issueSeq t ps = (ps.map (fun p => effectiveAKI p.1 p.2 t), t) :=
  seqWith_const issueStep aki_template_unchanged t ps

theorem aki_call_independent (t : Bytes) (pre post : List Issue) (p : Issue) :
    (issueSeq t (pre ++ p :: post)).1[pre.length]? = some (issueStep t p).1 := by
  rw [aki_sequence_independent]
  simp [issueStep]

/-- a parent WITHOUT SubjectKeyId: the certificate carries the template's own AuthorityKeyId (nothing, when the
    template has none) - whatever parents the template was used with before -/
theorem aki_no_stale_key_id (t : Bytes) (pre post : List Issue) (sameName : Bool) :
    (issueSeq t (pre ++ (sameName, []) :: post)).1[pre.length]? = some t := by
  rw [aki_call_independent]
  simp [issueStep, effectiveAKI]

/-- CA A (key id 0a), then a CA without key id, then CA B (0b), template without a key id -/
example : issueSeq [] [(false, [0x0a]), (false, []), (false, [0x0b])] = ([[0x0a], [], [0x0b]], []) := by decide

/-- the code as found: the second certificate carries CA A's key id, and so does the caller's template -/
theorem old_aki_stale_witness :
    issueSeqOld [] [(false, [0x0a]), (false, []), (false, [0x0b])] = ([[0x0a], [0x0a], [0x0b]], [0x0b]) := by decide

/-- `CreateCertificateRequest` leaves `template.Attributes` (including the inner slices) as they were -/
theorem csr_template_unchanged (attrs : List Attr) (exts : List Atv) : (csrStep attrs exts).2 = attrs := rfl

/-- requests made in a row from ONE template object (its name fields may change between the calls: `steps`):
    each is `merge` of the template's attributes as the caller wrote them with THAT call's extensions -/
theorem csr_sequence_independent (attrs : List Attr) (steps : List (List Atv)) :
    csrSeq attrs steps = (steps.map (merge attrs), attrs) :=
  seqWith_const csrStep csr_template_unchanged attrs steps

theorem csr_call_independent (attrs : List Attr) (pre post : List (List Atv)) (exts : List Atv) :
    (csrSeq attrs (pre ++ exts :: post)).1[pre.length]? = some (merge attrs exts) := by
  rw [csr_sequence_independent]
  simp

theorem appendFirst_others (atvs : List Atv) : ∀ (attrs r : List Attr), appendFirst atvs attrs = some r →
    r.filter (fun a => !a.extReq) = attrs.filter (fun a => !a.extReq) ∧ r.length = attrs.length
  | [], r, h => by simp [appendFirst] at h
  | a :: rest, r, h => by
      unfold appendFirst at h
      split at h
      · rename_i v0 vs he hv
        simp only [Option.some.injEq] at h
        subst h
        simp [he]
      · cases hr : appendFirst atvs rest with
        | none => simp [hr] at h
        | some r' =>
          simp only [hr, Option.map_some, Option.some.injEq] at h
          subst h
          have ih := appendFirst_others atvs rest r' hr
          simp [List.filter_cons, ih.1, ih.2]

/-- the attributes that are not extension requests reach the request unchanged and in order; the request has
    the template's attributes plus at most one -/
theorem merge_other_attributes_untouched (attrs : List Attr) (exts : List Atv) :
    (merge attrs exts).filter (fun a => !a.extReq) = attrs.filter (fun a => !a.extReq) ∧
    attrs.length ≤ (merge attrs exts).length ∧ (merge attrs exts).length ≤ attrs.length + 1 := by
  unfold merge
  split
  · simp
  · cases h : appendFirst (unspecified attrs exts) attrs with
    | some r =>
      have := appendFirst_others _ attrs r h
      simp only [this.1, this.2, true_and]
      omega
    | none => simp

/-- an extension already named in the template's extensionRequest takes priority: it is not added again -/
theorem unspecified_not_specified (attrs : List Attr) (exts : List Atv) (e : Atv) (h : e ∈ unspecified attrs exts) :
    e ∈ exts ∧ e.typ ∉ specified attrs := by
  unfold unspecified at h
  simp only [List.mem_filter, Bool.not_eq_eq_eq_not, Bool.not_true, List.contains_eq_mem, decide_eq_false_iff_not] at h
  exact h

def exKeyUsage : Atv := ⟨15, "k"⟩
def exTemplate : List Attr := [⟨false, [[⟨7, "challenge"⟩]]⟩, ⟨true, [[exKeyUsage]]⟩]

/-- DNSNames = [a], then [b], then none: each request carries the subjectAltName of its own call -/
example : csrSeq exTemplate [[⟨17, "a"⟩], [⟨17, "b"⟩], []] =
    ([[⟨false, [[⟨7, "challenge"⟩]]⟩, ⟨true, [[exKeyUsage, ⟨17, "a"⟩]]⟩],
      [⟨false, [[⟨7, "challenge"⟩]]⟩, ⟨true, [[exKeyUsage, ⟨17, "b"⟩]]⟩],
      exTemplate], exTemplate) := by decide

/-- the code as found: the template keeps the first call's subjectAltName, which then takes priority over the
    names of the later calls - the second request names host a instead of b, the third has names it should not -/
theorem old_csr_stale_witness :
    csrSeqOld exTemplate [[⟨17, "a"⟩], [⟨17, "b"⟩], []] =
    ([[⟨false, [[⟨7, "challenge"⟩]]⟩, ⟨true, [[exKeyUsage, ⟨17, "a"⟩]]⟩],
      [⟨false, [[⟨7, "challenge"⟩]]⟩, ⟨true, [[exKeyUsage, ⟨17, "a"⟩]]⟩],
      [⟨false, [[⟨7, "challenge"⟩]]⟩, ⟨true, [[exKeyUsage, ⟨17, "a"⟩]]⟩]],
     [⟨false, [[⟨7, "challenge"⟩]]⟩, ⟨true, [[exKeyUsage, ⟨17, "a"⟩]]⟩]) := by decide

end Props.C09Template
