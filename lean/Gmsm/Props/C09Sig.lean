/-
C09 / C01 — the signature VALUE of a certificate, request or revocation list is not malleable.

`Model.X509Sig.decode` is the decoding step of the repaired `x509.checkSignature` (ECDSA / SM2 and DSA
branches): `asn1.Unmarshal` into struct{R, S} - which ignores further members of the SEQUENCE - followed by
the comparison of the re-encoded pair with the signature bytes.  On byte strings shorter than 2^32 (the range of
the DER length decoder) it accepts exactly what `strict` accepts (`decode_eq_strict`) - the strict decoder of the
specification (`Spec.DER.decSig`, the one `sm2.PublicKey.Verify` implements) with r > 0 and s > 0 demanded.  Hence
the X.509 verdict for an SM2 key is the strict specification verdict (`verifySM2_eq_spec`) and
SEQUENCE{r, s, anything more} is refused (`extra_member_rejected`); the decoding step as found accepted every such
byte string with r, s > 0 as (r, s) (`lenient_accepts_extra_member`).
-/
import Gmsm.Model.X509Sig
import Gmsm.Props.C01
import Gmsm.Props.C14Codec
namespace Props.C09Sig
open Gmsm Spec.DER Model.X509Sig

/-- the strict decoder of the specification restricted to positive pairs -/
def strict (sig : Bytes) : Option (Nat × Nat) :=
  match decSig sig with
  | some (r, s) => if r ≤ 0 ∨ s ≤ 0 then none else some (r.toNat, s.toNat)
  | none => none

theorem unmarshalRS_of_decSig (sig : Bytes) (r s : Int) (h : decSig sig = some (r, s)) :
    unmarshalRS sig = some (r, s, []) := by
  obtain ⟨body, rc, rest, sc, h30, hrc, hsc, hr, hs⟩ := decSig_some h
  simp only [unmarshalRS, h30, hrc, hsc, hr, hs]

theorem decode_some (sig : Bytes) (r s : Nat) (h : decode sig = some (r, s)) : encSig r s = sig := by
  revert h
  fun_cases decode sig <;> intro h
  case case2 he =>
    cases h
    exact he
  all_goals cases h

/-- Two signature values that the repaired verifier decodes to the same pair are the same bytes (no bound on
    lengths or values). -/
theorem decode_injective (sig sig2 : Bytes) (r s : Nat) (h1 : decode sig = some (r, s)) (h2 : decode sig2 = some (r, s)) :
    sig = sig2 := by
  rw [← decode_some sig r s h1, ← decode_some sig2 r s h2]

/-- The repaired decoding step (lenient `asn1.Unmarshal` + re-encoding check + sign check) is the strict DER
    decoder of the specification. -/
theorem decode_eq_strict (sig : Bytes) (hl : sig.length < 2 ^ 32) : decode sig = strict sig := by
  unfold strict
  cases hd : decSig sig with
  | some p =>
    obtain ⟨r, s⟩ := p
    simp only
    unfold decode
    rw [unmarshalRS_of_decSig sig r s hd]
    simp only
    by_cases hneg : r ≤ 0 ∨ s ≤ 0
    · rw [if_pos hneg, if_pos hneg]
    · rw [if_neg hneg, if_neg hneg]
      have hr : 0 ≤ r := by omega
      have hs : 0 ≤ s := by omega
      rw [if_pos (Props.C14Codec.der_canonical sig r s hd hr hs)]
  | none =>
    simp only
    cases hx : decode sig with
    | none => rfl
    | some q =>
      obtain ⟨r, s⟩ := q
      exfalso
      have he := decode_some sig r s hx
      have hl2 : (encSig r s).length < 2 ^ 32 := by rw [he]; exact hl
      have := decSig_encSig r s hl2
      rw [he, hd] at this
      cases this

/-- the strict specification verdict for a DER signature under the default user ID (what the driver prints for
    `sm2verifyder`, the model of `sm2.PublicKey.Verify`) -/
def specVerifyDer (px py : Nat) (msg sig : Bytes) : Bool :=
  match decSig sig with
  | some (r, s) => if r < 0 ∨ s < 0 then false else Spec.SM2.verify px py Spec.SM2.defaultUid msg r.toNat s.toNat
  | none => false

/-- For an SM2 key the repaired `checkSignature` gives exactly the strict verdict of the specification: same
    acceptance as `sm2.PublicKey.Verify` on every byte string. -/
theorem verifySM2_eq_spec (px py : Nat) (msg sig : Bytes) (hl : sig.length < 2 ^ 32) :
    verifySM2 px py msg sig = specVerifyDer px py msg sig := by
  unfold verifySM2 specVerifyDer
  rw [decode_eq_strict sig hl]
  unfold strict
  cases hd : decSig sig with
  | none => rfl
  | some p =>
    obtain ⟨r, s⟩ := p
    simp only
    by_cases hneg : r ≤ 0 ∨ s ≤ 0
    · rw [if_pos hneg]
      simp only
      by_cases hlt : r < 0 ∨ s < 0
      · rw [if_pos hlt]
      · rw [if_neg hlt]
        -- r = 0 or s = 0: outside the verifier's range
        have hz : r.toNat < 1 ∨ s.toNat < 1 := by omega
        exact (Props.C01.verify_range _ _ _ _ _ (hz.elim Or.inl fun h => Or.inr (Or.inl h))).symm
    · rw [if_neg hneg]
      simp only
      rw [if_neg (by omega)]

/-- the byte string SEQUENCE{ INTEGER r, INTEGER s, extra… } -/
def withExtra (r s : Nat) (extra : Bytes) : Bytes := tlv 0x30 (encInt r ++ encInt s ++ extra)

theorem withExtra_nil (r s : Nat) : withExtra r s [] = encSig r s := by
  unfold withExtra encSig encSeq
  simp

theorem decTLV_withExtra (r s : Nat) (extra : Bytes) (hl : (withExtra r s extra).length < 2 ^ 32) :
    decTLV 0x30 (withExtra r s extra) = some (encInt r ++ (encInt s ++ extra), []) ∧
    decTLV 0x02 (encInt r ++ (encInt s ++ extra)) = some (intContent r, encInt s ++ extra) ∧
    decTLV 0x02 (encInt s ++ extra) = some (intContent s, extra) := by
  have hb : (encInt r ++ (encInt s ++ extra)).length < 2 ^ 32 ∧ (intContent r).length < 2 ^ 32 ∧
      (intContent s).length < 2 ^ 32 := by
    simp only [withExtra, tlv, encInt, List.length_cons, List.length_append] at hl ⊢
    omega
  have h1 := decTLV_tlv 0x30 (encInt r ++ (encInt s ++ extra)) [] hb.1
  rw [List.append_nil] at h1
  exact ⟨by rw [withExtra, List.append_assoc, h1], decTLV_tlv 0x02 _ _ hb.2.1,
    decTLV_tlv 0x02 _ _ hb.2.2⟩

theorem decSig_withExtra (r s : Nat) (extra : Bytes) (hne : extra ≠ []) (hl : (withExtra r s extra).length < 2 ^ 32) :
    decSig (withExtra r s extra) = none := by
  obtain ⟨h1, h2, h3⟩ := decTLV_withExtra r s extra hl
  simp only [decSig, h1, h2, h3]
  cases extra with
  | nil => exact absurd rfl hne
  | cons x xs => rfl

/-- The repaired behaviour: a signature value with anything after the second INTEGER
    inside the SEQUENCE - NULL, INTEGER, OCTET STRING with chosen contents, stray bytes - is refused, whatever
    r and s are. -/
theorem extra_member_rejected (r s : Nat) (extra : Bytes) (hne : extra ≠ []) (hl : (withExtra r s extra).length < 2 ^ 32) :
    decode (withExtra r s extra) = none := by
  rw [decode_eq_strict _ hl]
  unfold strict
  rw [decSig_withExtra r s extra hne hl]

/-- hence no key, message or pair makes the X.509 verifier accept such a value -/
theorem extra_member_never_verifies (px py : Nat) (msg : Bytes) (r s : Nat) (extra : Bytes) (hne : extra ≠ [])
    (hl : (withExtra r s extra).length < 2 ^ 32) : verifySM2 px py msg (withExtra r s extra) = false := by
  unfold verifySM2
  rw [extra_member_rejected r s extra hne hl]

/-- `asn1.Unmarshal` into struct{R, S} does not look at what follows the second INTEGER -/
theorem unmarshalRS_withExtra (r s : Nat) (extra : Bytes) (hl : (withExtra r s extra).length < 2 ^ 32) :
    unmarshalRS (withExtra r s extra) = some ((r : Int), (s : Int), []) := by
  obtain ⟨h1, h2, h3⟩ := decTLV_withExtra r s extra hl
  simp only [unmarshalRS, h1, h2, h3, decIntContent_intContent]

/-- The defect, before the repair: the decoding step as found took
    SEQUENCE{r, s, extra…} for the pair (r, s) for EVERY `extra` - so each valid signature value had unboundedly
    many other accepted encodings. -/
theorem lenient_accepts_extra_member (r s : Nat) (hr : 0 < r) (hs : 0 < s) (extra : Bytes)
    (hl : (withExtra r s extra).length < 2 ^ 32) : decodeLenient (withExtra r s extra) = some (r, s) := by
  unfold decodeLenient
  rw [unmarshalRS_withExtra r s extra hl]
  simp only
  rw [if_neg (by omega)]
  simp

/-- before the repair the verdict did not depend on `extra` at all -/
theorem lenient_malleable (px py : Nat) (msg : Bytes) (r s : Nat) (hr : 0 < r) (hs : 0 < s) (extra : Bytes)
    (hl : (withExtra r s extra).length < 2 ^ 32) (hl0 : (encSig r s).length < 2 ^ 32) :
    verifySM2Lenient px py msg (withExtra r s extra) = verifySM2Lenient px py msg (encSig r s) := by
  unfold verifySM2Lenient
  rw [lenient_accepts_extra_member r s hr hs extra hl, ← withExtra_nil,
    lenient_accepts_extra_member r s hr hs [] (by rw [withExtra_nil]; exact hl0)]

/-- the genuine encoding is accepted -/
theorem decode_encSig (r s : Nat) (hr : 0 < r) (hs : 0 < s) (hl : (encSig r s).length < 2 ^ 32) :
    decode (encSig r s) = some (r, s) := by
  rw [decode_eq_strict _ hl]
  unfold strict
  rw [decSig_encSig r s hl]
  simp only
  rw [if_neg (by omega)]
  simp

/-- SEQUENCE{5, 7} is accepted; with a NULL, an INTEGER 1, an OCTET STRING or a stray byte after the
    7 it was accepted as (5, 7) before the repair and is refused after it; a non-minimal length and a
    non-minimal INTEGER were never accepted. -/
example :
    decode [0x30, 0x06, 0x02, 0x01, 0x05, 0x02, 0x01, 0x07] = some (5, 7) ∧
    decodeLenient [0x30, 0x08, 0x02, 0x01, 0x05, 0x02, 0x01, 0x07, 0x05, 0x00] = some (5, 7) ∧
    decode [0x30, 0x08, 0x02, 0x01, 0x05, 0x02, 0x01, 0x07, 0x05, 0x00] = none ∧
    decodeLenient [0x30, 0x09, 0x02, 0x01, 0x05, 0x02, 0x01, 0x07, 0x02, 0x01, 0x01] = some (5, 7) ∧
    decode [0x30, 0x09, 0x02, 0x01, 0x05, 0x02, 0x01, 0x07, 0x02, 0x01, 0x01] = none ∧
    decodeLenient [0x30, 0x0a, 0x02, 0x01, 0x05, 0x02, 0x01, 0x07, 0x04, 0x02, 0x70, 0x61] = some (5, 7) ∧
    decode [0x30, 0x0a, 0x02, 0x01, 0x05, 0x02, 0x01, 0x07, 0x04, 0x02, 0x70, 0x61] = none ∧
    decodeLenient [0x30, 0x07, 0x02, 0x01, 0x05, 0x02, 0x01, 0x07, 0xff] = some (5, 7) ∧
    decode [0x30, 0x07, 0x02, 0x01, 0x05, 0x02, 0x01, 0x07, 0xff] = none ∧
    decodeLenient [0x30, 0x81, 0x06, 0x02, 0x01, 0x05, 0x02, 0x01, 0x07] = none ∧
    decodeLenient [0x30, 0x07, 0x02, 0x02, 0x00, 0x05, 0x02, 0x01, 0x07] = none ∧
    decodeLenient [0x30, 0x06, 0x02, 0x01, 0x05, 0x02, 0x01, 0x07, 0x00] = none ∧
    withExtra 5 7 [0x05, 0x00] = [0x30, 0x08, 0x02, 0x01, 0x05, 0x02, 0x01, 0x07, 0x05, 0x00] := by decide +kernel

end Props.C09Sig
