/-
C03, limb layer: the first loop of `sm2P256ReduceDegree`, which rewrites 17 words of 64 bits at positions
0, 29, 57, … as 18 words of 29/28 bits at the same positions.  Word i feeds its low bits to digit i, the next
bits to digit i+1 and its top 7 bits to digit i+2; with everything not yet written counted as the carry (`pend`)
this is an ordinary carry chain with one input word per digit.
-/
import Gmsm.Props.C03Limbs.Basic
namespace Props.C03Limbs
set_option exponentiation.threshold 600
open Model.P256Limbs

theorem lo32_toNat (x : U64) : (lo32 x).toNat = x.toNat % 4294967296 := by
  unfold lo32; rw [BitVec.toNat_setWidth]
theorem hi32_toNat (x : U64) : (hi32 x).toNat = x.toNat / 4294967296 := by
  unfold hi32
  rw [BitVec.toNat_setWidth, BitVec.toNat_ushiftRight, shrN]
  have := x.isLt
  omega

/-- What is still to be written at the position after word `bi`, in units of that position: the carry, the
    top 7 bits of the word before and all of `bi` above its low `k` bits. -/
def pend (k : Nat) (bm1 bi : U64) (c : U32) : Nat := c.toNat + bm1.toNat / 2 ^ 57 + bi.toNat / 2 ^ k

/-- The three pieces the loop reads of a word at an even position: its low 29 bits, the next 28 (four from the low
    half, the rest from the high half) and the top 7. -/
theorem pieces29 (x : U64) :
    (lo32 x &&& bottom29Bits).toNat + 2 ^ 29 * (x.toNat / 2 ^ 29) = x.toNat ∧
    (lo32 x >>> 29).toNat + ((hi32 x <<< 3) &&& bottom28Bits).toNat + 2 ^ 28 * (x.toNat / 2 ^ 57) = x.toNat / 2 ^ 29 ∧
    (hi32 x >>> 25).toNat = x.toNat / 2 ^ 57 ∧
    (lo32 x &&& bottom29Bits).toNat < 2 ^ 29 ∧
    (lo32 x >>> 29).toNat + ((hi32 x <<< 3) &&& bottom28Bits).toNat < 2 ^ 28 := by
  simp only [and29, and28, shr32, shl32, lo32_toNat, hi32_toNat, Nat.reducePow]
  have := x.isLt
  omega

/-- the same at an odd position: 28, 29 and 7 bits -/
theorem pieces28 (x : U64) :
    (lo32 x &&& bottom28Bits).toNat + 2 ^ 28 * (x.toNat / 2 ^ 28) = x.toNat ∧
    (lo32 x >>> 28).toNat + ((hi32 x <<< 4) &&& bottom29Bits).toNat + 2 ^ 29 * (x.toNat / 2 ^ 57) = x.toNat / 2 ^ 28 ∧
    (hi32 x >>> 25).toNat = x.toNat / 2 ^ 57 ∧
    (lo32 x &&& bottom28Bits).toNat < 2 ^ 28 ∧
    (lo32 x >>> 28).toNat + ((hi32 x <<< 4) &&& bottom29Bits).toNat < 2 ^ 29 := by
  simp only [and29, and28, shr32, shl32, lo32_toNat, hi32_toNat, Nat.reducePow]
  have := x.isLt
  omega

theorem rpEven_spec (bm2 bm1 bi : U64) (c : U32) (hc : c.toNat ≤ 2) :
    (rpEven bm2 bm1 bi c).1.toNat + 2 ^ 29 * pend 29 bm1 bi (rpEven bm2 bm1 bi c).2
      = bi.toNat + pend 28 bm2 bm1 c ∧
    (rpEven bm2 bm1 bi c).1.toNat < 2 ^ 29 ∧ (rpEven bm2 bm1 bi c).2.toNat ≤ 2 := by
  unfold rpEven pend
  dsimp only
  have s := split29 (hi32 bm2 >>> 25 + lo32 bm1 >>> 28 + (hi32 bm1 <<< 4 &&& bottom29Bits) + (lo32 bi &&& bottom29Bits) + c)
  rw [add32, add32, add32, add32] at s
  obtain ⟨-, -, top, -, -⟩ := pieces29 bm2
  obtain ⟨-, mid, -, -, mid'⟩ := pieces28 bm1
  obtain ⟨low, -, -, low', -⟩ := pieces29 bi
  have := bm2.isLt
  omega

theorem rpOdd_spec (bm2 bm1 bi : U64) (c : U32) (hc : c.toNat ≤ 2) :
    (rpOdd bm2 bm1 bi c).1.toNat + 2 ^ 28 * pend 28 bm1 bi (rpOdd bm2 bm1 bi c).2
      = bi.toNat + pend 29 bm2 bm1 c ∧
    (rpOdd bm2 bm1 bi c).1.toNat < 2 ^ 28 ∧ (rpOdd bm2 bm1 bi c).2.toNat ≤ 2 := by
  unfold rpOdd pend
  dsimp only
  have s := split28 (hi32 bm2 >>> 25 + lo32 bm1 >>> 29 + (hi32 bm1 <<< 3 &&& bottom28Bits) + (lo32 bi &&& bottom28Bits) + c)
  rw [add32, add32, add32, add32] at s
  obtain ⟨-, -, top, -, -⟩ := pieces28 bm2
  obtain ⟨-, mid, -, -, mid'⟩ := pieces29 bm1
  obtain ⟨low, -, -, low', -⟩ := pieces28 bi
  have := bm2.isLt
  omega

theorem or_disjoint (a b : U32) (ha : a.toNat < 8) (hb : b.toNat % 8 = 0) : (a ||| b).toNat = a.toNat + b.toNat := by
  rw [BitVec.toNat_or]
  have h := Nat.shiftLeft_add_eq_or_of_lt (i := 3) (b := a.toNat) (by omega) (b.toNat / 8)
  rw [shlN] at h
  have e : b.toNat / 8 * 2 ^ 3 = b.toNat := by omega
  rw [e] at h
  rw [Nat.or_comm, ← h, Nat.add_comm]

theorem rpHead_spec (b0 b1 : U64) :
    (rpHead b0 b1).1.toNat + 2 ^ 29 * (b0.toNat / 2 ^ 29) = b0.toNat ∧
    (rpHead b0 b1).2.1.toNat + 2 ^ 28 * pend 28 b0 b1 (rpHead b0 b1).2.2 = b1.toNat + b0.toNat / 2 ^ 29 ∧
    (rpHead b0 b1).1.toNat < 2 ^ 29 ∧ (rpHead b0 b1).2.1.toNat < 2 ^ 28 ∧ (rpHead b0 b1).2.2.toNat ≤ 2 := by
  unfold rpHead pend
  dsimp only
  have hor := or_disjoint (lo32 b0 >>> 29) (hi32 b0 <<< 3 &&& bottom28Bits)
    (by simp only [shr32, lo32_toNat, Nat.reducePow]; omega) (by simp only [and28, shl32, Nat.reducePow]; omega)
  have s := split28 ((lo32 b0 >>> 29 ||| (hi32 b0 <<< 3 &&& bottom28Bits)) + (lo32 b1 &&& bottom28Bits))
  rw [add32, hor] at s
  obtain ⟨low0, mid, -, low0', mid'⟩ := pieces29 b0
  obtain ⟨low1, -, -, low1', -⟩ := pieces28 b1
  omega

theorem rpTail_spec (b15 b16 : U64) (c : U32) (hc : c.toNat ≤ 2) (h16 : b16.toNat < 2 ^ 60) :
    (rpTail b15 b16 c).toNat = pend 29 b15 b16 c ∧ (rpTail b15 b16 c).toNat < 2147483904 := by
  unfold rpTail pend
  simp only [shr32, shl32, add32, lo32_toNat, hi32_toNat, Nat.reducePow] at h16 ⊢
  have := b15.isLt
  omega

theorem horner_lit18 (t0 t1 t2 t3 t4 t5 t6 t7 t8 t9 t10 t11 t12 t13 t14 t15 t16 t17 : U32) :
    horner 29 [t0, t1, t2, t3, t4, t5, t6, t7, t8, t9, t10, t11, t12, t13, t14, t15, t16, t17] 0 =
      t0.toNat + t1.toNat * 2 ^ 29 + t2.toNat * 2 ^ 57 + t3.toNat * 2 ^ 86 + t4.toNat * 2 ^ 114 + t5.toNat * 2 ^ 143 + t6.toNat * 2 ^ 171 + t7.toNat * 2 ^ 200 + t8.toNat * 2 ^ 228 + t9.toNat * 2 ^ 257 + t10.toNat * 2 ^ 285 + t11.toNat * 2 ^ 314 + t12.toNat * 2 ^ 342 + t13.toNat * 2 ^ 371 + t14.toNat * 2 ^ 399 + t15.toNat * 2 ^ 428 + t16.toNat * 2 ^ 456 + t17.toNat * 2 ^ 485 := by
  simp only [horner, Nat.reduceSub]
  ring

theorem repack_lit (b0 b1 b2 b3 b4 b5 b6 b7 b8 b9 b10 b11 b12 b13 b14 b15 b16 : U64) (hb : b16.toNat < 2 ^ 60) :
    ∃ t0 t1 t2 t3 t4 t5 t6 t7 t8 t9 t10 t11 t12 t13 t14 t15 t16 t17 : U32, repack #v[b0, b1, b2, b3, b4, b5, b6, b7, b8, b9, b10, b11, b12, b13, b14, b15, b16] = #v[t0, t1, t2, t3, t4, t5, t6, t7, t8, t9, t10, t11, t12, t13, t14, t15, t16, t17] ∧
      horner 29 [t0, t1, t2, t3, t4, t5, t6, t7, t8, t9, t10, t11, t12, t13, t14, t15, t16, t17] 0 = valueLarge #v[b0, b1, b2, b3, b4, b5, b6, b7, b8, b9, b10, b11, b12, b13, b14, b15, b16] ∧
      t0.toNat < 2 ^ 29 ∧ t1.toNat < 2 ^ 28 ∧ t2.toNat < 2 ^ 29 ∧ t3.toNat < 2 ^ 28 ∧ t4.toNat < 2 ^ 29 ∧ t5.toNat < 2 ^ 28 ∧ t6.toNat < 2 ^ 29 ∧ t7.toNat < 2 ^ 28 ∧ t8.toNat < 2 ^ 29 ∧ t9.toNat < 2 ^ 28 ∧ t10.toNat < 2 ^ 29 ∧ t11.toNat < 2 ^ 28 ∧ t12.toNat < 2 ^ 29 ∧ t13.toNat < 2 ^ 28 ∧ t14.toNat < 2 ^ 29 ∧ t15.toNat < 2 ^ 28 ∧ t16.toNat < 2 ^ 29 ∧ t17.toNat < 2147483904 := by
  obtain ⟨h, r2, r3, r4, r5, r6, r7, r8, r9, r10, r11, r12, r13, r14, r15, r16, t17, eh, e2, e3, e4, e5, e6, e7, e8, e9, e10, e11, e12, e13, e14, e15, e16, e17, e⟩ :
      ∃ h r2 r3 r4 r5 r6 r7 r8 r9 r10 r11 r12 r13 r14 r15 r16 t17, h = rpHead b0 b1 ∧
        r2 = rpEven b0 b1 b2 h.2.2 ∧
        r3 = rpOdd b1 b2 b3 r2.2 ∧
        r4 = rpEven b2 b3 b4 r3.2 ∧
        r5 = rpOdd b3 b4 b5 r4.2 ∧
        r6 = rpEven b4 b5 b6 r5.2 ∧
        r7 = rpOdd b5 b6 b7 r6.2 ∧
        r8 = rpEven b6 b7 b8 r7.2 ∧
        r9 = rpOdd b7 b8 b9 r8.2 ∧
        r10 = rpEven b8 b9 b10 r9.2 ∧
        r11 = rpOdd b9 b10 b11 r10.2 ∧
        r12 = rpEven b10 b11 b12 r11.2 ∧
        r13 = rpOdd b11 b12 b13 r12.2 ∧
        r14 = rpEven b12 b13 b14 r13.2 ∧
        r15 = rpOdd b13 b14 b15 r14.2 ∧
        r16 = rpEven b14 b15 b16 r15.2 ∧
        t17 = rpTail b15 b16 r16.2 ∧
        repack #v[b0, b1, b2, b3, b4, b5, b6, b7, b8, b9, b10, b11, b12, b13, b14, b15, b16] = #v[h.1, h.2.1, r2.1, r3.1, r4.1, r5.1, r6.1, r7.1, r8.1, r9.1, r10.1, r11.1, r12.1, r13.1, r14.1, r15.1, r16.1, t17] :=
    ⟨_, _, _, _, _, _, _, _, _, _, _, _, _, _, _, _, _, rfl, rfl, rfl, rfl, rfl, rfl, rfl, rfl, rfl, rfl, rfl, rfl, rfl, rfl, rfl, rfl, rfl, rfl⟩
  refine ⟨_, _, _, _, _, _, _, _, _, _, _, _, _, _, _, _, _, _, e, ?_⟩
  have sh := rpHead_spec b0 b1
  rw [← eh] at sh
  have s2 := rpEven_spec b0 b1 b2 h.2.2 sh.2.2.2.2
  rw [← e2] at s2
  have s3 := rpOdd_spec b1 b2 b3 r2.2 s2.2.2
  rw [← e3] at s3
  have s4 := rpEven_spec b2 b3 b4 r3.2 s3.2.2
  rw [← e4] at s4
  have s5 := rpOdd_spec b3 b4 b5 r4.2 s4.2.2
  rw [← e5] at s5
  have s6 := rpEven_spec b4 b5 b6 r5.2 s5.2.2
  rw [← e6] at s6
  have s7 := rpOdd_spec b5 b6 b7 r6.2 s6.2.2
  rw [← e7] at s7
  have s8 := rpEven_spec b6 b7 b8 r7.2 s7.2.2
  rw [← e8] at s8
  have s9 := rpOdd_spec b7 b8 b9 r8.2 s8.2.2
  rw [← e9] at s9
  have s10 := rpEven_spec b8 b9 b10 r9.2 s9.2.2
  rw [← e10] at s10
  have s11 := rpOdd_spec b9 b10 b11 r10.2 s10.2.2
  rw [← e11] at s11
  have s12 := rpEven_spec b10 b11 b12 r11.2 s11.2.2
  rw [← e12] at s12
  have s13 := rpOdd_spec b11 b12 b13 r12.2 s12.2.2
  rw [← e13] at s13
  have s14 := rpEven_spec b12 b13 b14 r13.2 s13.2.2
  rw [← e14] at s14
  have s15 := rpOdd_spec b13 b14 b15 r14.2 s14.2.2
  rw [← e15] at s15
  have s16 := rpEven_spec b14 b15 b16 r15.2 s15.2.2
  rw [← e16] at s16
  have s17 := rpTail_spec b15 b16 r16.2 s16.2.2 hb
  rw [← e17] at s17
  have c2 := chain_step 29 28 sh.1 sh.2.1
  have c3 := chain_step 57 29 c2 s2.1
  have c4 := chain_step 86 28 c3 s3.1
  have c5 := chain_step 114 29 c4 s4.1
  have c6 := chain_step 143 28 c5 s5.1
  have c7 := chain_step 171 29 c6 s6.1
  have c8 := chain_step 200 28 c7 s7.1
  have c9 := chain_step 228 29 c8 s8.1
  have c10 := chain_step 257 28 c9 s9.1
  have c11 := chain_step 285 29 c10 s10.1
  have c12 := chain_step 314 28 c11 s11.1
  have c13 := chain_step 342 29 c12 s12.1
  have c14 := chain_step 371 28 c13 s13.1
  have c15 := chain_step 399 29 c14 s14.1
  have c16 := chain_step 428 28 c15 s15.1
  have c17 := chain_step 456 29 c16 s16.1
  refine ⟨?_, sh.2.2.1, sh.2.2.2.1, s2.2.1, s3.2.1, s4.2.1, s5.2.1, s6.2.1, s7.2.1, s8.2.1, s9.2.1, s10.2.1, s11.2.1, s12.2.1, s13.2.1, s14.2.1, s15.2.1, s16.2.1, s17.2⟩
  rw [horner_lit18, s17.1, Nat.mul_comm (pend _ _ _ _)]
  exact c17

theorem exists_lit18 (t : Tmp) : ∃ t0 t1 t2 t3 t4 t5 t6 t7 t8 t9 t10 t11 t12 t13 t14 t15 t16 t17, t = #v[t0, t1, t2, t3, t4, t5, t6, t7, t8, t9, t10, t11, t12, t13, t14, t15, t16, t17] := by
  obtain ⟨⟨l⟩, h⟩ := t
  match l, h with
  | [t0, t1, t2, t3, t4, t5, t6, t7, t8, t9, t10, t11, t12, t13, t14, t15, t16, t17], _ =>
    exact ⟨t0, t1, t2, t3, t4, t5, t6, t7, t8, t9, t10, t11, t12, t13, t14, t15, t16, t17, rfl⟩

end Props.C03Limbs
