/-
C03, limb layer: `sm2P256Add`, `sm2P256Sub` (carry chains followed by `sm2P256ReduceCarry`) and
`sm2P256FromBig` / `sm2P256ToBig`.
-/
import Gmsm.Props.C03Limbs.Basic
namespace Props.C03Limbs
set_option exponentiation.threshold 600
open Model.P256Limbs

theorem addLimb29_spec (ai bi c : U32) (ha : ai.toNat < 2 ^ 30) (hb : bi.toNat < 2 ^ 30) (hc : c.toNat ≤ 4) :
    (addLimb29 ai bi c).1.toNat + 2 ^ 29 * (addLimb29 ai bi c).2.toNat = ai.toNat + bi.toNat + c.toNat ∧
    (addLimb29 ai bi c).1.toNat < 2 ^ 29 ∧ (addLimb29 ai bi c).2.toNat ≤ 4 := by
  unfold addLimb29
  dsimp only
  have s := split29 (ai + bi + c)
  rw [add_nw _ c (by rw [add_nw] <;> omega), add_nw _ _ (by omega)] at s
  omega

theorem addLimb28_spec (ai bi c : U32) (ha : ai.toNat < 2 ^ 29) (hb : bi.toNat < 2 ^ 29) (hc : c.toNat ≤ 4) :
    (addLimb28 ai bi c).1.toNat + 2 ^ 28 * (addLimb28 ai bi c).2.toNat = ai.toNat + bi.toNat + c.toNat ∧
    (addLimb28 ai bi c).1.toNat < 2 ^ 28 ∧ (addLimb28 ai bi c).2.toNat ≤ 4 := by
  unfold addLimb28
  dsimp only
  have s := split28 (ai + bi + c)
  rw [add_nw _ c (by rw [add_nw] <;> omega), add_nw _ _ (by omega)] at s
  omega

theorem addChain_spec (a b : Limbs) (ha : InBounds a) (hb : InBounds b) :
    value (addChain a b).1 + (addChain a b).2.toNat * 2 ^ 257 = value a + value b ∧
    Canon (addChain a b).1 ∧ (addChain a b).2.toNat < 8 := by
  obtain ⟨a0, a1, a2, a3, a4, a5, a6, a7, a8, rfl⟩ := exists_lit9 a
  obtain ⟨b0, b1, b2, b3, b4, b5, b6, b7, b8, rfl⟩ := exists_lit9 b
  rw [inBounds_lit] at ha hb
  obtain ⟨r0, r1, r2, r3, r4, r5, r6, r7, r8, e0, e1, e2, e3, e4, e5, e6, e7, e8, e⟩ :
      ∃ r0 r1 r2 r3 r4 r5 r6 r7 r8, r0 = addLimb29 a0 b0 0 ∧ r1 = addLimb28 a1 b1 r0.2 ∧
        r2 = addLimb29 a2 b2 r1.2 ∧ r3 = addLimb28 a3 b3 r2.2 ∧ r4 = addLimb29 a4 b4 r3.2 ∧
        r5 = addLimb28 a5 b5 r4.2 ∧ r6 = addLimb29 a6 b6 r5.2 ∧ r7 = addLimb28 a7 b7 r6.2 ∧
        r8 = addLimb29 a8 b8 r7.2 ∧
        addChain #v[a0, a1, a2, a3, a4, a5, a6, a7, a8] #v[b0, b1, b2, b3, b4, b5, b6, b7, b8] =
          (#v[r0.1, r1.1, r2.1, r3.1, r4.1, r5.1, r6.1, r7.1, r8.1], r8.2) :=
    ⟨_, _, _, _, _, _, _, _, _, rfl, rfl, rfl, rfl, rfl, rfl, rfl, rfl, rfl, rfl⟩
  rw [e]; clear e
  have h0 := addLimb29_spec a0 b0 0 ha.1 hb.1 (by decide); rw [← e0] at h0
  have h1 := addLimb28_spec a1 b1 r0.2 ha.2.1 hb.2.1 h0.2.2; rw [← e1] at h1
  have h2 := addLimb29_spec a2 b2 r1.2 ha.2.2.1 hb.2.2.1 h1.2.2; rw [← e2] at h2
  have h3 := addLimb28_spec a3 b3 r2.2 ha.2.2.2.1 hb.2.2.2.1 h2.2.2; rw [← e3] at h3
  have h4 := addLimb29_spec a4 b4 r3.2 ha.2.2.2.2.1 hb.2.2.2.2.1 h3.2.2; rw [← e4] at h4
  have h5 := addLimb28_spec a5 b5 r4.2 ha.2.2.2.2.2.1 hb.2.2.2.2.2.1 h4.2.2; rw [← e5] at h5
  have h6 := addLimb29_spec a6 b6 r5.2 ha.2.2.2.2.2.2.1 hb.2.2.2.2.2.2.1 h5.2.2; rw [← e6] at h6
  have h7 := addLimb28_spec a7 b7 r6.2 ha.2.2.2.2.2.2.2.1 hb.2.2.2.2.2.2.2.1 h6.2.2; rw [← e7] at h7
  have h8 := addLimb29_spec a8 b8 r7.2 ha.2.2.2.2.2.2.2.2 hb.2.2.2.2.2.2.2.2 h7.2.2; rw [← e8] at h8
  have c1 := h0.1
  have c2 := chain_step 29 28 c1 h1.1
  have c3 := chain_step 57 29 c2 h2.1
  have c4 := chain_step 86 28 c3 h3.1
  have c5 := chain_step 114 29 c4 h4.1
  have c6 := chain_step 143 28 c5 h5.1
  have c7 := chain_step 171 29 c6 h6.1
  have c8 := chain_step 200 28 c7 h7.1
  have c9 := chain_step 228 29 c8 h8.1
  have c10 : _ + 2 ^ 257 * _ = _ := c9
  refine ⟨?_, ⟨h0.2.1, h1.2.1, h2.2.1, h3.2.1, h4.2.1, h5.2.1, h6.2.1, h7.2.1, h8.2.1⟩, Nat.lt_of_le_of_lt h8.2.2 (by decide)⟩
  rw [value_lit, value_lit, value_lit, Nat.mul_comm _ (2 ^ 257), c10]
  clear c10 c9 c8 c7 c6 c5 c4 c3 c2 c1 h8 h7 h6 h5 h4 h3 h2 h1 h0 e0 e1 e2 e3 e4 e5 e6 e7 e8
  have z : (0 : U32).toNat = 0 := rfl
  omega

/-- `sm2P256Add`: within the input bounds the output is within the bounds and
    `value (add a b) ≡ value a + value b (mod p)`; exactly: `value out + carry·2p = value a + value b`. -/
theorem add_exact (a b : Limbs) (ha : InBounds a) (hb : InBounds b) :
    ∃ k, k < 8 ∧ value (add a b) + k * (2 * P) = value a + value b ∧ InBounds (add a b) := by
  obtain ⟨h1, h2, h3⟩ := addChain_spec a b ha hb
  obtain ⟨h4, h5⟩ := reduceCarry_exact (addChain a b).1 (addChain a b).2 h3 h2
  refine ⟨(addChain a b).2.toNat, h3, ?_, h5⟩
  show value (reduceCarry (addChain a b).1 (addChain a b).2) + _ = _
  omega

theorem add_ok (a b : Limbs) (ha : InBounds a) (hb : InBounds b) :
    value (add a b) % P = (value a + value b) % P ∧ InBounds (add a b) := by
  obtain ⟨k, _, h, hb⟩ := add_exact a b ha hb
  exact ⟨by rw [← h, add_mul_twoP_mod], hb⟩

theorem subLimb29_spec (ai bi zi c : U32) (ha : ai.toNat < 2 ^ 30) (hb : bi.toNat < 2 ^ 30)
    (hz : 2 ^ 30 ≤ zi.toNat) (hz' : zi.toNat ≤ 2 ^ 31 + 1024) (hc : c.toNat ≤ 6) :
    (subLimb29 ai bi zi c).1.toNat + 2 ^ 29 * (subLimb29 ai bi zi c).2.toNat
      = ai.toNat + zi.toNat - bi.toNat + c.toNat ∧
    (subLimb29 ai bi zi c).1.toNat < 2 ^ 29 ∧ (subLimb29 ai bi zi c).2.toNat ≤ 6 := by
  unfold subLimb29
  dsimp only
  have s := split29 (ai - bi + zi + c)
  have e : (ai - bi + zi + c).toNat = ai.toNat + zi.toNat - bi.toNat + c.toNat := by
    rw [add32, add32, sub32]
    have := lt32 ai
    omega
  rw [e] at s
  omega

theorem subLimb28_spec (ai bi zi c : U32) (ha : ai.toNat < 2 ^ 29) (hb : bi.toNat < 2 ^ 29)
    (hz : 2 ^ 29 ≤ zi.toNat) (hz' : zi.toNat ≤ 2 ^ 30) (hc : c.toNat ≤ 6) :
    (subLimb28 ai bi zi c).1.toNat + 2 ^ 28 * (subLimb28 ai bi zi c).2.toNat
      = ai.toNat + zi.toNat - bi.toNat + c.toNat ∧
    (subLimb28 ai bi zi c).1.toNat < 2 ^ 28 ∧ (subLimb28 ai bi zi c).2.toNat ≤ 6 := by
  unfold subLimb28
  dsimp only
  have s := split28 (ai - bi + zi + c)
  have e : (ai - bi + zi + c).toNat = ai.toNat + zi.toNat - bi.toNat + c.toNat := by
    rw [add32, add32, sub32]
    have := lt32 ai
    omega
  rw [e] at s
  omega

theorem value_zero31 : value zero31 = 8 * P := by decide

theorem subChain_spec (a b : Limbs) (ha : InBounds a) (hb : InBounds b) :
    value (subChain a b).1 + (subChain a b).2.toNat * 2 ^ 257 + value b = value a + 8 * P ∧
    Canon (subChain a b).1 ∧ (subChain a b).2.toNat < 8 := by
  obtain ⟨a0, a1, a2, a3, a4, a5, a6, a7, a8, rfl⟩ := exists_lit9 a
  obtain ⟨b0, b1, b2, b3, b4, b5, b6, b7, b8, rfl⟩ := exists_lit9 b
  rw [inBounds_lit] at ha hb
  obtain ⟨r0, r1, r2, r3, r4, r5, r6, r7, r8, e0, e1, e2, e3, e4, e5, e6, e7, e8, e⟩ :
      ∃ r0 r1 r2 r3 r4 r5 r6 r7 r8, r0 = subLimb29 a0 b0 0x7FFFFFF8 0 ∧ r1 = subLimb28 a1 b1 0x3FFFFFFC r0.2 ∧
        r2 = subLimb29 a2 b2 0x800003FC r1.2 ∧ r3 = subLimb28 a3 b3 0x3FFFDFFC r2.2 ∧
        r4 = subLimb29 a4 b4 0x7FFFFFFC r3.2 ∧ r5 = subLimb28 a5 b5 0x3FFFFFFC r4.2 ∧
        r6 = subLimb29 a6 b6 0x7FFFFFFC r5.2 ∧ r7 = subLimb28 a7 b7 0x37FFFFFC r6.2 ∧
        r8 = subLimb29 a8 b8 0x7FFFFFFC r7.2 ∧
        subChain #v[a0, a1, a2, a3, a4, a5, a6, a7, a8] #v[b0, b1, b2, b3, b4, b5, b6, b7, b8] =
          (#v[r0.1, r1.1, r2.1, r3.1, r4.1, r5.1, r6.1, r7.1, r8.1], r8.2) :=
    ⟨_, _, _, _, _, _, _, _, _, rfl, rfl, rfl, rfl, rfl, rfl, rfl, rfl, rfl, rfl⟩
  rw [e]; clear e
  have h0 := subLimb29_spec a0 b0 0x7FFFFFF8 0 ha.1 hb.1 (by decide) (by decide) (by decide); rw [← e0] at h0
  have h1 := subLimb28_spec a1 b1 0x3FFFFFFC r0.2 ha.2.1 hb.2.1 (by decide) (by decide) h0.2.2; rw [← e1] at h1
  have h2 := subLimb29_spec a2 b2 0x800003FC r1.2 ha.2.2.1 hb.2.2.1 (by decide) (by decide) h1.2.2; rw [← e2] at h2
  have h3 := subLimb28_spec a3 b3 0x3FFFDFFC r2.2 ha.2.2.2.1 hb.2.2.2.1 (by decide) (by decide) h2.2.2; rw [← e3] at h3
  have h4 := subLimb29_spec a4 b4 0x7FFFFFFC r3.2 ha.2.2.2.2.1 hb.2.2.2.2.1 (by decide) (by decide) h3.2.2; rw [← e4] at h4
  have h5 := subLimb28_spec a5 b5 0x3FFFFFFC r4.2 ha.2.2.2.2.2.1 hb.2.2.2.2.2.1 (by decide) (by decide) h4.2.2; rw [← e5] at h5
  have h6 := subLimb29_spec a6 b6 0x7FFFFFFC r5.2 ha.2.2.2.2.2.2.1 hb.2.2.2.2.2.2.1 (by decide) (by decide) h5.2.2; rw [← e6] at h6
  have h7 := subLimb28_spec a7 b7 0x37FFFFFC r6.2 ha.2.2.2.2.2.2.2.1 hb.2.2.2.2.2.2.2.1 (by decide) (by decide) h6.2.2; rw [← e7] at h7
  have h8 := subLimb29_spec a8 b8 0x7FFFFFFC r7.2 ha.2.2.2.2.2.2.2.2 hb.2.2.2.2.2.2.2.2 (by decide) (by decide) h7.2.2; rw [← e8] at h8
  have c1 := h0.1
  have c2 := chain_step 29 28 c1 h1.1
  have c3 := chain_step 57 29 c2 h2.1
  have c4 := chain_step 86 28 c3 h3.1
  have c5 := chain_step 114 29 c4 h4.1
  have c6 := chain_step 143 28 c5 h5.1
  have c7 := chain_step 171 29 c6 h6.1
  have c8 := chain_step 200 28 c7 h7.1
  have c9 := chain_step 228 29 c8 h8.1
  have c10 : _ + 2 ^ 257 * _ = _ := c9
  refine ⟨?_, ⟨h0.2.1, h1.2.1, h2.2.1, h3.2.1, h4.2.1, h5.2.1, h6.2.1, h7.2.1, h8.2.1⟩, Nat.lt_of_le_of_lt h8.2.2 (by decide)⟩
  rw [value_lit, value_lit, value_lit, Nat.mul_comm _ (2 ^ 257), c10]
  clear c10 c9 c8 c7 c6 c5 c4 c3 c2 c1 h8 h7 h6 h5 h4 h3 h2 h1 h0 e0 e1 e2 e3 e4 e5 e6 e7 e8
  simp only [BitVec.reduceToNat, P]
  omega

/-- `sm2P256Sub`: `value (sub a b) + value b ≡ value a (mod p)`; exactly
    `value out + value b + carry·2p = value a + 8p`. -/
theorem sub_exact (a b : Limbs) (ha : InBounds a) (hb : InBounds b) :
    ∃ k, k < 8 ∧ value (sub a b) + value b + k * (2 * P) = value a + 8 * P ∧ InBounds (sub a b) := by
  obtain ⟨h1, h2, h3⟩ := subChain_spec a b ha hb
  obtain ⟨h4, h5⟩ := reduceCarry_exact (subChain a b).1 (subChain a b).2 h3 h2
  refine ⟨(subChain a b).2.toNat, h3, ?_, h5⟩
  show value (reduceCarry (subChain a b).1 (subChain a b).2) + _ + _ = _
  omega

theorem sub_ok (a b : Limbs) (ha : InBounds a) (hb : InBounds b) :
    (value (sub a b) + value b) % P = value a % P ∧ InBounds (sub a b) := by
  obtain ⟨k, _, h, hb⟩ := sub_exact a b ha hb
  exact ⟨by rw [← add_mul_twoP_mod _ k, h, Nat.add_mul_mod_self_right], hb⟩

theorem R_RInverse : R * RInverse % P = 1 := by decide

theorem low29_toNat (x : Nat) : (low29 x).toNat = x % 536870912 := by
  unfold low29
  rw [and29, BitVec.toNat_ofNat]
  omega

theorem low28_toNat (x : Nat) : (low28 x).toNat = x % 268435456 := by
  unfold low28
  rw [and28, BitVec.toNat_ofNat]
  omega

theorem fromBig_value (x : Nat) : value (fromBig x) = x * R % P ∧ Canon (fromBig x) := by
  have hlt : x * R % P < 2 ^ 256 := Nat.lt_of_lt_of_le (Nat.mod_lt _ (by decide)) (by decide)
  unfold fromBig
  rw [value_lit, canon_lit]
  simp only [low29_toNat, low28_toNat, shrN]
  rw [shlN]
  have hR : R = 2 ^ 257 := rfl
  rw [← hR]
  generalize x * R % P = X at *
  omega

theorem toBig_eq_fieldRepr (a : Limbs) : toBig a = fieldRepr a := by
  unfold toBig fieldRepr value
  simp only [shlN]
  congr 2
  omega

/-- for every x, not only x < p: FromBig reduces its argument -/
theorem fieldRepr_fromBig (x : Nat) : fieldRepr (fromBig x) = x % P := by
  unfold fieldRepr
  rw [(fromBig_value x).1, Nat.mod_mul_mod, Nat.mul_assoc, Nat.mul_mod, R_RInverse, Nat.mul_one, Nat.mod_mod]

/-- `sm2P256ToBig(sm2P256FromBig(x)) = x` for x < p, the limbs are canonical (29/28 bits) and their
    value is `x·R mod p` -/
theorem fromBig_toBig (x : Nat) (hx : x < P) :
    toBig (fromBig x) = x ∧ value (fromBig x) % P = x * R % P ∧ Canon (fromBig x) := by
  obtain ⟨hv, hc⟩ := fromBig_value x
  refine ⟨?_, ?_, hc⟩
  · rw [toBig_eq_fieldRepr, fieldRepr_fromBig, Nat.mod_eq_of_lt hx]
  · rw [hv, Nat.mod_mod]

end Props.C03Limbs
