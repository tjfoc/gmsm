/-
C03, limb layer: the 17 product words of `sm2P256Mul` / `sm2P256Square`.  Each word is a sum of at most nine
products of limbs below 2^30, some doubled or quadrupled; `Fits` carries the value of a 64-bit expression together
with a bound, so that absence of overflow is checked term by term.
-/
import Gmsm.Props.C03Limbs.Basic
import Mathlib.Tactic.Ring
namespace Props.C03Limbs
set_option exponentiation.threshold 600
open Model.P256Limbs

theorem u64_toNat (x : U32) : (u64 x).toNat = x.toNat := by
  unfold u64
  rw [BitVec.toNat_setWidth]
  have := lt32 x
  omega

/-- the 17 integer sums Σ_{i+j=k} a_i·b_j (doubled when i and j are both odd) -/
def mulNat (a b : Limbs) : List Nat :=
  [(a[0].toNat * b[0].toNat),
   (a[0].toNat * b[1].toNat) + (a[1].toNat * b[0].toNat),
   (a[0].toNat * b[2].toNat) + 2 * (a[1].toNat * b[1].toNat) + (a[2].toNat * b[0].toNat),
   (a[0].toNat * b[3].toNat) + (a[1].toNat * b[2].toNat) + (a[2].toNat * b[1].toNat) + (a[3].toNat * b[0].toNat),
   (a[0].toNat * b[4].toNat) + 2 * (a[1].toNat * b[3].toNat) + (a[2].toNat * b[2].toNat) + 2 * (a[3].toNat * b[1].toNat) + (a[4].toNat * b[0].toNat),
   (a[0].toNat * b[5].toNat) + (a[1].toNat * b[4].toNat) + (a[2].toNat * b[3].toNat) + (a[3].toNat * b[2].toNat) + (a[4].toNat * b[1].toNat) + (a[5].toNat * b[0].toNat),
   (a[0].toNat * b[6].toNat) + 2 * (a[1].toNat * b[5].toNat) + (a[2].toNat * b[4].toNat) + 2 * (a[3].toNat * b[3].toNat) + (a[4].toNat * b[2].toNat) + 2 * (a[5].toNat * b[1].toNat) + (a[6].toNat * b[0].toNat),
   (a[0].toNat * b[7].toNat) + (a[1].toNat * b[6].toNat) + (a[2].toNat * b[5].toNat) + (a[3].toNat * b[4].toNat) + (a[4].toNat * b[3].toNat) + (a[5].toNat * b[2].toNat) + (a[6].toNat * b[1].toNat) + (a[7].toNat * b[0].toNat),
   (a[0].toNat * b[8].toNat) + 2 * (a[1].toNat * b[7].toNat) + (a[2].toNat * b[6].toNat) + 2 * (a[3].toNat * b[5].toNat) + (a[4].toNat * b[4].toNat) + 2 * (a[5].toNat * b[3].toNat) + (a[6].toNat * b[2].toNat) + 2 * (a[7].toNat * b[1].toNat) + (a[8].toNat * b[0].toNat),
   (a[1].toNat * b[8].toNat) + (a[2].toNat * b[7].toNat) + (a[3].toNat * b[6].toNat) + (a[4].toNat * b[5].toNat) + (a[5].toNat * b[4].toNat) + (a[6].toNat * b[3].toNat) + (a[7].toNat * b[2].toNat) + (a[8].toNat * b[1].toNat),
   (a[2].toNat * b[8].toNat) + 2 * (a[3].toNat * b[7].toNat) + (a[4].toNat * b[6].toNat) + 2 * (a[5].toNat * b[5].toNat) + (a[6].toNat * b[4].toNat) + 2 * (a[7].toNat * b[3].toNat) + (a[8].toNat * b[2].toNat),
   (a[3].toNat * b[8].toNat) + (a[4].toNat * b[7].toNat) + (a[5].toNat * b[6].toNat) + (a[6].toNat * b[5].toNat) + (a[7].toNat * b[4].toNat) + (a[8].toNat * b[3].toNat),
   (a[4].toNat * b[8].toNat) + 2 * (a[5].toNat * b[7].toNat) + (a[6].toNat * b[6].toNat) + 2 * (a[7].toNat * b[5].toNat) + (a[8].toNat * b[4].toNat),
   (a[5].toNat * b[8].toNat) + (a[6].toNat * b[7].toNat) + (a[7].toNat * b[6].toNat) + (a[8].toNat * b[5].toNat),
   (a[6].toNat * b[8].toNat) + 2 * (a[7].toNat * b[7].toNat) + (a[8].toNat * b[6].toNat),
   (a[7].toNat * b[8].toNat) + (a[8].toNat * b[7].toNat),
   (a[8].toNat * b[8].toNat)]

/-- the 17 integer sums of `sm2P256Square` (cross terms doubled once more) -/
def squareNat (a : Limbs) : List Nat :=
  let a0 := a[0].toNat; let a1 := a[1].toNat; let a2 := a[2].toNat; let a3 := a[3].toNat; let a4 := a[4].toNat
  let a5 := a[5].toNat; let a6 := a[6].toNat; let a7 := a[7].toNat; let a8 := a[8].toNat
  [a0 * a0,
   2 * (a0 * a1),
   2 * (a0 * a2) + 2 * (a1 * a1),
   2 * (a0 * a3) + 2 * (a1 * a2),
   2 * (a0 * a4) + 4 * (a1 * a3) + a2 * a2,
   2 * (a0 * a5) + 2 * (a1 * a4) + 2 * (a2 * a3),
   2 * (a0 * a6) + 4 * (a1 * a5) + 2 * (a2 * a4) + 2 * (a3 * a3),
   2 * (a0 * a7) + 2 * (a1 * a6) + 2 * (a2 * a5) + 2 * (a3 * a4),
   2 * (a0 * a8) + 4 * (a1 * a7) + 2 * (a2 * a6) + 4 * (a3 * a5) + a4 * a4,
   2 * (a1 * a8) + 2 * (a2 * a7) + 2 * (a3 * a6) + 2 * (a4 * a5),
   2 * (a2 * a8) + 4 * (a3 * a7) + 2 * (a4 * a6) + 2 * (a5 * a5),
   2 * (a3 * a8) + 2 * (a4 * a7) + 2 * (a5 * a6),
   2 * (a4 * a8) + 4 * (a5 * a7) + a6 * a6,
   2 * (a5 * a8) + 2 * (a6 * a7),
   2 * (a6 * a8) + 2 * (a7 * a7),
   2 * (a7 * a8),
   a8 * a8]

/-- the words `sm2P256ReduceDegree` tolerates: the top word below 2^60 (all others arbitrary) -/
def LargeOK (b : Large) : Prop := b[16].toNat < 2 ^ 60
instance (b : Large) : Decidable (LargeOK b) := by unfold LargeOK; infer_instance

theorem InBounds.lt {a : Limbs} (h : InBounds a) (i : Nat) (hi : i < 9) : a[i].toNat < 2 ^ 30 := by
  unfold InBounds at h
  match i, hi with
  | 0, _ | 1, _ | 2, _ | 3, _ | 4, _ | 5, _ | 6, _ | 7, _ | 8, _ => omega

/-- the 64-bit word `p` holds the natural number `v` (no wrap-around), and `v ≤ B` -/
def Fits (p : U64) (v B : Nat) : Prop := p.toNat = v ∧ v ≤ B

theorem Fits.add {p q : U64} {v v' B B' : Nat} (hp : Fits p v B) (hq : Fits q v' B') (h : B + B' < 2 ^ 64) :
    Fits (p + q) (v + v') (B + B') := by
  obtain ⟨hp, _⟩ := hp
  obtain ⟨hq, _⟩ := hq
  refine ⟨?_, by omega⟩
  rw [BitVec.toNat_add, hp, hq]
  omega

theorem Fits.shl {a b : Limbs} (ha : InBounds a) (hb : InBounds b) (s : Nat) (hs : s ≤ 2) (i j : Nat) (hi : i < 9)
    (hj : j < 9) : Fits (u64 a[i] * (u64 b[j] <<< s)) (2 ^ s * (a[i].toNat * b[j].toNat)) (2 ^ s * 2 ^ 60) := by
  have hx := ha.lt i hi
  have hy := hb.lt j hj
  have hp : a[i].toNat * b[j].toNat ≤ 2 ^ 30 * 2 ^ 30 := Nat.mul_le_mul (Nat.le_of_lt hx) (Nat.le_of_lt hy)
  have h2 : 2 ^ s ≤ 2 ^ 2 := Nat.pow_le_pow_right (by decide) hs
  have hm : 2 ^ s * (a[i].toNat * b[j].toNat) ≤ 2 ^ s * 2 ^ 60 := Nat.mul_le_mul_left _ hp
  have hs4 : 2 ^ s * 2 ^ 60 ≤ 2 ^ 2 * 2 ^ 60 := Nat.mul_le_mul_right _ h2
  refine ⟨?_, hm⟩
  have hy' : 2 ^ s * b[j].toNat ≤ 2 ^ 2 * 2 ^ 30 := Nat.mul_le_mul h2 (Nat.le_of_lt hy)
  have e : (u64 b[j] <<< s).toNat = 2 ^ s * b[j].toNat := by
    rw [BitVec.toNat_shiftLeft, shlN, u64_toNat, Nat.mul_comm, Nat.mod_eq_of_lt (by omega)]
  rw [BitVec.toNat_mul, e, u64_toNat, Nat.mul_left_comm, Nat.mod_eq_of_lt (by omega)]

section
variable {a b : Limbs} (ha : InBounds a) (hb : InBounds b) {i j : Nat} {hi : i < 9} {hj : j < 9}
include ha hb

theorem Fits.shl0 : Fits (u64 a[i] * (u64 b[j] <<< 0)) (a[i].toNat * b[j].toNat) (2 ^ 60) := by
  have h := Fits.shl ha hb 0 (by decide) i j hi hj
  rwa [Nat.pow_zero, Nat.one_mul, Nat.one_mul] at h
theorem Fits.mul : Fits (u64 a[i] * u64 b[j]) (a[i].toNat * b[j].toNat) (2 ^ 60) := by
  have h := Fits.shl0 ha hb (hi := hi) (hj := hj)
  rwa [BitVec.shiftLeft_zero] at h
theorem Fits.shl1 : Fits (u64 a[i] * (u64 b[j] <<< 1)) (2 * (a[i].toNat * b[j].toNat)) (2 ^ 61) :=
  Fits.shl ha hb 1 (by decide) i j hi hj
theorem Fits.shl2 : Fits (u64 a[i] * (u64 b[j] <<< 2)) (4 * (a[i].toNat * b[j].toNat)) (2 ^ 62) :=
  Fits.shl ha hb 2 (by decide) i j hi hj

end

theorem Fits.cons {p : U64} {v B : Nat} {l : List U64} {m : List Nat} (hp : Fits p v B)
    (h : l.map (·.toNat) = m) : (p :: l).map (·.toNat) = v :: m := by
  rw [List.map_cons, hp.1, h]

/-- the weighted sum of 17 words (`valueLarge` on the list of their values) -/
def valueNats : List Nat → Nat
  | [n0, n1, n2, n3, n4, n5, n6, n7, n8, n9, n10, n11, n12, n13, n14, n15, n16] =>
    n0 + n1 * 2 ^ 29 + n2 * 2 ^ 57 + n3 * 2 ^ 86 + n4 * 2 ^ 114 + n5 * 2 ^ 143 + n6 * 2 ^ 171 + n7 * 2 ^ 200
    + n8 * 2 ^ 228 + n9 * 2 ^ 257 + n10 * 2 ^ 285 + n11 * 2 ^ 314 + n12 * 2 ^ 342 + n13 * 2 ^ 371 + n14 * 2 ^ 399
    + n15 * 2 ^ 428 + n16 * 2 ^ 456
  | _ => 0

theorem valueLarge_eq (w : Large) : valueLarge w = valueNats (w.toList.map (·.toNat)) := by
  obtain ⟨w0, w1, w2, w3, w4, w5, w6, w7, w8, w9, w10, w11, w12, w13, w14, w15, w16, rfl⟩ := exists_lit17 w
  rfl

/-- the schoolbook identity: the 17 column sums, weighted, are the product of the two values -/
theorem valueNats_mulNat (a b : Limbs) : valueNats (mulNat a b) = value a * value b := by
  simp only [valueNats, mulNat, value]
  ring

/-- Derives `[p₀, …, p₁₆].map (·.toNat) = [v₀, …, v₁₆]` for sums of limb products `pₖ`, following their syntax: every
    goal that comes up has the shape of the conclusion of exactly one of the rules above (`Fits.cons` per word,
    `Fits.add` per `+`, one of the four product rules per product), or is the sum of literal bounds `Fits.add` asks
    to be below 2^64, which `decide` checks. -/
macro "fits " ha:term ", " hb:term : tactic =>
  `(tactic| repeat
      (first | with_reducible apply Fits.cons | with_reducible apply Fits.add |
        with_reducible exact Fits.shl0 $ha $hb | with_reducible exact Fits.shl1 $ha $hb |
        with_reducible exact Fits.shl2 $ha $hb | with_reducible exact Fits.mul $ha $hb |
        with_reducible exact List.map_nil | decide))

/-- `sm2P256Mul`'s 17 product words: under the input bounds every 64-bit word is the exact integer sum
    (no 64-bit overflow), the weighted sum is `value a * value b`, and the top word is below 2^60 -/
theorem mul_large_ok (a b : Limbs) (ha : InBounds a) (hb : InBounds b) :
    (mulLarge a b).toList.map (·.toNat) = mulNat a b ∧
    valueLarge (mulLarge a b) = value a * value b ∧ LargeOK (mulLarge a b) := by
  have h : (mulLarge a b).toList.map (·.toNat) = mulNat a b := by
    unfold mulLarge mulNat
    dsimp only [Vector.toList_mk]
    fits ha, hb
  refine ⟨h, by rw [valueLarge_eq, h, valueNats_mulNat], ?_⟩
  show (u64 a[8] * (u64 b[8] <<< 0)).toNat < 2 ^ 30 * 2 ^ 30
  rw [(Fits.shl0 ha hb).1]
  exact Nat.mul_lt_mul'' (ha.lt 8 (by decide)) (hb.lt 8 (by decide))

theorem valueNats_squareNat (a : Limbs) : valueNats (squareNat a) = value a * value a := by
  simp only [valueNats, squareNat, value]
  ring

/-- the same for `sm2P256Square` -/
theorem square_large_ok (a : Limbs) (ha : InBounds a) :
    (squareLarge a).toList.map (·.toNat) = squareNat a ∧
    valueLarge (squareLarge a) = value a * value a ∧ LargeOK (squareLarge a) := by
  have h : (squareLarge a).toList.map (·.toNat) = squareNat a := by
    unfold squareLarge squareNat
    dsimp only [Vector.toList_mk]
    fits ha, ha
  refine ⟨h, by rw [valueLarge_eq, h, valueNats_squareNat], ?_⟩
  show (u64 a[8] * u64 a[8]).toNat < 2 ^ 30 * 2 ^ 30
  rw [(Fits.mul ha ha).1]
  exact Nat.mul_lt_mul'' (ha.lt 8 (by decide)) (ha.lt 8 (by decide))

end Props.C03Limbs
