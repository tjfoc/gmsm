/-
C03, limb layer: one iteration of the elimination loop of `sm2P256ReduceDegree` on a window of ten words
(`rdEven`, `rdOdd` and the nested conditionals they are made of): the weighted sum of the window grows by x·p, the
first word becomes 0, no word wraps around, and the bounds on the window that make this so (`WinOK`) hold again for
the window one place further on.
-/
import Gmsm.Props.C03Limbs.Basic
namespace Props.C03Limbs
set_option exponentiation.threshold 600
open Model.P256Limbs

theorem lt_iff32 (x y : U32) : x < y ↔ x.toNat < y.toNat := BitVec.lt_def

theorem shl_and29 (x : U32) (k : Nat) (hk : k ≤ 29) :
    ((x <<< k) &&& bottom29Bits).toNat = x.toNat % 2 ^ (29 - k) * 2 ^ k := by
  have e : (536870912 : Nat) = 2 ^ (29 - k) * 2 ^ k := by rw [← Nat.pow_add, Nat.sub_add_cancel hk]
  rw [and29, shl32, Nat.mod_mod_of_dvd _ (by decide : 536870912 ∣ 4294967296), e, Nat.mul_mod_mul_right]
theorem shl_and28 (x : U32) (k : Nat) (hk : k ≤ 28) :
    ((x <<< k) &&& bottom28Bits).toNat = x.toNat % 2 ^ (28 - k) * 2 ^ k := by
  have e : (268435456 : Nat) = 2 ^ (28 - k) * 2 ^ k := by rw [← Nat.pow_add, Nat.sub_add_cancel hk]
  rw [and28, shl32, Nat.mod_mod_of_dvd _ (by decide : 268435456 ∣ 4294967296), e, Nat.mul_mod_mul_right]

theorem shl10_and28 (x : U32) : ((x <<< 10) &&& bottom28Bits).toNat = x.toNat % 262144 * 1024 :=
  shl_and28 x 10 (by decide)

/-- exact (no wrap-around) evaluation of a 32-bit expression: every `+` is shown not to overflow and every
    `-` not to underflow (side conditions by `omega` from the hypotheses in context) -/
syntax "bvexact" : tactic
macro_rules
  | `(tactic| bvexact) =>
    `(tactic| simp (disch := (first | omega | (bvexact; omega))) only [shl_and29, shl_and28, and_ones, add_nw, sub_nw,
        shr32, BitVec.reduceToNat, Nat.reduceSub, Nat.reducePow])

/-- `if tmp[i+3] < 0x10000000 …` of the even half -/
theorem evA_spec (x t3 : U32) (c : Nat) (ht : t3.toNat ≤ c) (hlo : 1073741823 ≤ c)
    (hhi : c ≤ 3221225472) :
    (evA x 0xffffffff t3).1.toNat + (x.toNat % 262144) * 1024 = t3.toNat + 268435456 * (evA x 0xffffffff t3).2.toNat ∧
    (evA x 0xffffffff t3).2.toNat ≤ 1 ∧ (evA x 0xffffffff t3).1.toNat ≤ c := by
  unfold evA
  split
  · rename_i h
    rw [lt_iff32] at h
    bv32 at h
    bvexact
    omega
  · rename_i h
    rw [lt_iff32] at h
    bv32 at h
    bvexact
    omega

/-- `if tmp[i+4] < 0x20000000 …` of the even half (borrow chain through tmp[i+5], tmp[i+6]) -/
theorem evB_spec (x set4 t4 t5 t6 : U32) (c4 c5 c6 : Nat) (hs : set4.toNat ≤ 1)
    (h4 : t4.toNat ≤ c4) (h5 : t5.toNat ≤ c5) (h6 : t6.toNat ≤ c6)
    (l4 : 1073741823 ≤ c4) (l5 : 1073741823 ≤ c5) (l6 : 1073741823 ≤ c6)
    (u4 : c4 ≤ 3221225472) (u5 : c5 ≤ 3221225472) (u6 : c6 ≤ 3221225472) :
    let r := evB x 0xffffffff set4 t4 t5 t6
    r.1.toNat + 536870912 * r.2.1.toNat + 144115188075855872 * r.2.2.1.toNat + set4.toNat + x.toNat / 262144
      = t4.toNat + 536870912 * t5.toNat + 144115188075855872 * t6.toNat
        + 77371252455336267181195264 * r.2.2.2.toNat ∧
    r.2.2.2.toNat ≤ 1 ∧ r.1.toNat ≤ c4 ∧ r.2.1.toNat ≤ c5 ∧ r.2.2.1.toNat ≤ c6 := by
  intro r
  have hr : r = evB x 0xffffffff set4 t4 t5 t6 := rfl
  clear_value r
  unfold evB at hr
  split at hr
  · rename_i a4
    rw [lt_iff32] at a4; bv32 at a4
    split at hr
    · rename_i a5
      rw [lt_iff32] at a5; bv32 at a5
      split at hr
      · rename_i a6
        rw [lt_iff32] at a6; bv32 at a6
        subst hr
        bvexact
        omega
      · rename_i a6
        rw [lt_iff32] at a6; bv32 at a6
        subst hr
        bvexact
        omega
    · rename_i a5
      rw [lt_iff32] at a5; bv32 at a5
      subst hr
      bvexact
      omega
  · rename_i a4
    rw [lt_iff32] at a4; bv32 at a4
    subst hr
    bvexact
    omega

theorem borrow8_true (x t8 t9 : U32) :
    borrow8 true x t8 t9 = true ↔ (t8.toNat < 536870912 ∧ (1 < x.toNat ∨ t9.toNat ≠ 0)) := by
  unfold borrow8
  have e9 : (t9 != 0) = true ↔ t9.toNat ≠ 0 := by
    rw [bne_iff_ne, ne_eq, ne_eq, ← BitVec.toNat_inj]
    rfl
  have e8 : (t8 < 0x20000000) ↔ t8.toNat < 536870912 := lt_iff32 _ _
  have ex : (x > 1) ↔ 1 < x.toNat := lt_iff32 _ _
  simp only [if_true, Bool.and_eq_true, Bool.or_eq_true, decide_eq_true_eq, e9, e8, ex]

/-- the `tmp[i+8]`, `tmp[i+9]` lines of `evC`, the same in both branches of the test on `tmp[i+7]` except for the
    borrow `b` that the first branch takes from `tmp[i+8]` (`f` is `· - 1` there and the identity in the other) -/
theorem evC_tail (f : U32 → U32) (b : Nat) (hf : ∀ y : U32, b ≤ y.toNat → (f y).toNat = y.toNat - b) (hb : b ≤ 1)
    (x t7 t8 t9 : U32) (c8 c9 : Nat) (hx : x.toNat < 536870912) (hx0 : 0 < x.toNat)
    (h8 : t8.toNat ≤ c8) (h9 : t9.toNat ≤ c9) (l8 : 1073741823 ≤ c8) (u8 : c8 ≤ 3221225472) (u9 : c9 ≤ 3221225472)
    (r : U32 × U32 × U32)
    (hr : r = if borrow8 true x (t8 + (x <<< 28 &&& bottom29Bits)) t9 = true
      then (t7, f (t8 + (x <<< 28 &&& bottom29Bits) + (0x20000000 &&& 0xffffffff)) - x >>> 4,
        t9 + (x >>> 1 - 1 &&& 0xffffffff))
      else (t7, f (t8 + (x <<< 28 &&& bottom29Bits)) - x >>> 4, t9 + (x >>> 1 &&& 0xffffffff))) :
    r.1 = t7 ∧
    r.2.1.toNat + 536870912 * r.2.2.toNat + b + x.toNat / 16 = t8.toNat + 536870912 * t9.toNat + 268435456 * x.toNat ∧
    r.2.1.toNat ≤ c8 + 268435456 ∧ r.2.2.toNat ≤ c9 + 268435455 := by
  have hu : (t8 + (x <<< 28 &&& bottom29Bits)).toNat = t8.toNat + x.toNat % 2 * 268435456 := by bvexact
  generalize t8 + (x <<< 28 &&& bottom29Bits) = w at hu hr
  split at hr
  · rename_i a8
    rw [borrow8_true] at a8
    subst hr
    have e1 : (w + (0x20000000 &&& 0xffffffff)).toNat = w.toNat + 536870912 := by bvexact
    have e2 := hf (w + (0x20000000 &&& 0xffffffff)) (by omega)
    have e3 : (f (w + (0x20000000 &&& 0xffffffff)) - x >>> 4).toNat
        = (f (w + (0x20000000 &&& 0xffffffff))).toNat - x.toNat / 16 := by
      rw [sub_nw, shr32]
      · rfl
      · rw [shr32]; omega
    have e4 : (t9 + (x >>> 1 - 1 &&& 0xffffffff)).toNat + 1 = t9.toNat + x.toNat / 2 := by
      by_cases hx1 : 1 < x.toNat
      · have : (t9 + (x >>> 1 - 1 &&& 0xffffffff)).toNat = t9.toNat + (x.toNat / 2 - 1) := by bvexact
        omega
      · have hx1 : x = 1 := by
          apply BitVec.eq_of_toNat_eq
          show x.toNat = 1
          omega
        subst hx1
        have e : ((1 : U32) >>> 1 - 1 &&& 0xffffffff) = 0xffffffff := by decide
        simp only [BitVec.reduceToNat] at a8
        rw [e, add32]
        simp only [BitVec.reduceToNat]
        have := lt32 t9
        omega
    dsimp only
    exact ⟨rfl, by omega⟩
  · rename_i a8
    rw [borrow8_true] at a8
    subst hr
    have e2 := hf w (by omega)
    have e3 : (f w - x >>> 4).toNat = (f w).toNat - x.toNat / 16 := by
      rw [sub_nw, shr32]
      · rfl
      · rw [shr32]; omega
    have e4 : (t9 + (x >>> 1 &&& 0xffffffff)).toNat = t9.toNat + x.toNat / 2 := by bvexact
    dsimp only
    exact ⟨rfl, by omega⟩

/-- `if tmp[i+7] < 0x10000000 …` of the even half, REPAIRED source: the borrow from tmp[i+9] is taken only
    when it cannot wrap, so all three words stay exact -/
theorem evC_spec (x set7 t7 t8 t9 : U32) (c7 c8 c9 : Nat) (hx : x.toNat < 536870912) (hx0 : 0 < x.toNat)
    (hs : set7.toNat ≤ 1) (h7 : t7.toNat ≤ c7) (h8 : t8.toNat ≤ c8) (h9 : t9.toNat ≤ c9)
    (l7 : 1073741823 ≤ c7) (l8 : 1073741823 ≤ c8)
    (u7 : c7 ≤ 3221225472) (u8 : c8 ≤ 3221225472) (u9 : c9 ≤ 3221225472) :
    let r := evC true x 0xffffffff set7 t7 t8 t9
    r.1.toNat + 268435456 * r.2.1.toNat + 144115188075855872 * r.2.2.toNat + set7.toNat
        + (x.toNat % 16) * 16777216 + 268435456 * (x.toNat / 16)
      = t7.toNat + 268435456 * t8.toNat + 144115188075855872 * t9.toNat
        + 72057594037927936 * x.toNat ∧
    r.1.toNat ≤ c7 ∧ r.2.1.toNat ≤ c8 + 268435456 ∧ r.2.2.toNat ≤ c9 + 268435455 := by
  intro r
  have hr : r = evC true x 0xffffffff set7 t7 t8 t9 := rfl
  clear_value r
  unfold evC at hr
  split at hr
  · rename_i a7
    rw [lt_iff32] at a7; bv32 at a7
    dsimp only at hr
    obtain ⟨e7, hT⟩ := evC_tail (· - 1) 1 (fun y hy => sub_nw y 1 hy) (Nat.le_refl 1) x _ t8 t9 c8 c9 hx hx0 h8 h9 l8
      u8 u9 r hr
    rw [e7]
    bvexact
    omega
  · rename_i a7
    rw [lt_iff32] at a7; bv32 at a7
    dsimp only at hr
    obtain ⟨e7, hT⟩ := evC_tail id 0 (fun y _ => rfl) (Nat.zero_le 1) x _ t8 t9 c8 c9 hx hx0 h8 h9 l8 u8 u9 r hr
    rw [e7]
    bvexact
    omega

/-- weighted sum of a window starting at an even position (limb widths 29,28,29,…) -/
def winValE (w : Win) : Nat :=
  w.t0.toNat + w.t1.toNat * 2 ^ 29 + w.t2.toNat * 2 ^ 57 + w.t3.toNat * 2 ^ 86 + w.t4.toNat * 2 ^ 114
  + w.t5.toNat * 2 ^ 143 + w.t6.toNat * 2 ^ 171 + w.t7.toNat * 2 ^ 200 + w.t8.toNat * 2 ^ 228 + w.t9.toNat * 2 ^ 257

/-- weighted sum of a window starting at an odd position (limb widths 28,29,28,…) -/
def winValO (w : Win) : Nat :=
  w.t0.toNat + w.t1.toNat * 2 ^ 28 + w.t2.toNat * 2 ^ 57 + w.t3.toNat * 2 ^ 85 + w.t4.toNat * 2 ^ 114
  + w.t5.toNat * 2 ^ 142 + w.t6.toNat * 2 ^ 171 + w.t7.toNat * 2 ^ 199 + w.t8.toNat * 2 ^ 228 + w.t9.toNat * 2 ^ 256

theorem gt_iff32 (x : U32) : x > 0 ↔ 0 < x.toNat := by
  show (0 : U32) < x ↔ _
  rw [lt_iff32]
  rfl

/-- Bounds on the nine words after the one an elimination step clears, valid before every step: 2^30 - 1 for a word
    no step has touched, plus what the steps at the eight positions before it can have added (at most 2^28 - 1, 2^28,
    127, 2^29 - 128 at distance 9, 8, 3, 2); `c` bounds the word that has just entered the window. -/
def WinOK (c : Nat) (w : Win) : Prop :=
  w.t1.toNat ≤ 2147483645 ∧ w.t2.toNat ≤ 1610612861 ∧ w.t3.toNat ≤ 1610612734 ∧ w.t4.toNat ≤ 1610612734 ∧
  w.t5.toNat ≤ 1610612734 ∧ w.t6.toNat ≤ 1610612734 ∧ w.t7.toNat ≤ 1610612734 ∧ w.t8.toNat ≤ 1342177278 ∧
  w.t9.toNat ≤ c

/-- One elimination step at an even position (repaired source): the low 29 bits x of the first word are cleared by
    adding x·p; no word wraps around, and the words, read one place further down, are within `WinOK` again. -/
theorem rdEven_spec {w : Win} {c : Nat} (ok : WinOK c w) (hc : c ≤ 2147483903) :
    winValE (rdEven true w) = winValE w + (w.t0.toNat % 2 ^ 29) * P ∧
    (rdEven true w).t0.toNat = 0 ∧ (rdEven true w).t1.toNat ≤ 2147483660 ∧ (rdEven true w).t2.toNat ≤ 2147483645 ∧
    (rdEven true w).t3.toNat ≤ 1610612861 ∧ (rdEven true w).t4.toNat ≤ 1610612734 ∧
    (rdEven true w).t5.toNat ≤ 1610612734 ∧ (rdEven true w).t6.toNat ≤ 1610612734 ∧
    (rdEven true w).t7.toNat ≤ 1610612734 ∧ (rdEven true w).t8.toNat ≤ 1610612734 ∧
    (rdEven true w).t9.toNat ≤ c + 268435455 := by
  obtain ⟨h1, h2, h3, h4, h5, h6, h7, h8, h9⟩ := ok
  obtain ⟨t0, t1, t2, t3, t4, t5, t6, t7, t8, t9⟩ := w
  dsimp only at h1 h2 h3 h4 h5 h6 h7 h8 h9 ⊢
  have hx : (t0 &&& bottom29Bits).toNat = t0.toNat % 536870912 := and29 t0
  have ht0 := lt32 t0
  have e1 : (t1 + t0 >>> 29).toNat = t1.toNat + t0.toNat / 536870912 := by bvexact
  have le1 : t1.toNat + t0.toNat / 536870912 ≤ 2147483660 := by omega
  have z : (0 : U32).toNat = 0 := rfl
  unfold rdEven
  dsimp only
  generalize t0 &&& bottom29Bits = x at hx ⊢
  split
  · rename_i hpos
    rw [gt_iff32] at hpos
    have hx' : x.toNat < 536870912 := by omega
    rw [nz_ones x hpos (Nat.le_trans (Nat.le_of_lt hx') (by decide))]
    have e2 : (t2 + (x <<< 7 &&& bottom29Bits)).toNat = t2.toNat + x.toNat % 4194304 * 128 := by bvexact
    have le2 : t2.toNat + x.toNat % 4194304 * 128 ≤ 2147483645 := by omega
    have h3' : (t3 + x >>> 22).toNat = t3.toNat + x.toNat / 4194304 := by bvexact
    have hA := evA_spec x (t3 + x >>> 22) 1610612861 (by omega) (by decide) (by decide)
    rw [h3'] at hA
    generalize evA x 0xffffffff (t3 + x >>> 22) = a at hA ⊢
    obtain ⟨a1, a2⟩ := a
    dsimp only at hA ⊢
    have hB := evB_spec x a2 t4 t5 t6 1610612734 1610612734 1610612734 hA.2.1 h4 h5 h6 (by decide) (by decide) (by decide)
      (by decide) (by decide) (by decide)
    generalize evB x 0xffffffff a2 t4 t5 t6 = b at hB ⊢
    obtain ⟨b1, b2, b3, b4⟩ := b
    dsimp only at hB ⊢
    have hC := evC_spec x b4 t7 t8 t9 1610612734 1342177278 c hx' hpos hB.2.1 h7 h8 h9 (by decide) (by decide) (by decide)
      (by decide) (Nat.le_trans hc (by decide))
    generalize evC true x 0xffffffff b4 t7 t8 t9 = c at hC ⊢
    obtain ⟨d1, d2, d3⟩ := c
    dsimp only at hC ⊢
    simp only [winValE, e1, e2, P]
    obtain ⟨hA1, hA2, hA3⟩ := hA
    obtain ⟨hB1, hB2, hB3, hB4, hB5⟩ := hB
    obtain ⟨hC1, hC2, hC3, hC4⟩ := hC
    refine ⟨?_, z, le1, le2, hA3, hB3, hB4, hB5, hC2, hC3, hC4⟩
    rw [z]
    omega
  · rename_i hpos
    rw [gt_iff32] at hpos
    simp only [winValE, e1, P]
    refine ⟨?_, z, le1, ?_, ?_, h4, h5, h6, h7, ?_, ?_⟩
    · rw [z]; omega
    all_goals omega

/-- `if tmp[i+4] < 0x20000000 …` of the odd half -/
theorem odA_spec (x t3 : U32) (c : Nat) (ht : t3.toNat ≤ c) (hlo : 1073741823 ≤ c)
    (hhi : c ≤ 3221225472) :
    (odA x 0xffffffff t3).1.toNat + (x.toNat % 262144) * 2048 = t3.toNat + 536870912 * (odA x 0xffffffff t3).2.toNat ∧
    (odA x 0xffffffff t3).2.toNat ≤ 1 ∧ (odA x 0xffffffff t3).1.toNat ≤ c := by
  unfold odA
  split
  · rename_i h
    rw [lt_iff32] at h
    bv32 at h
    bvexact
    omega
  · rename_i h
    rw [lt_iff32] at h
    bv32 at h
    bvexact
    omega

/-- `if tmp[i+5] < 0x10000000 …` of the odd half (borrow chain through tmp[i+6], tmp[i+7]) -/
theorem odB_spec (x set5 t4 t5 t6 : U32) (c4 c5 c6 : Nat) (hs : set5.toNat ≤ 1)
    (h4 : t4.toNat ≤ c4) (h5 : t5.toNat ≤ c5) (h6 : t6.toNat ≤ c6)
    (l4 : 1073741823 ≤ c4) (l5 : 1073741823 ≤ c5) (l6 : 1073741823 ≤ c6)
    (u4 : c4 ≤ 3221225472) (u5 : c5 ≤ 3221225472) (u6 : c6 ≤ 3221225472) :
    let r := odB x 0xffffffff set5 t4 t5 t6
    r.1.toNat + 268435456 * r.2.1.toNat + 144115188075855872 * r.2.2.1.toNat + set5.toNat + x.toNat / 262144
      = t4.toNat + 268435456 * t5.toNat + 144115188075855872 * t6.toNat
        + 38685626227668133590597632 * r.2.2.2.toNat ∧
    r.2.2.2.toNat ≤ 1 ∧ r.1.toNat ≤ c4 ∧ r.2.1.toNat ≤ c5 ∧ r.2.2.1.toNat ≤ c6 := by
  intro r
  have hr : r = odB x 0xffffffff set5 t4 t5 t6 := rfl
  clear_value r
  unfold odB at hr
  split at hr
  · rename_i a4
    rw [lt_iff32] at a4; bv32 at a4
    split at hr
    · rename_i a5
      rw [lt_iff32] at a5; bv32 at a5
      split at hr
      · rename_i a6
        rw [lt_iff32] at a6; bv32 at a6
        subst hr
        bvexact
        omega
      · rename_i a6
        rw [lt_iff32] at a6; bv32 at a6
        subst hr
        bvexact
        omega
    · rename_i a5
      rw [lt_iff32] at a5; bv32 at a5
      subst hr
      bvexact
      omega
  · rename_i a4
    rw [lt_iff32] at a4; bv32 at a4
    subst hr
    bvexact
    omega

/-- `if tmp[i+8] < 0x20000000 …` of the odd half -/
theorem odC_spec (x set8 t7 : U32) (c : Nat) (hs : set8.toNat ≤ 1) (ht : t7.toNat ≤ c)
    (hlo : 1073741823 ≤ c) (hhi : c ≤ 3221225472) :
    (odC x 0xffffffff set8 t7).1.toNat + set8.toNat + (x.toNat % 16) * 33554432
      = t7.toNat + 536870912 * (odC x 0xffffffff set8 t7).2.toNat ∧
    (odC x 0xffffffff set8 t7).2.toNat ≤ 1 ∧ (odC x 0xffffffff set8 t7).1.toNat ≤ c := by
  unfold odC
  split
  · rename_i h
    rw [lt_iff32] at h
    bv32 at h
    bvexact
    omega
  · rename_i h
    rw [lt_iff32] at h
    bv32 at h
    bvexact
    omega

/-- `if tmp[i+9] < 0x10000000 …` of the odd half (x ≥ 1, so `x - 1` cannot wrap) -/
theorem odD_spec (x set9 t8 t9 : U32) (c8 c9 : Nat) (hx : x.toNat < 268435456) (hx0 : 0 < x.toNat)
    (hs : set9.toNat ≤ 1) (h8 : t8.toNat ≤ c8) (h9 : t9.toNat ≤ c9) (l8 : 1073741823 ≤ c8)
    (u8 : c8 ≤ 3221225472) (u9 : c9 ≤ 3221225472) :
    (odD x 0xffffffff set9 t8 t9).1.toNat + 268435456 * (odD x 0xffffffff set9 t8 t9).2.toNat + set9.toNat
        + x.toNat / 16
      = t8.toNat + 268435456 * t9.toNat + 268435456 * x.toNat ∧
    (odD x 0xffffffff set9 t8 t9).1.toNat ≤ c8 ∧ (odD x 0xffffffff set9 t8 t9).2.toNat ≤ c9 + 268435455 := by
  unfold odD
  split
  · rename_i h
    rw [lt_iff32] at h
    bv32 at h
    bvexact
    omega
  · rename_i h
    rw [lt_iff32] at h
    bv32 at h
    bvexact
    omega

/-- One elimination step at an odd position: as `rdEven_spec` with the low 28 bits of the first word. -/
theorem rdOdd_spec {w : Win} {c : Nat} (ok : WinOK c w) (hc : c ≤ 2147483903) :
    winValO (rdOdd w) = winValO w + (w.t0.toNat % 2 ^ 28) * P ∧
    (rdOdd w).t0.toNat = 0 ∧ (rdOdd w).t1.toNat ≤ 2147483660 ∧ (rdOdd w).t2.toNat ≤ 2147483645 ∧
    (rdOdd w).t3.toNat ≤ 1610612861 ∧ (rdOdd w).t4.toNat ≤ 1610612734 ∧ (rdOdd w).t5.toNat ≤ 1610612734 ∧
    (rdOdd w).t6.toNat ≤ 1610612734 ∧ (rdOdd w).t7.toNat ≤ 1610612734 ∧ (rdOdd w).t8.toNat ≤ 1610612734 ∧
    (rdOdd w).t9.toNat ≤ c + 268435455 := by
  obtain ⟨h1, h2, h3, h4, h5, h6, h7, h8, h9⟩ := ok
  obtain ⟨t0, t1, t2, t3, t4, t5, t6, t7, t8, t9⟩ := w
  dsimp only at h1 h2 h3 h4 h5 h6 h7 h8 h9 ⊢
  have hx : (t0 &&& bottom28Bits).toNat = t0.toNat % 268435456 := and28 t0
  have ht0 := lt32 t0
  have e1 : (t1 + t0 >>> 28).toNat = t1.toNat + t0.toNat / 268435456 := by bvexact
  have le1 : t1.toNat + t0.toNat / 268435456 ≤ 2147483660 := by omega
  have z : (0 : U32).toNat = 0 := rfl
  unfold rdOdd
  dsimp only
  generalize t0 &&& bottom28Bits = x at hx ⊢
  split
  · rename_i hpos
    rw [gt_iff32] at hpos
    have hx' : x.toNat < 268435456 := by omega
    rw [nz_ones x hpos (Nat.le_trans (Nat.le_of_lt hx') (by decide))]
    have e2 : (t2 + (x <<< 7 &&& bottom28Bits)).toNat = t2.toNat + x.toNat % 2097152 * 128 := by bvexact
    have le2 : t2.toNat + x.toNat % 2097152 * 128 ≤ 2147483645 := by omega
    have h3' : (t3 + x >>> 21).toNat = t3.toNat + x.toNat / 2097152 := by bvexact
    have hA := odA_spec x (t3 + x >>> 21) 1610612861 (by omega) (by decide) (by decide)
    rw [h3'] at hA
    generalize odA x 0xffffffff (t3 + x >>> 21) = a at hA ⊢
    obtain ⟨a1, a2⟩ := a
    dsimp only at hA ⊢
    have hB := odB_spec x a2 t4 t5 t6 1610612734 1610612734 1610612734 hA.2.1 h4 h5 h6 (by decide) (by decide) (by decide)
      (by decide) (by decide) (by decide)
    generalize odB x 0xffffffff a2 t4 t5 t6 = b at hB ⊢
    obtain ⟨b1, b2, b3, b4⟩ := b
    dsimp only at hB ⊢
    have hC := odC_spec x b4 t7 1610612734 hB.2.1 h7 (by decide) (by decide)
    generalize odC x 0xffffffff b4 t7 = c at hC ⊢
    obtain ⟨d1, d2⟩ := c
    dsimp only at hC ⊢
    have hD := odD_spec x d2 t8 t9 1342177278 c hx' hpos hC.2.1 h8 h9 (by decide) (by decide) (Nat.le_trans hc (by decide))
    generalize odD x 0xffffffff d2 t8 t9 = d at hD ⊢
    obtain ⟨g1, g2⟩ := d
    dsimp only at hD ⊢
    simp only [winValO, e1, e2, P]
    obtain ⟨hA1, hA2, hA3⟩ := hA
    obtain ⟨hB1, hB2, hB3, hB4, hB5⟩ := hB
    obtain ⟨hC1, hC2, hC3⟩ := hC
    obtain ⟨hD1, hD2, hD3⟩ := hD
    refine ⟨?_, z, le1, le2, hA3, hB3, hB4, hB5, hC3, Nat.le_trans hD2 (by decide), hD3⟩
    rw [z]
    omega
  · rename_i hpos
    rw [gt_iff32] at hpos
    simp only [winValO, e1, P]
    refine ⟨?_, z, le1, ?_, ?_, h4, h5, h6, h7, ?_, ?_⟩
    · rw [z]; omega
    all_goals omega

end Props.C03Limbs
