/-
C03, limb layer: 32-bit words as natural numbers, digits and carries, the predicates on limb vectors, and
`sm2P256ReduceCarry`.
-/
import Gmsm.Model.P256Limbs
import Mathlib.Tactic.Ring
namespace Props.C03Limbs
set_option exponentiation.threshold 600
open Model.P256Limbs

/- `toNat` of the 32-bit operations, with literal moduli.  None of these is a `rfl` lemma, so that `simp only`
   rewrites with them instead of asking the kernel to unfold BitVec operations. -/

theorem add32 (x y : U32) : (x + y).toNat = (x.toNat + y.toNat) % 4294967296 := BitVec.toNat_add x y
theorem sub32 (x y : U32) : (x - y).toNat = (4294967296 - y.toNat + x.toNat) % 4294967296 := BitVec.toNat_sub x y
theorem and29 (x : U32) : (x &&& bottom29Bits).toNat = x.toNat % 536870912 := by
  simp only [bottom29Bits, BitVec.toNat_and]
  exact Nat.and_two_pow_sub_one_eq_mod x.toNat 29
theorem and28 (x : U32) : (x &&& bottom28Bits).toNat = x.toNat % 268435456 := by
  simp only [bottom28Bits, BitVec.toNat_and]
  exact Nat.and_two_pow_sub_one_eq_mod x.toNat 28
theorem shr32 (x : U32) (k : Nat) : (x >>> k).toNat = x.toNat / 2 ^ k := by
  rw [BitVec.toNat_ushiftRight, Nat.shiftRight_eq_div_pow]
theorem shl32 (x : U32) (k : Nat) : (x <<< k).toNat = x.toNat * 2 ^ k % 4294967296 := by
  rw [BitVec.toNat_shiftLeft, Nat.shiftLeft_eq]
theorem lt32 (x : U32) : x.toNat < 4294967296 := x.isLt
theorem and_ones (a : U32) : a &&& 0xffffffff = a := by
  have : (0xffffffff : U32) = BitVec.allOnes 32 := by decide
  rw [this, BitVec.and_allOnes]

theorem nz_ones (x : U32) (h1 : 0 < x.toNat) (h2 : x.toNat ≤ 2147483648) : nonZeroToAllOnes x = 0xffffffff := by
  apply BitVec.eq_of_toNat_eq
  unfold nonZeroToAllOnes
  simp only [sub32, shr32, BitVec.reduceToNat, Nat.reducePow]
  have := lt32 x
  omega

theorem nz_zero (x : U32) (h : x.toNat = 0 ∨ 2147483648 < x.toNat) : nonZeroToAllOnes x = 0 := by
  apply BitVec.eq_of_toNat_eq
  unfold nonZeroToAllOnes
  simp only [sub32, shr32, BitVec.reduceToNat, Nat.reducePow]
  have := lt32 x
  omega

/-- simp set turning a goal about `toNat` of 32-bit expressions into linear arithmetic with `/`, `%` -/
macro "bv32" : tactic =>
  `(tactic| simp only [add32, sub32, and29, and28, shr32, shl32, and_ones, BitVec.reduceToNat, Nat.reducePow])
macro "bv32" "at" h:ident : tactic =>
  `(tactic| simp only [add32, sub32, and29, and28, shr32, shl32, and_ones, BitVec.reduceToNat, Nat.reducePow] at $h:ident)

theorem shlN (a k : Nat) : a <<< k = a * 2 ^ k := Nat.shiftLeft_eq a k
theorem shrN (a k : Nat) : a >>> k = a / 2 ^ k := Nat.shiftRight_eq_div_pow a k

theorem add_nw (x y : U32) (h : x.toNat + y.toNat < 4294967296) : (x + y).toNat = x.toNat + y.toNat := by
  rw [add32]; omega
theorem sub_nw (x y : U32) (h : y.toNat ≤ x.toNat) : (x - y).toNat = x.toNat - y.toNat := by
  rw [sub32]; have := lt32 x; omega

theorem split29 (x : U32) :
    (x &&& bottom29Bits).toNat + 2 ^ 29 * (x >>> 29).toNat = x.toNat ∧ (x &&& bottom29Bits).toNat < 2 ^ 29 := by
  rw [and29, shr32]
  omega
theorem split28 (x : U32) :
    (x &&& bottom28Bits).toNat + 2 ^ 28 * (x >>> 28).toNat = x.toNat ∧ (x &&& bottom28Bits).toNat < 2 ^ 28 := by
  rw [and28, shr32]
  omega

/-- A carry chain, one digit at a time.  `P` is the weighted sum of the digits written so far, `c` what is
    waiting to be written at weight `2^n`, `Q` the weighted sum of what has been fed in.  A step that splits
    `x + c` into a digit `t` of `k` bits and a new remainder `c'` keeps `P + 2^n·c = Q`. -/
theorem chain_step {P Q c t c' x : Nat} (n k : Nat) (inv : P + 2 ^ n * c = Q) (step : t + 2 ^ k * c' = x + c) :
    (P + t * 2 ^ n) + 2 ^ (n + k) * c' = Q + x * 2 ^ n := by
  have e : 2 ^ n * (t + 2 ^ k * c') = 2 ^ n * (x + c) := by rw [step]
  rw [Nat.mul_add, Nat.mul_add, ← Nat.mul_assoc, ← Nat.pow_add, Nat.mul_comm _ t, Nat.mul_comm _ x] at e
  omega

/-- the words of `tmp` from some position on, read as one number in units of that position: the first word has
    `k` bits (29 at an even position, 28 at an odd one), the next `57 - k`, and so on; `r` stands for what follows -/
def horner : Nat → List U32 → Nat → Nat
  | _, [], r => r
  | k, x :: l, r => x.toNat + 2 ^ k * horner (57 - k) l r

/-- canonical limbs: 29 / 28 bits (what the carry chains and `sm2P256FromBig` produce) -/
def Canon (a : Limbs) : Prop :=
  a[0].toNat < 2 ^ 29 ∧ a[1].toNat < 2 ^ 28 ∧ a[2].toNat < 2 ^ 29 ∧ a[3].toNat < 2 ^ 28 ∧ a[4].toNat < 2 ^ 29 ∧
  a[5].toNat < 2 ^ 28 ∧ a[6].toNat < 2 ^ 29 ∧ a[7].toNat < 2 ^ 28 ∧ a[8].toNat < 2 ^ 29

/-- the input/output bounds of the field operations (as in the crypto/elliptic code this file was derived
    from: "in[0,2,...] < 2**30, in[1,3,...] < 2**29") -/
def InBounds (a : Limbs) : Prop :=
  a[0].toNat < 2 ^ 30 ∧ a[1].toNat < 2 ^ 29 ∧ a[2].toNat < 2 ^ 30 ∧ a[3].toNat < 2 ^ 29 ∧ a[4].toNat < 2 ^ 30 ∧
  a[5].toNat < 2 ^ 29 ∧ a[6].toNat < 2 ^ 30 ∧ a[7].toNat < 2 ^ 29 ∧ a[8].toNat < 2 ^ 30

instance (a : Limbs) : Decidable (Canon a) := by unfold Canon; infer_instance
instance (a : Limbs) : Decidable (InBounds a) := by unfold InBounds; infer_instance

theorem Canon.inBounds {a : Limbs} (h : Canon a) : InBounds a := by
  unfold Canon at h; unfold InBounds; omega

/- Limb vectors are taken apart into literals before anything is said about their entries: on a literal, `value`,
   `Canon`, `InBounds` and the operations reduce by `rfl`, whereas every `a[i]` written about a variable `a` leaves
   an index bound that is searched for in the whole context. -/

theorem exists_lit9 (a : Limbs) : ∃ a0 a1 a2 a3 a4 a5 a6 a7 a8, a = #v[a0, a1, a2, a3, a4, a5, a6, a7, a8] := by
  obtain ⟨⟨l⟩, h⟩ := a
  match l, h with
  | [a0, a1, a2, a3, a4, a5, a6, a7, a8], _ =>
    exact ⟨a0, a1, a2, a3, a4, a5, a6, a7, a8, rfl⟩

theorem exists_lit17 (b : Large) : ∃ b0 b1 b2 b3 b4 b5 b6 b7 b8 b9 b10 b11 b12 b13 b14 b15 b16, b = #v[b0, b1, b2, b3, b4, b5, b6, b7, b8, b9, b10, b11, b12, b13, b14, b15, b16] := by
  obtain ⟨⟨l⟩, h⟩ := b
  match l, h with
  | [b0, b1, b2, b3, b4, b5, b6, b7, b8, b9, b10, b11, b12, b13, b14, b15, b16], _ =>
    exact ⟨b0, b1, b2, b3, b4, b5, b6, b7, b8, b9, b10, b11, b12, b13, b14, b15, b16, rfl⟩

theorem value_lit (a0 a1 a2 a3 a4 a5 a6 a7 a8 : U32) :
    value #v[a0, a1, a2, a3, a4, a5, a6, a7, a8] =
      a0.toNat + a1.toNat * 2 ^ 29 + a2.toNat * 2 ^ 57 + a3.toNat * 2 ^ 86 + a4.toNat * 2 ^ 114
      + a5.toNat * 2 ^ 143 + a6.toNat * 2 ^ 171 + a7.toNat * 2 ^ 200 + a8.toNat * 2 ^ 228 := rfl

theorem canon_lit (a0 a1 a2 a3 a4 a5 a6 a7 a8 : U32) :
    Canon #v[a0, a1, a2, a3, a4, a5, a6, a7, a8] ↔
      (a0.toNat < 2 ^ 29 ∧ a1.toNat < 2 ^ 28 ∧ a2.toNat < 2 ^ 29 ∧ a3.toNat < 2 ^ 28 ∧ a4.toNat < 2 ^ 29 ∧
       a5.toNat < 2 ^ 28 ∧ a6.toNat < 2 ^ 29 ∧ a7.toNat < 2 ^ 28 ∧ a8.toNat < 2 ^ 29) := Iff.rfl

theorem inBounds_lit (a0 a1 a2 a3 a4 a5 a6 a7 a8 : U32) :
    InBounds #v[a0, a1, a2, a3, a4, a5, a6, a7, a8] ↔
      (a0.toNat < 2 ^ 30 ∧ a1.toNat < 2 ^ 29 ∧ a2.toNat < 2 ^ 30 ∧ a3.toNat < 2 ^ 29 ∧ a4.toNat < 2 ^ 30 ∧
       a5.toNat < 2 ^ 29 ∧ a6.toNat < 2 ^ 30 ∧ a7.toNat < 2 ^ 29 ∧ a8.toNat < 2 ^ 30) := Iff.rfl

/-- the four table entries used for `carry` = k < 8: (2k, 2^29 - 256k, 2048k - 1, k·2^25), all 0 for k = 0 -/
theorem carryTable_entries : ∀ k : Fin 8,
    let c : U32 := BitVec.ofNat 32 k.val
    (carryTable.toArray.getD (carryIdx c 0) 0).toNat = 2 * k.val ∧
    (carryTable.toArray.getD (carryIdx c 2) 0).toNat = (if k.val = 0 then 0 else 2 ^ 29 - 256 * k.val) ∧
    (carryTable.toArray.getD (carryIdx c 3) 0).toNat = (if k.val = 0 then 0 else 2048 * k.val - 1) ∧
    (carryTable.toArray.getD (carryIdx c 7) 0).toNat = k.val * 2 ^ 25 := by decide

theorem reduceCarry_lit (a0 a1 a2 a3 a4 a5 a6 a7 a8 c : U32) :
    reduceCarry #v[a0, a1, a2, a3, a4, a5, a6, a7, a8] c =
      #v[a0 + carryTable.toArray.getD (carryIdx c 0) 0, a1, a2 + carryTable.toArray.getD (carryIdx c 2) 0,
         a3 + carryTable.toArray.getD (carryIdx c 3) 0, a4, a5, a6,
         a7 + carryTable.toArray.getD (carryIdx c 7) 0, a8] := rfl

/-- `sm2P256ReduceCarry`: for carry < 8 (the documented bound) and canonical limbs the result has
    `value out + carry·2p = value a + carry·2^257` exactly, with no 32-bit overflow. -/
theorem reduceCarry_exact (a : Limbs) (c : U32) (hc : c.toNat < 8) (ha : Canon a) :
    value (reduceCarry a c) + c.toNat * (2 * P) = value a + c.toNat * 2 ^ 257 ∧ InBounds (reduceCarry a c) := by
  obtain ⟨a0, a1, a2, a3, a4, a5, a6, a7, a8, rfl⟩ := exists_lit9 a
  have hk := carryTable_entries ⟨c.toNat, hc⟩
  simp only [BitVec.ofNat_toNat, BitVec.setWidth_eq] at hk
  obtain ⟨e0, e2, e3, e7⟩ := hk
  rw [reduceCarry_lit, value_lit, value_lit, inBounds_lit]
  rw [canon_lit] at ha
  -- none of the four additions wraps
  rw [add_nw a0 _ (by rw [e0]; omega), add_nw a2 _ (by rw [e2]; split <;> omega),
    add_nw a3 _ (by rw [e3]; split <;> omega), add_nw a7 _ (by rw [e7]; omega), e0, e2, e3, e7]
  simp only [P]
  split <;> omega

theorem add_mul_twoP_mod (v k : Nat) : (v + k * (2 * P)) % P = v % P := by
  rw [← Nat.mul_assoc, Nat.add_mul_mod_self_right]

/-- `sm2P256ReduceCarry`: `value (reduceCarry a carry) ≡ value a + carry·R (mod p)` -/
theorem reduceCarry_ok (a : Limbs) (c : U32) (hc : c.toNat < 8) (ha : Canon a) :
    value (reduceCarry a c) % P = (value a + c.toNat * R) % P ∧ InBounds (reduceCarry a c) := by
  obtain ⟨h, hb⟩ := reduceCarry_exact a c hc ha
  refine ⟨?_, hb⟩
  rw [show R = 2 ^ 257 from rfl, ← h, add_mul_twoP_mod]

end Props.C03Limbs
