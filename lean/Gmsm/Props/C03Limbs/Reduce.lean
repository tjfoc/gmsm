/-
C03, limb layer: the elimination loop and the last loop of `sm2P256ReduceDegree` on the 18-word temporary.
A step at position j clears word j by adding x·p there, so the words from j+1 on, read as one number, are the
words from j on plus x·p, divided by the weight of word j: nine divisions by 2^29 / 2^28 modulo p, 2^257 in all.
-/
import Gmsm.Props.C03Limbs.Eliminate
import Gmsm.Props.C03Limbs.Repack
namespace Props.C03Limbs
set_option exponentiation.threshold 600
open Model.P256Limbs

theorem horner_winE (w : Win) (l : List U32) :
    horner 29 (w.t0 :: w.t1 :: w.t2 :: w.t3 :: w.t4 :: w.t5 :: w.t6 :: w.t7 :: w.t8 :: w.t9 :: l) 0
      = winValE w + 2 ^ 285 * horner 29 l 0 := by
  simp only [horner, winValE, Nat.reduceSub]
  ring

theorem horner_winO (w : Win) (l : List U32) :
    horner 28 (w.t0 :: w.t1 :: w.t2 :: w.t3 :: w.t4 :: w.t5 :: w.t6 :: w.t7 :: w.t8 :: w.t9 :: l) 0
      = winValO w + 2 ^ 285 * horner 28 l 0 := by
  simp only [horner, winValO, Nat.reduceSub]
  ring

/-- an elimination step seen from the rest of `tmp`: once the first word of the window is zero, what follows it is
    the old value plus the multiple of p, divided by the weight of that word -/
theorem horner_stepE {w s : Win} {e : Nat} (l : List U32) (h : winValE s = winValE w + e) (z : s.t0.toNat = 0) :
    2 ^ 29 * horner 28 (s.t1 :: s.t2 :: s.t3 :: s.t4 :: s.t5 :: s.t6 :: s.t7 :: s.t8 :: s.t9 :: l) 0
      = horner 29 (w.t0 :: w.t1 :: w.t2 :: w.t3 :: w.t4 :: w.t5 :: w.t6 :: w.t7 :: w.t8 :: w.t9 :: l) 0 + e := by
  have hs := horner_winE s l
  rw [horner_winE w l, ← Nat.add_right_comm, ← h, ← hs]
  show _ = s.t0.toNat + 2 ^ 29 * horner 28 _ 0
  rw [z, Nat.zero_add]

theorem horner_stepO {w s : Win} {e : Nat} (l : List U32) (h : winValO s = winValO w + e) (z : s.t0.toNat = 0) :
    2 ^ 28 * horner 29 (s.t1 :: s.t2 :: s.t3 :: s.t4 :: s.t5 :: s.t6 :: s.t7 :: s.t8 :: s.t9 :: l) 0
      = horner 28 (w.t0 :: w.t1 :: w.t2 :: w.t3 :: w.t4 :: w.t5 :: w.t6 :: w.t7 :: w.t8 :: w.t9 :: l) 0 + e := by
  have hs := horner_winO s l
  rw [horner_winO w l, ← Nat.add_right_comm, ← h, ← hs]
  show _ = s.t0.toNat + 2 ^ 28 * horner 29 _ 0
  rw [z, Nat.zero_add]

/-- dividing by `2^k` modulo p, step by step: if `2^n·V ≡ W` and `2^k·V' = V + e·p` then `2^(n+k)·V' ≡ W` -/
theorem mont_step {V V' W e : Nat} (n k : Nat) (inv : 2 ^ n * V % P = W % P) (step : 2 ^ k * V' = V + e * P) :
    2 ^ (n + k) * V' % P = W % P := by
  rw [Nat.pow_add, Nat.mul_assoc, step, Nat.mul_add, ← Nat.mul_assoc, Nat.add_mul_mod_self_right, inv]

def winList (w : Win) : List U32 := [w.t0, w.t1, w.t2, w.t3, w.t4, w.t5, w.t6, w.t7, w.t8, w.t9]

/-- `tmp` as a list, cut before and after the window at position `j`: a step rewrites the window -/
theorem elim_toList (f : Win → Win) (j : Nat) (pre post : List U32) (v : Win) (tmp : Tmp)
    (ht : tmp.toList = pre ++ (winList v ++ post)) (hp : pre.length = j) (hj : j + 9 < 18) :
    (setWin tmp j (f (getWin tmp j hj)) hj).toList = pre ++ (winList (f v) ++ post) := by
  subst hp
  have h : (pre ++ (winList v ++ post)).length = 18 := by rw [← ht, Vector.length_toList]
  obtain rfl : tmp = ⟨⟨_⟩, h⟩ := Vector.toList_inj.mp ht
  have g : getWin ⟨⟨pre ++ (winList v ++ post)⟩, h⟩ pre.length hj = v := by
    unfold getWin
    simp only [winList, Vector.getElem_mk, List.getElem_toArray, List.getElem_append_right, Nat.le_add_right,
      Nat.le_refl, Nat.add_sub_cancel_left, Nat.sub_self, List.cons_append, List.getElem_cons_zero,
      List.getElem_cons_succ]
  rw [g]
  unfold setWin
  simp only [winList, Vector.toList_set, Vector.toList_mk, List.set_append_right, Nat.le_add_right, Nat.le_refl,
    Nat.add_sub_cancel_left, Nat.sub_self, List.cons_append, List.set_cons_zero, List.set_cons_succ]

/-- `rdEven_spec` and `horner_stepE` for a step at an even position `j` of `tmp`, which changes in the window only. -/
theorem stepE {w : Win} {l : List U32} {n V c : Nat} {tmp : Tmp} (j : Nat) (pre post : List U32) (ok : WinOK c w)
    (hc : c ≤ 2147483903)
    (m : 2 ^ n * horner 29 (w.t0 :: w.t1 :: w.t2 :: w.t3 :: w.t4 :: w.t5 :: w.t6 :: w.t7 :: w.t8 :: w.t9 :: l) 0 % P
      = V % P)
    (ht : tmp.toList = pre ++ (winList w ++ post)) (hp : pre.length = j) (hj : j + 9 < 18) :
    ∃ s : Win, s.t0 = 0 ∧ s.t1.toNat ≤ 2147483660 ∧ s.t2.toNat ≤ 2147483645 ∧ s.t3.toNat ≤ 1610612861 ∧
      s.t4.toNat ≤ 1610612734 ∧ s.t5.toNat ≤ 1610612734 ∧ s.t6.toNat ≤ 1610612734 ∧ s.t7.toNat ≤ 1610612734 ∧
      s.t8.toNat ≤ 1610612734 ∧ s.t9.toNat ≤ c + 268435455 ∧
      2 ^ (n + 29) * horner 28 (s.t1 :: s.t2 :: s.t3 :: s.t4 :: s.t5 :: s.t6 :: s.t7 :: s.t8 :: s.t9 :: l) 0 % P
        = V % P ∧
      (elimEven true tmp j hj).toList = pre ++ (winList s ++ post) := by
  obtain ⟨v, z, b1, b2, b3, b4, b5, b6, b7, b8, b9⟩ := rdEven_spec ok hc
  exact ⟨_, BitVec.eq_of_toNat_eq z, b1, b2, b3, b4, b5, b6, b7, b8, b9, mont_step n 29 m (horner_stepE l v z),
    elim_toList (rdEven true) j pre post w tmp ht hp hj⟩

theorem stepO {w : Win} {l : List U32} {n V c : Nat} {tmp : Tmp} (j : Nat) (pre post : List U32) (ok : WinOK c w)
    (hc : c ≤ 2147483903)
    (m : 2 ^ n * horner 28 (w.t0 :: w.t1 :: w.t2 :: w.t3 :: w.t4 :: w.t5 :: w.t6 :: w.t7 :: w.t8 :: w.t9 :: l) 0 % P
      = V % P)
    (ht : tmp.toList = pre ++ (winList w ++ post)) (hp : pre.length = j) (hj : j + 9 < 18) :
    ∃ s : Win, s.t0 = 0 ∧ s.t1.toNat ≤ 2147483660 ∧ s.t2.toNat ≤ 2147483645 ∧ s.t3.toNat ≤ 1610612861 ∧
      s.t4.toNat ≤ 1610612734 ∧ s.t5.toNat ≤ 1610612734 ∧ s.t6.toNat ≤ 1610612734 ∧ s.t7.toNat ≤ 1610612734 ∧
      s.t8.toNat ≤ 1610612734 ∧ s.t9.toNat ≤ c + 268435455 ∧
      2 ^ (n + 28) * horner 29 (s.t1 :: s.t2 :: s.t3 :: s.t4 :: s.t5 :: s.t6 :: s.t7 :: s.t8 :: s.t9 :: l) 0 % P
        = V % P ∧
      (elimOdd tmp j hj).toList = pre ++ (winList s ++ post) := by
  obtain ⟨v, z, b1, b2, b3, b4, b5, b6, b7, b8, b9⟩ := rdOdd_spec ok hc
  exact ⟨_, BitVec.eq_of_toNat_eq z, b1, b2, b3, b4, b5, b6, b7, b8, b9, mont_step n 28 m (horner_stepO l v z),
    elim_toList rdOdd j pre post w tmp ht hp hj⟩

/-- the elimination loop (repaired source): for words within the bounds `repack` guarantees, the nine steps
    clear words 0..8 and never wrap a word; each divides what is left by the weight of the word it clears, modulo p. -/
theorem eliminate_lit (t0 t1 t2 t3 t4 t5 t6 t7 t8 t9 t10 t11 t12 t13 t14 t15 t16 t17 : U32)
    (h1 : t1.toNat ≤ 1073741823) (h2 : t2.toNat ≤ 1073741823) (h3 : t3.toNat ≤ 1073741823) (h4 : t4.toNat ≤ 1073741823) (h5 : t5.toNat ≤ 1073741823) (h6 : t6.toNat ≤ 1073741823) (h7 : t7.toNat ≤ 1073741823) (h8 : t8.toNat ≤ 1073741823) (h9 : t9.toNat ≤ 1073741823) (h10 : t10.toNat ≤ 1073741823) (h11 : t11.toNat ≤ 1073741823) (h12 : t12.toNat ≤ 1073741823) (h13 : t13.toNat ≤ 1073741823) (h14 : t14.toNat ≤ 1073741823) (h15 : t15.toNat ≤ 1073741823) (h16 : t16.toNat ≤ 1073741823) (h17 : t17.toNat ≤ 2147483903) :
    ∃ s9 s10 s11 s12 s13 s14 s15 s16 s17 : U32, eliminate true #v[t0, t1, t2, t3, t4, t5, t6, t7, t8, t9, t10, t11, t12, t13, t14, t15, t16, t17] = #v[0, 0, 0, 0, 0, 0, 0, 0, 0, s9, s10, s11, s12, s13, s14, s15, s16, s17] ∧
      2 ^ 257 * horner 28 [s9, s10, s11, s12, s13, s14, s15, s16, s17] 0 % P = horner 29 [t0, t1, t2, t3, t4, t5, t6, t7, t8, t9, t10, t11, t12, t13, t14, t15, t16, t17] 0 % P ∧
      s9.toNat ≤ 2147483660 ∧ s10.toNat ≤ 2147483645 ∧ s11.toNat ≤ 1610612861 ∧ s12.toNat ≤ 1610612734 ∧ s13.toNat ≤ 1610612734 ∧ s14.toNat ≤ 1610612734 ∧ s15.toNat ≤ 1610612734 ∧ s16.toNat ≤ 1610612734 ∧ s17.toNat ≤ 2415919358 := by
  have m : 2 ^ 0 * horner 29 [t0, t1, t2, t3, t4, t5, t6, t7, t8, t9, t10, t11, t12, t13, t14, t15, t16, t17] 0 % P = horner 29 [t0, t1, t2, t3, t4, t5, t6, t7, t8, t9, t10, t11, t12, t13, t14, t15, t16, t17] 0 % P := by
    rw [Nat.pow_zero, Nat.one_mul]
  have ok : WinOK 1073741823 ⟨t0, t1, t2, t3, t4, t5, t6, t7, t8, t9⟩ := by unfold WinOK; dsimp only; omega
  have e : #v[t0, t1, t2, t3, t4, t5, t6, t7, t8, t9, t10, t11, t12, t13, t14, t15, t16, t17].toList = [] ++ (winList ⟨t0, t1, t2, t3, t4, t5, t6, t7, t8, t9⟩ ++ [t10, t11, t12, t13, t14, t15, t16, t17]) := rfl
  obtain ⟨w0, z0, b1, b2, b3, b4, b5, b6, b7, b8, b9, m, e⟩ := stepE 0 [] [t10, t11, t12, t13, t14, t15, t16, t17] ok (by decide) m e rfl (by decide)
  have ok : WinOK 1073741823 ⟨w0.t1, w0.t2, w0.t3, w0.t4, w0.t5, w0.t6, w0.t7, w0.t8, w0.t9, t10⟩ := ⟨b2, b3, b4, b5, b6, b7, b8, b9, h10⟩
  obtain ⟨w1, z1, b1, b2, b3, b4, b5, b6, b7, b8, b9, m, e⟩ := stepO 1 [w0.t0] [t11, t12, t13, t14, t15, t16, t17] ok (by decide) m e rfl (by decide)
  have ok : WinOK 1073741823 ⟨w1.t1, w1.t2, w1.t3, w1.t4, w1.t5, w1.t6, w1.t7, w1.t8, w1.t9, t11⟩ := ⟨b2, b3, b4, b5, b6, b7, b8, b9, h11⟩
  obtain ⟨w2, z2, b1, b2, b3, b4, b5, b6, b7, b8, b9, m, e⟩ := stepE 2 [w0.t0, w1.t0] [t12, t13, t14, t15, t16, t17] ok (by decide) m e rfl (by decide)
  have ok : WinOK 1073741823 ⟨w2.t1, w2.t2, w2.t3, w2.t4, w2.t5, w2.t6, w2.t7, w2.t8, w2.t9, t12⟩ := ⟨b2, b3, b4, b5, b6, b7, b8, b9, h12⟩
  obtain ⟨w3, z3, b1, b2, b3, b4, b5, b6, b7, b8, b9, m, e⟩ := stepO 3 [w0.t0, w1.t0, w2.t0] [t13, t14, t15, t16, t17] ok (by decide) m e rfl (by decide)
  have ok : WinOK 1073741823 ⟨w3.t1, w3.t2, w3.t3, w3.t4, w3.t5, w3.t6, w3.t7, w3.t8, w3.t9, t13⟩ := ⟨b2, b3, b4, b5, b6, b7, b8, b9, h13⟩
  obtain ⟨w4, z4, b1, b2, b3, b4, b5, b6, b7, b8, b9, m, e⟩ := stepE 4 [w0.t0, w1.t0, w2.t0, w3.t0] [t14, t15, t16, t17] ok (by decide) m e rfl (by decide)
  have ok : WinOK 1073741823 ⟨w4.t1, w4.t2, w4.t3, w4.t4, w4.t5, w4.t6, w4.t7, w4.t8, w4.t9, t14⟩ := ⟨b2, b3, b4, b5, b6, b7, b8, b9, h14⟩
  obtain ⟨w5, z5, b1, b2, b3, b4, b5, b6, b7, b8, b9, m, e⟩ := stepO 5 [w0.t0, w1.t0, w2.t0, w3.t0, w4.t0] [t15, t16, t17] ok (by decide) m e rfl (by decide)
  have ok : WinOK 1073741823 ⟨w5.t1, w5.t2, w5.t3, w5.t4, w5.t5, w5.t6, w5.t7, w5.t8, w5.t9, t15⟩ := ⟨b2, b3, b4, b5, b6, b7, b8, b9, h15⟩
  obtain ⟨w6, z6, b1, b2, b3, b4, b5, b6, b7, b8, b9, m, e⟩ := stepE 6 [w0.t0, w1.t0, w2.t0, w3.t0, w4.t0, w5.t0] [t16, t17] ok (by decide) m e rfl (by decide)
  have ok : WinOK 1073741823 ⟨w6.t1, w6.t2, w6.t3, w6.t4, w6.t5, w6.t6, w6.t7, w6.t8, w6.t9, t16⟩ := ⟨b2, b3, b4, b5, b6, b7, b8, b9, h16⟩
  obtain ⟨w7, z7, b1, b2, b3, b4, b5, b6, b7, b8, b9, m, e⟩ := stepO 7 [w0.t0, w1.t0, w2.t0, w3.t0, w4.t0, w5.t0, w6.t0] [t17] ok (by decide) m e rfl (by decide)
  have ok : WinOK 2147483903 ⟨w7.t1, w7.t2, w7.t3, w7.t4, w7.t5, w7.t6, w7.t7, w7.t8, w7.t9, t17⟩ := ⟨b2, b3, b4, b5, b6, b7, b8, b9, h17⟩
  obtain ⟨w8, z8, b1, b2, b3, b4, b5, b6, b7, b8, b9, m, e⟩ := stepE 8 [w0.t0, w1.t0, w2.t0, w3.t0, w4.t0, w5.t0, w6.t0, w7.t0] [] ok (by decide) m e rfl (by decide)
  rw [winList, z0, z1, z2, z3, z4, z5, z6, z7, z8] at e
  exact ⟨w8.t1, w8.t2, w8.t3, w8.t4, w8.t5, w8.t6, w8.t7, w8.t8, w8.t9, Vector.toList_inj.mp e, m, b1, b2, b3, b4, b5, b6, b7, b8, b9⟩

theorem outEven_spec (t9 t10 c : U32) (h9 : t9.toNat ≤ 3000000000) (hc : c.toNat ≤ 8) :
    (outEven t9 t10 c).1.toNat + 2 ^ 29 * (outEven t9 t10 c).2.toNat = t9.toNat + t10.toNat % 2 * 2 ^ 28 + c.toNat ∧
    (outEven t9 t10 c).1.toNat < 2 ^ 29 ∧ (outEven t9 t10 c).2.toNat ≤ 8 := by
  unfold outEven
  dsimp only
  have e : (t9 + c + (t10 <<< 28 &&& bottom29Bits)).toNat = t9.toNat + c.toNat + t10.toNat % 2 * 268435456 := by
    bvexact
  have s := split29 (t9 + c + (t10 <<< 28 &&& bottom29Bits))
  rw [e] at s
  omega

theorem outOdd_spec (t9 c : U32) (hc : c.toNat ≤ 8) :
    (outOdd t9 c).1.toNat + 2 ^ 28 * (outOdd t9 c).2.toNat = t9.toNat / 2 + c.toNat ∧
    (outOdd t9 c).1.toNat < 2 ^ 28 ∧ (outOdd t9 c).2.toNat ≤ 8 := by
  unfold outOdd
  dsimp only
  have := lt32 t9
  have e : (t9 >>> 1 + c).toNat = t9.toNat / 2 + c.toNat := by bvexact
  have s := split28 (t9 >>> 1 + c)
  rw [e] at s
  omega

/-- the last loop of `sm2P256ReduceDegree`: with words 0..8 cleared, the nine upper words (widths 28, 29, 28, …)
    are repacked into canonical limbs (widths 29, 28, 29, …) and a carry < 8 -/
theorem outChain_lit (s9 s10 s11 s12 s13 s14 s15 s16 s17 : U32)
    (h9 : s9.toNat ≤ 3000000000) (h11 : s11.toNat ≤ 3000000000) (h13 : s13.toNat ≤ 3000000000)
    (h15 : s15.toNat ≤ 3000000000) (h17 : s17.toNat ≤ 3000000000) :
    let r := outChain #v[0, 0, 0, 0, 0, 0, 0, 0, 0, s9, s10, s11, s12, s13, s14, s15, s16, s17]
    value r.1 + r.2.toNat * 2 ^ 257 = horner 28 [s9, s10, s11, s12, s13, s14, s15, s16, s17] 0 ∧ Canon r.1 ∧ r.2.toNat < 8 := by
  obtain ⟨r0, r1, r2, r3, r4, r5, r6, r7, a8, e0, e1, e2, e3, e4, e5, e6, e7, e8, e⟩ :
      ∃ r0 r1 r2 r3 r4 r5 r6 r7 a8, r0 = outEven s9 s10 0 ∧ r1 = outOdd s10 r0.2 ∧
        r2 = outEven s11 s12 r1.2 ∧ r3 = outOdd s12 r2.2 ∧ r4 = outEven s13 s14 r3.2 ∧ r5 = outOdd s14 r4.2 ∧
        r6 = outEven s15 s16 r5.2 ∧ r7 = outOdd s16 r6.2 ∧ a8 = s17 + r7.2 ∧
        outChain #v[0, 0, 0, 0, 0, 0, 0, 0, 0, s9, s10, s11, s12, s13, s14, s15, s16, s17] =
          (#v[r0.1, r1.1, r2.1, r3.1, r4.1, r5.1, r6.1, r7.1, a8 &&& bottom29Bits], a8 >>> 29) :=
    ⟨_, _, _, _, _, _, _, _, _, rfl, rfl, rfl, rfl, rfl, rfl, rfl, rfl, rfl, rfl⟩
  intro r
  replace e : r = _ := e
  clear_value r
  subst e
  have p0 := outEven_spec s9 s10 0 h9 (by decide); rw [← e0] at p0
  have p1 := outOdd_spec s10 r0.2 p0.2.2; rw [← e1] at p1
  have p2 := outEven_spec s11 s12 r1.2 h11 p1.2.2; rw [← e2] at p2
  have p3 := outOdd_spec s12 r2.2 p2.2.2; rw [← e3] at p3
  have p4 := outEven_spec s13 s14 r3.2 h13 p3.2.2; rw [← e4] at p4
  have p5 := outOdd_spec s14 r4.2 p4.2.2; rw [← e5] at p5
  have p6 := outEven_spec s15 s16 r5.2 h15 p5.2.2; rw [← e6] at p6
  have p7 := outOdd_spec s16 r6.2 p6.2.2; rw [← e7] at p7
  have p8 : a8.toNat = s17.toNat + r7.2.toNat := by rw [e8, add_nw]; omega
  have q8 := split29 a8
  rw [p8] at q8
  clear e0 e1 e2 e3 e4 e5 e6 e7 e8
  have c2 := chain_step 29 28 p0.1 p1.1
  have c3 := chain_step 57 29 c2 p2.1
  have c4 := chain_step 86 28 c3 p3.1
  have c5 := chain_step 114 29 c4 p4.1
  have c6 := chain_step 143 28 c5 p5.1
  have c7 := chain_step 171 29 c6 p6.1
  have c8 := chain_step 200 28 c7 p7.1
  have c9 : _ + 2 ^ 257 * _ = _ := chain_step 228 29 c8 q8.1
  dsimp only
  refine ⟨?_, ⟨p0.2.1, p1.2.1, p2.2.1, p3.2.1, p4.2.1, p5.2.1, p6.2.1, p7.2.1, q8.2⟩, by omega⟩
  rw [value_lit, Nat.mul_comm _ (2 ^ 257), c9]
  clear c9 c8 c7 c6 c5 c4 c3 c2 q8 p8 p7 p6 p5 p4 p3 p2 p1 p0
  have z : (0 : U32).toNat = 0 := rfl
  simp only [horner, Nat.reduceSub]
  omega

end Props.C03Limbs
