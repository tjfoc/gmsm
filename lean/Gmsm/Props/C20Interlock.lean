/-
C20 (interlock part) — `Conn.Write` / `Conn.Close` on one established connection, under ALL interleavings.

The subject is the `activeCall` interlock of gmtls/conn.go (model: `Model.ConnInterlock`, one atomic action
of one goroutine per step).  The theorems hold for ANY number of writer and closer goroutines and ANY
schedule; they are proved by induction over the schedule (`Proofs.Sched`, `trace_induction`) with the invariant `Inv`,
whose clauses are sums of per-goroutine indicators; `Effect` lists what one action does to the indicators of the
goroutine that performs it, and `step_facts` is linear arithmetic over that list.  `constants_pinned`: the model's
1 / 2 / 2 / 1 are the values the fact extractor reads from conn.go (`Gen.Conn`).  Concrete executions of 2 Writes +
2 Closes by `decide` at the end (non-vacuity).

What is NOT covered: Read (not part of the interlock), the handshake mutex, the result a Write that was in
flight gets from the record layer when Close tears the connection down under it (`brokenWrites`; the verdicts
compared in `linearizable_outcomes` are those of the interlock: got through / errClosed), and the Go memory
model (the atomics are taken to be sequentially consistent, one action at a time).
Core Lean only.
-/
import Gmsm.Model.ConnInterlock
import Gmsm.Gen.ConnFacts
import Gmsm.Proofs.Sched
namespace Props.C20Interlock
open Model.ConnInterlock

def sumBy {α : Type} (f : α → Nat) : List α → Nat
  | [] => 0
  | a :: l => f a + sumBy f l

theorem sumBy_eraseIdx {α : Type} (f : α → Nat) : ∀ {l : List α} {i : Nat} {a : α}, l[i]? = some a →
    sumBy f l = f a + sumBy f (l.eraseIdx i)
  | x :: l, 0, a, h => by simp at h; subst h; rfl
  | x :: l, i+1, a, h => by
      simp at h
      simp only [List.eraseIdx_cons_succ, sumBy, sumBy_eraseIdx f h]; omega

/-- when goroutine `i` moves from `a` to `b`, only its share of each sum changes: the form in which the steps of
    the transition systems are analysed (the others' shares `r f` are atoms of the arithmetic there) -/
theorem sumBy_split {α : Type} {l : List α} {i : Nat} {a : α} (h : l[i]? = some a) :
    ∃ r : (α → Nat) → Nat, (∀ f, sumBy f l = f a + r f) ∧ ∀ f b, sumBy f (l.set i b) = f b + r f := by
  refine ⟨fun f => sumBy f (l.eraseIdx i), fun f => sumBy_eraseIdx f h, fun f b => ?_⟩
  have hi := (List.getElem?_eq_some_iff.1 h).1
  rw [sumBy_eraseIdx f (l := l.set i b) (i := i) (a := b) (by simp [hi]), List.eraseIdx_set_eq]

theorem le_sumBy {α : Type} (f : α → Nat) {l : List α} {a : α} (h : a ∈ l) : f a ≤ sumBy f l := by
  obtain ⟨i, hi⟩ := List.getElem?_of_mem h
  rw [sumBy_eraseIdx f hi]; exact Nat.le_add_right ..

theorem sumBy_le_sumBy {α : Type} (f g : α → Nat) (h : ∀ a, f a ≤ g a) : ∀ l : List α, sumBy f l ≤ sumBy g l
  | [] => Nat.le_refl _
  | a :: l => Nat.add_le_add (h a) (sumBy_le_sumBy f g h l)

theorem sumBy_add {α : Type} (f g : α → Nat) : ∀ l : List α, sumBy (fun a => f a + g a) l = sumBy f l + sumBy g l
  | [] => rfl
  | a :: l => by simp only [sumBy, sumBy_add f g l]; omega

theorem sumBy_le_length {α : Type} (f : α → Nat) (c : Nat) (h : ∀ a, f a ≤ c) : ∀ l : List α, sumBy f l ≤ c * l.length
  | [] => Nat.zero_le _
  | a :: l => by
      have := sumBy_le_length f c h l; have := h a
      simp only [sumBy, List.length_cons, Nat.mul_succ]; omega

theorem exists_of_sumBy_pos {α : Type} (f : α → Nat) : ∀ {l : List α}, 0 < sumBy f l → ∃ (i : Nat) (a : α), l[i]? = some a ∧ 0 < f a
  | x :: l, h => by
      by_cases hx : 0 < f x
      · exact ⟨0, x, rfl, hx⟩
      · have : 0 < sumBy f l := by simp only [sumBy] at h; omega
        obtain ⟨i, a, h1, h2⟩ := exists_of_sumBy_pos f this
        exact ⟨i+1, a, h1, h2⟩

theorem sumBy_eq_zero {α : Type} (f : α → Nat) : ∀ {l : List α}, (∀ a ∈ l, f a = 0) → sumBy f l = 0
  | [], _ => rfl
  | x :: l, h => by
      simp only [sumBy, h x (List.mem_cons_self ..), sumBy_eq_zero f (l := l) (fun a ha => h a (List.mem_cons_of_mem _ ha))]

theorem sumBy_map_eq_zero {α β : Type} (f : α → Nat) (g : β → α) (h : ∀ b, f (g b) = 0) (l : List β) :
    sumBy f (l.map g) = 0 :=
  sumBy_eq_zero f fun a ha => by obtain ⟨b, -, rfl⟩ := List.mem_map.1 ha; exact h b

theorem add_le_sumBy {α : Type} (f : α → Nat) {l : List α} {i j : Nat} {a b : α} (hi : l[i]? = some a)
    (hj : l[j]? = some b) (hij : i ≠ j) (z : α) (hz : f z = 0) : f a + f b ≤ sumBy f l := by
  obtain ⟨r, h1, h2⟩ := sumBy_split hi
  have h3 := le_sumBy f (List.mem_of_getElem? ((List.getElem?_set_ne hij).trans hj : (l.set i z)[j]? = some b))
  rw [h2 f z] at h3
  have := h1 f
  omega

theorem isClosed_iff (x : Nat) : isClosed x = true ↔ x % 2 = 1 := by
  simp [isClosed, closedMask, Nat.and_one_is_mod]
theorem isClosed_false_iff (x : Nat) : isClosed x = false ↔ x % 2 = 0 := by
  simp [isClosed, closedMask, Nat.and_one_is_mod]
theorem setClosed_eq (x : Nat) : setClosed x = x + 1 - x % 2 := by
  unfold setClosed closedBit
  have h1 : (x ||| 1) / 2 = x / 2 := by simp [Nat.or_div_two]
  have h2 : (x ||| 1) % 2 = 1 := by simp [Nat.or_mod_two_eq_one]
  omega
theorem setClosed_even (x : Nat) (h : x % 2 = 0) : setClosed x = x + 1 := by rw [setClosed_eq, h]; rfl

theorem writesInFlight_false (x : Nat) : writesInFlight x = false ↔ x = 0 := by simp [writesInFlight]
theorem writesInFlight_true (x : Nat) : writesInFlight x = true ↔ 0 < x := by simp [writesInFlight]; omega

/-- a Write between its successful CAS and its `Add(-2)` -/
def inFlight : Thread → Nat
  | .writer .lock | .writer .write | .writer .unlock | .writer .release => 1
  | _ => 0
/-- a Close whose CAS succeeded -/
def wonClose : Thread → Nat
  | .closer (.branch _) | .closer .cnLock | .closer .cnSend | .closer .cnUnlock | .closer .closeConn
  | .closer (.done .ok) => 1
  | _ => 0
def holdsOut : Thread → Nat
  | .writer .write | .writer .unlock | .closer .cnSend | .closer .cnUnlock => 1
  | _ => 0
/-- parity of the value a goroutine is about to CAS on / branch on (always even) -/
def casParity : Thread → Nat
  | .writer (.cas x) | .closer (.cas x) | .closer (.branch x) => x % 2
  | _ => 0
def doneErr : Thread → Nat
  | .writer (.done .errClosed) | .closer (.done .errClosed) => 1
  | .writer (.check x) | .closer (.check x) => x % 2
  | _ => 0
/-- the winner on the close_notify path -/
def quietPath : Thread → Nat
  | .closer (.branch x) => 1 - x
  | .closer .cnLock | .closer .cnSend | .closer .cnUnlock => 1
  | _ => 0
def afterSend : Thread → Nat
  | .closer .cnUnlock | .closer .closeConn | .closer (.done .ok) => 1
  | _ => 0
def closedConn : Thread → Nat
  | .closer (.done .ok) => 1
  | _ => 0


theorem stepEv_some {s : State} {t : ThreadId} {s' : State} {e : Event} (h : stepEv s t = some (s', e)) :
    ∃ th sh' th' a, s.threads[t]? = some th ∧ localStep s.toShared th = some (sh', th', a) ∧ e = ⟨t, a⟩ ∧
      s' = { toShared := sh', threads := s.threads.set t th' } := by
  unfold stepEv at h
  split at h
  · simp at h
  · rename_i th hget
    split at h
    · simp at h
    · rename_i sh th' a hl
      simp at h
      obtain ⟨rfl, rfl⟩ := h
      exact ⟨th, sh, th', a, hget, hl, rfl, rfl⟩

theorem stepEv_length {s s' : State} {t : ThreadId} {e : Event} (h : stepEv s t = some (s', e)) :
    s'.threads.length = s.threads.length := by
  obtain ⟨_, _, _, _, _, _, _, rfl⟩ := stepEv_some h
  exact List.length_set

theorem step_some {s s' : State} {t : ThreadId} (h : step s t = some s') : ∃ e, stepEv s t = some (s', e) := by
  simp only [step, Option.map_eq_some_iff] at h
  obtain ⟨⟨_, e⟩, h, rfl⟩ := h
  exact ⟨e, h⟩

theorem next_of_none {s : State} {t : ThreadId} (h : stepEv s t = none) : next s t = s := by
  simp [next, step, h]
theorem next_of_some {s s' : State} {t : ThreadId} {e : Event} (h : stepEv s t = some (s', e)) : next s t = s' := by
  simp [next, step, h]
theorem run_nil (s : State) : run s [] = s := rfl
theorem run_cons (s : State) (t : ThreadId) (ts : List ThreadId) : run s (t :: ts) = run (next s t) ts := rfl
theorem run_append (s : State) (a b : List ThreadId) : run s (a ++ b) = run (run s a) b := List.foldl_append ..
theorem trace_of_none {s : State} {t : ThreadId} (ts : List ThreadId) (h : stepEv s t = none) :
    trace s (t :: ts) = trace s ts := by simp [trace, h]
theorem trace_of_some {s s' : State} {t : ThreadId} {e : Event} (ts : List ThreadId) (h : stepEv s t = some (s', e)) :
    trace s (t :: ts) = e :: trace s' ts := by simp [trace, h]

/-- `next` and `run` are those of `Proofs.Sched` for `step`: what every action preserves holds along a schedule -/
theorem run_preserves {P : State → Prop} (hP : ∀ {s t s' e}, P s → stepEv s t = some (s', e) → P s') {s : State}
    (h : P s) (sched : List ThreadId) : P (run s sched) :=
  Proofs.Sched.run_preserves (step := step) (fun h hs => (step_some hs).elim fun _ he => hP h he) h sched

theorem exists_exit {P : State → Prop} {s : State} (h : P s) (sched : List ThreadId) (hn : ¬ P (run s sched)) :
    ∃ pre t post, sched = pre ++ t :: post ∧ P (run s pre) ∧ ¬ P (next (run s pre) t) :=
  Proofs.Sched.exists_exit (step := step) h sched hn

theorem trace_induction {I : State → Prop} {M : State → List Event → State → Prop}
    (hI : ∀ {s t s' e}, I s → stepEv s t = some (s', e) → I s') (nil : ∀ {s}, I s → M s [] s)
    (cons : ∀ {s t s' e tr sf}, I s → stepEv s t = some (s', e) → M s' tr sf → M s (e :: tr) sf)
    {s : State} (h : I s) (sched : List ThreadId) : M s (trace s sched) (run s sched) := by
  induction sched generalizing s with
  | nil => exact nil h
  | cons t ts ih =>
    cases hs : stepEv s t with
    | none => rw [trace_of_none ts hs, run_cons, next_of_none hs]; exact ih h
    | some p => rw [trace_of_some ts hs, run_cons, next_of_some hs]; exact cons h hs (ih (hI h hs))

structure Inv (s : State) : Prop where
  counter : s.activeCall = writeInc * sumBy inFlight s.threads + closedBit * sumBy wonClose s.threads
  oneWin : sumBy wonClose s.threads ≤ 1
  lock : sumBy holdsOut s.threads = s.outHeld.toNat
  casEven : sumBy casParity s.threads = 0
  errClosed : sumBy doneErr s.threads = 0 ∨ s.activeCall % 2 = 1
  quiet : (sumBy quietPath s.threads = 0 ∧ s.closeNotifySent = 0) ∨ sumBy inFlight s.threads = 0
  notify : s.closeNotifySent ≤ sumBy afterSend s.threads
  conn : s.connCloses = sumBy closedConn s.threads
  connFlag : s.closedUnderlying = decide (0 < s.connCloses)

theorem quietPath_le (a : Thread) : quietPath a ≤ wonClose a := by
  unfold quietPath wonClose; split <;> simp <;> omega
theorem afterSend_le (a : Thread) : afterSend a ≤ wonClose a := by
  unfold afterSend wonClose; split <;> simp

/-- what an action may be once the closed bit is set: no CAS succeeds and every Load sees the bit -/
def postClose : Action → Bool
  | .wCasOk _ | .cCasOk _ => false
  | .load y => isClosed y
  | _ => true

/-- What one action does, seen from the goroutine that performs it (`th` before, `th'` after): next to each change of
    a shared variable stands the change of that goroutine's indicators which keeps a clause of `Inv` in balance.
    Two balances need something the invariant says of the state before: the CAS of Close adds exactly 1 because
    the value it swaps is even, `Add(-2)` and `Unlock` take away what is there.  `won`, `enter` and `quiet` say
    which indicators can rise at all: `wonClose` and `quietPath` by the CAS of Close, `inFlight` by the CAS of
    Write, each on the value loaded before; `win` and `other` say the same by the action, for the theorems about
    traces. -/
structure Effect (sh : Shared) (th : Thread) (sh' : Shared) (th' : Thread) (a : Action) : Prop where
  counter : casParity th = 0 → writeInc * inFlight th ≤ sh.activeCall →
    sh'.activeCall + writeInc * inFlight th + closedBit * wonClose th =
      sh.activeCall + writeInc * inFlight th' + closedBit * wonClose th'
  lock : holdsOut th ≤ sh.outHeld.toNat → sh'.outHeld.toNat + holdsOut th = sh.outHeld.toNat + holdsOut th'
  casEven : casParity th' ≤ casParity th
  errClosed : doneErr th' ≤ doneErr th + sh.activeCall % 2
  notify : sh'.closeNotifySent + afterSend th ≤ sh.closeNotifySent + afterSend th'
  conn : sh'.connCloses + closedConn th = sh.connCloses + closedConn th'
  connFlag : sh.closedUnderlying = decide (0 < sh.connCloses) → sh'.closedUnderlying = decide (0 < sh'.connCloses)
  closed : sh.activeCall % 2 = 1 → casParity th = 0 → postClose a = true
  won : wonClose th' = wonClose th ∨ sh.activeCall % 2 = casParity th ∧ wonClose th = 0 ∧ wonClose th' = 1
  enter : inFlight th' ≤ inFlight th ∨
    sh.activeCall % 2 = casParity th ∧ quietPath th' = quietPath th ∧ sh'.closeNotifySent = sh.closeNotifySent
  quiet : quietPath th' ≤ quietPath th ∧ sh'.closeNotifySent ≤ sh.closeNotifySent + quietPath th ∨
    sh.activeCall = 0 ∧ inFlight th' = inFlight th
  win : ∀ x, a = .cCasOk x → x = sh.activeCall ∧ casParity th = x % 2 ∧ wonClose th = 0 ∧ wonClose th' = 1 ∧
    quietPath th = 0 ∧ quietPath th' = 1 - x ∧ sh'.closeNotifySent = sh.closeNotifySent
  other : (∀ x, a ≠ .cCasOk x) → wonClose th' = wonClose th ∧ quietPath th' ≤ quietPath th ∧
    sh'.closeNotifySent ≤ sh.closeNotifySent + quietPath th

theorem localStep_effect {sh sh' : Shared} {th th' : Thread} {a : Action} (h : localStep sh th = some (sh', th', a)) :
    Effect sh th sh' th' a := by
  have := Bool.toNat_le sh.outHeld
  revert h
  fun_cases localStep sh th <;> rintro ⟨⟩
  -- the test `localStep` made, as arithmetic
  all_goals try simp only [isClosed_iff, Bool.not_eq_true, writesInFlight_true] at *
  -- both goroutine states are constructors now: every field is a closed fact, up to that test
  all_goals constructor <;>
    simp [*, inFlight, wonClose, holdsOut, casParity, doneErr, quietPath, afterSend, closedConn, postClose,
      addWriter, subWriter, setClosed_eq, writeInc, releaseDec, closedBit, isClosed_iff] <;>
    omega

/-- the facts about one step that the theorems below are built from.  Each sum is split into the share of the
    goroutine that moves and the share `r` of the others (`sumBy_split`); every clause is then linear arithmetic from
    the same clause before the step and the fields of `Effect` named in its line. -/
theorem step_facts {s : State} {t : ThreadId} {s' : State} {e : Event} (hI : Inv s) (h : stepEv s t = some (s', e)) :
    Inv s' ∧
    (s.activeCall % 2 = 1 → s'.activeCall % 2 = 1 ∧ postClose e.act = true) ∧
    (∀ x, e.act = .cCasOk x → x = s.activeCall ∧ s'.activeCall % 2 = 1 ∧
        sumBy wonClose s.threads = 0 ∧ sumBy wonClose s'.threads = 1 ∧
        sumBy quietPath s'.threads = 1 - x ∧ s'.closeNotifySent = s.closeNotifySent) ∧
    ((∀ x, e.act ≠ .cCasOk x) → sumBy wonClose s'.threads = sumBy wonClose s.threads ∧
        sumBy quietPath s'.threads ≤ sumBy quietPath s.threads ∧
        s'.closeNotifySent ≤ s.closeNotifySent + sumBy quietPath s.threads) := by
  obtain ⟨th, sh', th', a, hget, hl, rfl, rfl⟩ := stepEv_some h
  obtain ⟨r, er, er'⟩ := sumBy_split hget
  have q1 := sumBy_le_sumBy _ _ quietPath_le s.threads
  have q2 := sumBy_le_sumBy _ _ afterSend_le s.threads
  have ef := localStep_effect hl
  have i1 := hI.counter; have i2 := hI.oneWin; have i4 := hI.casEven
  have c := ef.counter
  simp only [er, writeInc, closedBit] at i1 i2 i4 c
  have c := c (by omega) (by omega)
  have odd : s.activeCall % 2 = 1 → sh'.activeCall % 2 = 1 := by have := ef.won; omega
  refine ⟨⟨?_, ?_, ?_, ?_, ?_, ?_, ?_, ?_, ef.connFlag hI.connFlag⟩, fun hc => ⟨odd hc, ef.closed hc (by omega)⟩, ?_, ?_⟩
  all_goals simp only [er', writeInc, closedBit]
  · omega
  · have := ef.won; omega
  · have := hI.lock; simp only [er] at this; have := ef.lock (by omega); omega
  · have := ef.casEven; omega
  · have := ef.errClosed; have := hI.errClosed; simp only [er] at this; omega
  · have := ef.enter; have := ef.quiet; have i7 := hI.notify; have := hI.quiet; simp only [er] at this i7 q1 q2; omega
  · have := ef.notify; have := hI.notify; simp only [er] at this; omega
  · have := ef.conn; have := hI.conn; simp only [er] at this; omega
  · intro x hx
    obtain ⟨hxa, hp, w0, w1, q0, hq, hs⟩ := ef.win x hx
    simp only [er] at q1 ⊢
    have hr : r wonClose = 0 ∧ r quietPath = 0 := by omega
    rw [w0, w1, hq, hr.1, hr.2]
    exact ⟨hxa, by omega, rfl, rfl, rfl, hs⟩
  · intro hx; have := ef.other hx; simp only [er]; omega

theorem Inv.step {s : State} {t : ThreadId} {s' : State} {e : Event} (hI : Inv s) (h : stepEv s t = some (s', e)) :
    Inv s' := (step_facts hI h).1

theorem sumBy_init (kinds : List Kind) (f : Thread → Nat) (h1 : f (.writer .load) = 0) (h2 : f (.closer .load) = 0) :
    sumBy f (initOf kinds).threads = 0 :=
  sumBy_map_eq_zero f _ (fun k => by cases k <;> assumption) kinds

theorem length_initOf (kinds : List Kind) : (initOf kinds).threads.length = kinds.length := List.length_map ..

theorem Inv.init (kinds : List Kind) : Inv (initOf kinds) := by
  have z := fun f h1 h2 => sumBy_init kinds f h1 h2
  constructor
  · rw [z inFlight rfl rfl, z wonClose rfl rfl]; rfl
  · rw [z wonClose rfl rfl]; exact Nat.zero_le _
  · rw [z holdsOut rfl rfl]; rfl
  · exact z casParity rfl rfl
  · exact Or.inl (z doneErr rfl rfl)
  · exact Or.inr (z inFlight rfl rfl)
  · exact Nat.zero_le _
  · rw [z closedConn rfl rfl]; rfl
  · rfl

theorem Inv.run {s : State} (hI : Inv s) (sched : List ThreadId) : Inv (run s sched) :=
  run_preserves Inv.step hI sched

/-- the states an execution can be in: any number and mix of calls, any schedule -/
def Reachable (s : State) : Prop := ∃ kinds sched, s = run (initOf kinds) sched

theorem Reachable.inv {s : State} (h : Reachable s) : Inv s := by
  obtain ⟨kinds, sched, rfl⟩ := h; exact (Inv.init kinds).run sched

theorem Reachable.run {s : State} (h : Reachable s) (sched : List ThreadId) : Reachable (run s sched) := by
  obtain ⟨kinds, sched0, rfl⟩ := h; exact ⟨kinds, sched0 ++ sched, (run_append _ _ _).symm⟩

theorem set_same {α : Type} {l : List α} {i : Nat} {a : α} (h : l[i]? = some a) : l.set i a = l := by
  obtain ⟨hi, rfl⟩ := List.getElem?_eq_some_iff.1 h
  exact List.set_getElem_self hi

theorem map_set_same {α β : Type} (f : α → β) {l : List α} {i : Nat} {a : α} (b : α) (h : l[i]? = some a)
    (hf : f b = f a) : (l.set i b).map f = l.map f := by
  rw [List.map_set, hf]; exact set_same (by rw [List.getElem?_map, h]; rfl)

theorem localStep_kind {sh sh' : Shared} {th th' : Thread} {a : Action} (h : localStep sh th = some (sh', th', a)) :
    th'.kind = th.kind := by
  revert h
  fun_cases localStep sh th <;> rintro ⟨⟩ <;> rfl

theorem run_kinds (s : State) (sched : List ThreadId) : (run s sched).threads.map Thread.kind = s.threads.map Thread.kind :=
  run_preserves (P := fun s' => s'.threads.map Thread.kind = s.threads.map Thread.kind)
    (fun h hs => by
      obtain ⟨th, sh', th', a, hget, hl, -, rfl⟩ := stepEv_some hs
      exact (map_set_same _ _ hget (localStep_kind hl)).trans h) rfl sched

theorem run_length (s : State) (sched : List ThreadId) : (run s sched).threads.length = s.threads.length := by
  simpa using congrArg List.length (run_kinds s sched)

/-- number of Writes that have passed their CAS and not yet run their deferred `Add(-2)` -/
def writersInFlight (s : State) : Nat := s.threads.countP (fun th => inFlight th == 1)
/-- 1 if some Close has passed its CAS, else 0 -/
def closeWon (s : State) : Nat := if s.threads.any (fun th => wonClose th == 1) then 1 else 0

theorem sumBy_eq_countP {α : Type} (f : α → Nat) (hf : ∀ a, f a ≤ 1) : ∀ l : List α, sumBy f l = l.countP (fun a => f a == 1)
  | [] => rfl
  | a :: l => by
      have := sumBy_eq_countP f hf l
      have := hf a
      by_cases h : f a = 1 <;> simp [sumBy, h] <;> omega

theorem inFlight_le (a : Thread) : inFlight a ≤ 1 := by unfold inFlight; split <;> simp
theorem wonClose_le (a : Thread) : wonClose a ≤ 1 := by unfold wonClose; split <;> simp

theorem closeWon_eq (s : State) (h : sumBy wonClose s.threads ≤ 1) : closeWon s = sumBy wonClose s.threads := by
  rw [sumBy_eq_countP _ wonClose_le] at h ⊢
  unfold closeWon
  split
  · rename_i hany
    have := List.countP_pos_iff.2 (List.any_eq_true.1 hany)
    omega
  · rename_i hany
    exact (List.countP_eq_zero.2 fun a ha h1 => hany (List.any_eq_true.2 ⟨a, ha, h1⟩)).symm

/-- In every state of every execution (any goroutines, any schedule),
    `activeCall = 2·(number of Writes between their successful CAS and their Add(-2)) + (1 if a Close's CAS
    has succeeded)`.  In particular it never exceeds `2·goroutines + 1`, so the int32 cannot overflow for fewer
    than 2^30 goroutines. -/
theorem counter_invariant (kinds : List Kind) (sched : List ThreadId) :
    let s := run (initOf kinds) sched
    s.activeCall = writeInc * writersInFlight s + closedBit * closeWon s ∧
    s.activeCall ≤ writeInc * kinds.length + closedBit := by
  intro s
  have hI : Inv s := (Inv.init kinds).run sched
  have h1 : writersInFlight s = sumBy inFlight s.threads := (sumBy_eq_countP _ inFlight_le _).symm
  have h2 := closeWon_eq s hI.oneWin
  have h3 := sumBy_le_length inFlight 1 inFlight_le s.threads
  have h4 : s.threads.length = kinds.length := by rw [run_length, length_initOf]
  have h5 := hI.counter
  have h6 := hI.oneWin
  simp only [writeInc, closedBit] at *
  omega

/-- the same for any reachable state, with the sums the proofs use -/
theorem counter_invariant_reachable {s : State} (h : Reachable s) :
    s.activeCall = writeInc * sumBy inFlight s.threads + closedBit * sumBy wonClose s.threads := h.inv.counter

/-- the deferred `Add(-2)` never underflows: when a Write is about to release, `activeCall ≥ 2` -/
theorem release_never_underflows {s : State} (h : Reachable s) {t : ThreadId} (ht : s.threads[t]? = some (.writer .release)) :
    releaseDec ≤ s.activeCall := by
  have h1 := h.inv.counter
  have h2 := le_sumBy inFlight (List.mem_of_getElem? ht)
  simp only [writeInc, closedBit, releaseDec, inFlight] at *
  omega

def isCCasOk : Action → Bool
  | .cCasOk _ => true
  | _ => false

theorem isCCasOk_iff (a : Action) : isCCasOk a = true ↔ ∃ x, a = .cCasOk x := by
  cases a <;> simp [isCCasOk]

theorem trace_wins {s : State} (hI : Inv s) (sched : List ThreadId) :
    (trace s sched).countP (fun e => isCCasOk e.act) + sumBy wonClose s.threads =
      sumBy wonClose (run s sched).threads := by
  refine trace_induction (I := Inv) (M := fun s tr sf =>
    tr.countP (fun e => isCCasOk e.act) + sumBy wonClose s.threads = sumBy wonClose sf.threads)
    Inv.step (fun _ => by simp) ?_ hI sched
  intro s t s' e tr sf hI h ih
  obtain ⟨-, -, hwin, hnot⟩ := step_facts hI h
  rw [List.countP_cons]
  split
  · rename_i hf
    obtain ⟨x, hx⟩ := (isCCasOk_iff _).1 hf
    obtain ⟨-, -, h0, h1, -, -⟩ := hwin x hx
    omega
  · rename_i hf
    have h0 := (hnot fun x hx => hf ((isCCasOk_iff _).2 ⟨x, hx⟩)).1
    omega

theorem winner_unique {s : State} (hs : Reachable s) {i j : Nat} {thi thj : Thread} (hi : s.threads[i]? = some thi)
    (hj : s.threads[j]? = some thj) (wi : wonClose thi = 1) (wj : wonClose thj = 1) : i = j := by
  apply Classical.byContradiction
  intro hij
  have := add_le_sumBy wonClose hi hj hij (.writer .load) rfl
  have := hs.inv.oneWin
  omega

/-- In any execution at most one Close's CAS ever succeeds (trace form and
    state form), and if goroutine `i` is a Close that got past its CAS, every other goroutine `j` that is a
    finished Close returned errClosed. -/
theorem at_most_one_close_proceeds (kinds : List Kind) (sched : List ThreadId) :
    let s := run (initOf kinds) sched
    (trace (initOf kinds) sched).countP (fun e => isCCasOk e.act) ≤ 1 ∧
    sumBy wonClose s.threads ≤ 1 ∧
    (∀ (i j : Nat) (thi : Thread) (o : Outcome), s.threads[i]? = some thi → wonClose thi = 1 →
       s.threads[j]? = some (Thread.closer (.done o)) → i ≠ j → o = Outcome.errClosed) := by
  intro s
  have hI : Inv s := (Inv.init kinds).run sched
  have h1 : _ + _ = sumBy wonClose s.threads := trace_wins (Inv.init kinds) sched
  have h0 := sumBy_init kinds wonClose rfl rfl
  have h2 := hI.oneWin
  refine ⟨by omega, h2, ?_⟩
  intro i j thi o hi hw hj hij
  cases o with
  | errClosed => rfl
  | ok => exact absurd (winner_unique ⟨kinds, sched, rfl⟩ hi hj hw rfl) hij

theorem closed_of_won {s : State} (hI : Inv s) {c : Nat} {thc : Thread} (hc : s.threads[c]? = some thc)
    (hw : wonClose thc = 1) : isClosed s.activeCall = true := by
  have h1 := hI.counter
  have h2 := le_sumBy wonClose (List.mem_of_getElem? hc)
  have h3 := hI.oneWin
  rw [isClosed_iff]
  simp only [writeInc, closedBit] at h1
  omega

theorem closed_step {s s' : State} {t : ThreadId} {e : Event} (hI : Inv s ∧ isClosed s.activeCall = true)
    (h : stepEv s t = some (s', e)) : Inv s' ∧ isClosed s'.activeCall = true :=
  ⟨hI.1.step h, (isClosed_iff _).2 ((step_facts hI.1 h).2.1 ((isClosed_iff _).1 hI.2)).1⟩

theorem closed_run {s : State} (hI : Inv s) (hc : isClosed s.activeCall = true) (sched : List ThreadId) :
    isClosed (run s sched).activeCall = true := (run_preserves closed_step ⟨hI, hc⟩ sched).2

theorem trace_post_close {s : State} (hI : Inv s) (sched : List ThreadId) :
    (s.activeCall % 2 = 1 → ∀ e ∈ trace s sched, postClose e.act = true) ∧
    ∀ pre c x post, trace s sched = pre ++ ⟨c, .cCasOk x⟩ :: post → ∀ e ∈ post, postClose e.act = true :=
  trace_induction (I := Inv) (M := fun s tr _ => (s.activeCall % 2 = 1 → ∀ e ∈ tr, postClose e.act = true) ∧
      ∀ pre c x post, tr = pre ++ ⟨c, .cCasOk x⟩ :: post → ∀ e ∈ post, postClose e.act = true)
    Inv.step (fun _ => ⟨fun _ => by simp, fun pre _ _ _ h => by simp at h⟩)
    (fun hI h ih => by
      obtain ⟨-, hcl, hwin, -⟩ := step_facts hI h
      refine ⟨fun hc => ?_, fun pre c x post hsplit => ?_⟩
      · obtain ⟨h1, h2⟩ := hcl hc
        exact List.forall_mem_cons.2 ⟨h2, ih.1 h1⟩
      · cases pre with
        | nil =>
          obtain ⟨rfl, rfl⟩ := List.cons.inj hsplit
          exact ih.1 (hwin x rfl).2.1
        | cons _ pre' => exact ih.2 pre' c x post (List.cons.inj hsplit).2)
    hI sched

/-- Split any execution's trace at a successful Close CAS.  Every later action is
    `postClose`: it is not a successful CAS (of a Write or of a Close) and, if it is a Load, it reads a value with
    the closed bit set — so a Write passes the interlock only if its successful CAS precedes every successful
    Close CAS.  And no earlier action is a successful Close CAS. -/
theorem no_write_after_close (kinds : List Kind) (sched : List ThreadId) (pre : List Event) (c : ThreadId) (x : Nat)
    (post : List Event) (h : trace (initOf kinds) sched = pre ++ ⟨c, .cCasOk x⟩ :: post) :
    (∀ e ∈ post, (∀ y, e.act ≠ .wCasOk y) ∧ (∀ y, e.act ≠ .cCasOk y) ∧ (∀ y, e.act = .load y → isClosed y = true)) ∧
    (∀ e ∈ pre, ∀ y, e.act ≠ .cCasOk y) := by
  constructor
  · intro e he
    have := (trace_post_close (Inv.init kinds) sched).2 pre c x post h e he
    refine ⟨?_, ?_, ?_⟩ <;> intro y hy <;> rw [hy] at this <;> simp [postClose] at this
    exact this
  · intro e he y hy
    have h1 := (at_most_one_close_proceeds kinds sched).1
    rw [h] at h1
    have h2 : isCCasOk e.act = true := (isCCasOk_iff _).2 ⟨y, hy⟩
    have h3 : 0 < pre.countP (fun e => isCCasOk e.act) := List.countP_pos_iff.2 ⟨e, he, h2⟩
    have h4 : isCCasOk (Event.act ⟨c, .cCasOk x⟩) = true := rfl
    simp only [List.countP_append, List.countP_cons, h4, if_true] at h1
    omega

/-- a goroutine that can only be refused: it has not loaded yet, or has loaded a closed value, or returned errClosed -/
def refused : Thread → Bool
  | .writer .load | .closer .load => true
  | .writer (.check x) | .closer (.check x) => isClosed x
  | .writer (.done .errClosed) | .closer (.done .errClosed) => true
  | _ => false

/-- the only actions of a refused call: Loads that see the closed bit and the `return errClosed` -/
def refusalAct : Action → Bool
  | .load x => isClosed x
  | .checkClosed => true
  | _ => false

theorem refused_outcome {th : Thread} (h : refused th = true) : ∀ o, th.outcome = some o → o = .errClosed := by
  intro o ho
  rcases th with pc | pc <;> cases pc <;> simp only [Thread.outcome, reduceCtorEq, Option.some.injEq] at ho
  all_goals (subst ho; rename_i o; cases o <;> first | rfl | exact absurd h (by simp [refused]))

theorem getElem?_set_self_of {α : Type} {l : List α} {i : Nat} {a : α} (b : α) (h : l[i]? = some a) :
    (l.set i b)[i]? = some b := by
  simp [List.getElem?_set_self (List.getElem?_eq_some_iff.1 h).1]

theorem refused_step {s s' : State} {t w : ThreadId} {e : Event} {th : Thread} (hc : isClosed s.activeCall = true)
    (hw : s.threads[w]? = some th) (hr : refused th = true) (h : stepEv s t = some (s', e)) :
    ∃ th', s'.threads[w]? = some th' ∧ refused th' = true ∧ (e.tid = w → refusalAct e.act = true) := by
  obtain ⟨th0, sh', th0', a, hget, hl, rfl, rfl⟩ := stepEv_some h
  by_cases htw : t = w
  · subst htw
    rw [hw] at hget
    obtain rfl := Option.some.inj hget
    refine ⟨th0', getElem?_set_self_of _ hw, ?_⟩
    clear hw h
    revert hl
    fun_cases localStep s.toShared th <;> rintro ⟨⟩ <;> simp_all [refused, refusalAct]
  · exact ⟨th, (List.getElem?_set_ne htw).trans hw, hr, fun h => absurd h htw⟩

theorem refused_forever {s : State} (hI : Inv s) (hc : isClosed s.activeCall = true) {w : ThreadId} {th : Thread}
    (hw : s.threads[w]? = some th) (hr : refused th = true) (sched : List ThreadId) :
    ∃ th', (run s sched).threads[w]? = some th' ∧ refused th' = true ∧
      ∀ e ∈ trace s sched, e.tid = w → refusalAct e.act = true := by
  have := trace_induction
    (I := fun s => (Inv s ∧ isClosed s.activeCall = true) ∧ ∃ th, s.threads[w]? = some th ∧ refused th = true)
    (M := fun _ tr sf => (∃ th', sf.threads[w]? = some th' ∧ refused th' = true) ∧
      ∀ e ∈ tr, e.tid = w → refusalAct e.act = true)
    (fun ⟨hc, _, hw, hr⟩ h => ⟨closed_step hc h, (refused_step hc.2 hw hr h).imp fun _ h => ⟨h.1, h.2.1⟩⟩)
    (fun h => ⟨h.2, by simp⟩)
    (fun ⟨hc, _, hw, hr⟩ h ih =>
      ⟨ih.1, List.forall_mem_cons.2 ⟨(refused_step hc.2 hw hr h).elim fun _ h => h.2.2, ih.2⟩⟩)
    ⟨⟨hI, hc⟩, th, hw, hr⟩ sched
  obtain ⟨⟨th', h1, h2⟩, h3⟩ := this
  exact ⟨th', h1, h2, h3⟩

/-- With the state form of `no_write_after_close`: in a reachable state in which some Close
    has passed its CAS, take any Write or Close that has not done its Load yet (a later call).  Whatever the
    schedule from there, that call only ever Loads values with the closed bit set and returns errClosed: it never
    passes the interlock, never takes the `out` mutex, never writes a record, never sends an alert, never closes
    the underlying connection; if it has finished, its result is errClosed. -/
theorem close_idempotent {s : State} (hs : Reachable s) {c : ThreadId} {thc : Thread} (hc : s.threads[c]? = some thc)
    (hwon : wonClose thc = 1) {w : ThreadId} {th : Thread} (hw : s.threads[w]? = some th)
    (hload : th = .writer .load ∨ th = .closer .load) (sched : List ThreadId) :
    ∃ th', (run s sched).threads[w]? = some th' ∧ refused th' = true ∧
      (∀ o, th'.outcome = some o → o = .errClosed) ∧
      ∀ e ∈ trace s sched, e.tid = w → refusalAct e.act = true := by
  have hr : refused th = true := by rcases hload with rfl | rfl <;> rfl
  obtain ⟨th', h1, h2, h3⟩ := refused_forever hs.inv (closed_of_won hs.inv hc hwon) hw hr sched
  exact ⟨th', h1, h2, refused_outcome h2, h3⟩

/-- goroutine `c`'s next action in `s` is a successful Close CAS (`c` wins the interlock at this moment) -/
def winsAt (s : State) (c : ThreadId) : Prop := ∃ s' x, stepEv s c = some (s', ⟨c, .cCasOk x⟩)

/-- as long as nobody is on the close_notify path nothing is sent; a goroutine enters that path only by a CAS of
    Close on `activeCall = 0` -/
theorem quiet_witness {s : State} (hI : Inv s) (h0 : sumBy wonClose s.threads = 0) (hs0 : s.closeNotifySent = 0)
    (sched : List ThreadId) (hsent : 1 ≤ (run s sched).closeNotifySent) :
    ∃ pre c post, sched = pre ++ c :: post ∧ winsAt (run s pre) c ∧ (run s pre).activeCall = 0 ∧
      sumBy inFlight (run s pre).threads = 0 := by
  have q0 := sumBy_le_sumBy _ _ quietPath_le s.threads
  obtain ⟨pre, c, post, rfl, ⟨hI', hc0, hq0⟩, hn⟩ :=
    exists_exit (P := fun s => Inv s ∧ s.closeNotifySent = 0 ∧ sumBy quietPath s.threads = 0)
      ⟨hI, hs0, by omega⟩ sched (fun h => by have := h.2.1; omega)
  refine ⟨pre, c, post, rfl, ?_⟩
  cases hst : stepEv (run s pre) c with
  | none => rw [next_of_none hst] at hn; exact absurd ⟨hI', hc0, hq0⟩ hn
  | some p =>
    obtain ⟨s', e⟩ := p
    rw [next_of_some hst] at hn
    obtain ⟨hI2, -, hwin, hnot⟩ := step_facts hI' hst
    by_cases hc : ∃ x, e.act = .cCasOk x
    · obtain ⟨x, hx⟩ := hc
      obtain ⟨hxa, -, -, -, hq, hsn⟩ := hwin x hx
      have hx0 : x = 0 := Classical.byContradiction fun hx0 => hn ⟨hI2, by omega, by omega⟩
      have hte : e = ⟨c, .cCasOk x⟩ := by
        obtain ⟨_, _, _, a, _, _, rfl, _⟩ := stepEv_some hst
        simp at hx; rw [hx]
      subst hx0
      have hc1 := hI'.counter
      simp only [writeInc, closedBit] at hc1
      exact ⟨⟨s', 0, by rw [hst, hte]⟩, hxa.symm, by omega⟩
    · obtain ⟨-, h3, h4⟩ := hnot fun x hx => hc ⟨x, hx⟩
      exact absurd ⟨hI2, by omega, by omega⟩ hn

/-- In any execution the close_notify alert is put on the wire at most once,
    and if it was, the schedule splits at a moment where a Close goroutine `c` won the CAS while `activeCall`
    was 0 and no Write was in flight (between its CAS and its `Add(-2)`).  (`winsAt`: `c`'s action at that
    moment is the successful `CompareAndSwapInt32(&c.activeCall, x, x|1)`.) -/
theorem close_notify_only_when_quiet (kinds : List Kind) (sched : List ThreadId) :
    (run (initOf kinds) sched).closeNotifySent ≤ 1 ∧
    (1 ≤ (run (initOf kinds) sched).closeNotifySent →
      ∃ pre c post, sched = pre ++ c :: post ∧ winsAt (run (initOf kinds) pre) c ∧
        (run (initOf kinds) pre).activeCall = 0 ∧ writersInFlight (run (initOf kinds) pre) = 0) := by
  have hI := (Inv.init kinds).run sched
  constructor
  · have h1 := hI.notify
    have h2 := sumBy_le_sumBy _ _ afterSend_le (run (initOf kinds) sched).threads
    have h3 := hI.oneWin
    omega
  · intro hsent
    obtain ⟨pre, c, post, h1, h2, h3, h4⟩ :=
      quiet_witness (Inv.init kinds) (sumBy_init kinds wonClose rfl rfl) rfl sched hsent
    refine ⟨pre, c, post, h1, h2, h3, ?_⟩
    unfold writersInFlight
    rw [← sumBy_eq_countP _ inFlight_le]; exact h4

/-- state form: whenever close_notify has been sent, or the winning Close is on its way to send it, no Write is
    in flight — so `closeNotify`'s `c.out.Lock()` never waits for a Write, and a Write that got past the
    interlock never sees `closeNotifySent` (never returns errShutdown because of Close). -/
theorem quiet_invariant {s : State} (hs : Reachable s) :
    (1 ≤ s.closeNotifySent ∨ 1 ≤ sumBy quietPath s.threads) → sumBy inFlight s.threads = 0 := by
  intro h
  have := hs.inv.quiet
  omega

theorem close_notify_never_waits {s : State} (hs : Reachable s) {c : ThreadId} (hc : s.threads[c]? = some (.closer .cnLock)) :
    s.outHeld = false := by
  have hI := hs.inv
  have h1 := le_sumBy quietPath (List.mem_of_getElem? hc)
  have h2 := quiet_invariant hs (Or.inr h1)
  have h3 := hI.lock
  have h4 := hI.oneWin
  -- the holders of `out` are Writes in flight or the winner past cnLock; the winner is at cnLock
  have e1 := sumBy_eraseIdx holdsOut hc
  have e2 := sumBy_eraseIdx inFlight hc
  have e3 := sumBy_eraseIdx wonClose hc
  have hle := sumBy_le_sumBy holdsOut (fun a => inFlight a + wonClose a)
    (by intro a; rcases a with pc | pc <;> cases pc <;> simp [holdsOut, inFlight, wonClose]) (s.threads.eraseIdx c)
  rw [sumBy_add] at hle
  simp only [holdsOut, inFlight, wonClose] at e1 e2 e3
  cases hb : s.outHeld with
  | false => rfl
  | true => rw [hb, Bool.toNat_true] at h3; omega

theorem write_never_sees_shutdown {s : State} (hs : Reachable s) {w : ThreadId} (hw : s.threads[w]? = some (.writer .write)) :
    s.closeNotifySent = 0 := by
  have h1 := le_sumBy inFlight (List.mem_of_getElem? hw)
  have h2 := hs.inv.quiet
  simp only [inFlight] at h1
  omega

/-- actions a call still has to perform if nobody interferes -/
def localRem : Thread → Nat
  | .writer .load => 7 | .writer (.check _) => 6 | .writer (.cas _) => 5 | .writer .lock => 4
  | .writer .write => 3 | .writer .unlock => 2 | .writer .release => 1 | .writer (.done _) => 0
  | .closer .load => 8 | .closer (.check _) => 7 | .closer (.cas _) => 6 | .closer (.branch _) => 5
  | .closer .cnLock => 4 | .closer .cnSend => 3 | .closer .cnUnlock => 2 | .closer .closeConn => 1
  | .closer (.done _) => 0

/-- modifications of `activeCall` a call may still perform (Write: CAS and Add(-2); Close: CAS) -/
def casRem : Thread → Nat
  | .writer .load | .writer (.check _) | .writer (.cas _) => 2
  | .writer .lock | .writer .write | .writer .unlock | .writer .release => 1
  | .closer .load | .closer (.check _) | .closer (.cas _) => 1
  | _ => 0

/-- the call holds a loaded value that is no longer the value of `activeCall` (its CAS would fail) -/
def stale (ac : Nat) : Thread → Nat
  | .writer (.check x) | .writer (.cas x) | .closer (.check x) | .closer (.cas x) => min 1 (x - ac + (ac - x))
  | _ => 0

theorem stale_le (ac : Nat) (a : Thread) : stale ac a ≤ 1 := by
  unfold stale; split <;> omega

/-- potential for failed CASes: stale goroutines now + (goroutines × modifications still to come) -/
def phi (s : State) : Nat := sumBy (stale s.activeCall) s.threads + s.threads.length * sumBy casRem s.threads
/-- termination measure: every action that happens decreases it -/
def mu (s : State) : Nat := sumBy localRem s.threads + 3 * phi s

def isCasFail : Action → Bool
  | .casFail _ => true
  | _ => false

/-- what an action costs the goroutine that performs it: either `activeCall` stays as it is and the goroutine's own
    share of `mu` falls (a failed CAS sends it back to the Load, two actions more, but it is no longer stale), or the
    action is one of the `casRem` modifications of `activeCall` it had left -/
theorem localStep_cost {sh sh' : Shared} {th th' : Thread} {a : Action} (h : localStep sh th = some (sh', th', a)) :
    sh'.activeCall = sh.activeCall ∧ casRem th' ≤ casRem th ∧ stale sh.activeCall th' ≤ stale sh.activeCall th ∧
      localRem th' + 3 * stale sh.activeCall th' < localRem th + 3 * stale sh.activeCall th ∧
      (isCasFail a = true → stale sh.activeCall th' < stale sh.activeCall th) ∨
    casRem th' < casRem th ∧ localRem th' < localRem th ∧ isCasFail a = false := by
  revert h
  fun_cases localStep sh th <;> rintro ⟨⟩ <;> simp [localRem, casRem, stale, isCasFail] <;> omega

theorem step_measure {s : State} {t : ThreadId} {s' : State} {e : Event} (h : stepEv s t = some (s', e)) :
    mu s' < mu s ∧ phi s' ≤ phi s ∧ (isCasFail e.act = true → phi s' + 1 ≤ phi s) := by
  obtain ⟨th, sh', th', a, hget, hl, rfl, rfl⟩ := stepEv_some h
  obtain ⟨r, er, er'⟩ := sumBy_split hget
  unfold mu phi
  simp only [List.length_set, er, er']
  rcases localStep_cost hl with ⟨hac, h1, h2, h3, h4⟩ | ⟨h1, h2, h3⟩
  · rw [hac]
    have := Nat.mul_le_mul_left s.threads.length (Nat.add_le_add_right h1 (r casRem))
    exact ⟨by omega, by omega, fun hf => by have := h4 hf; omega⟩
  · -- after an action that changes `activeCall` every goroutine may have become stale: that is paid for by the
    -- `threads.length` which the fall of `casRem` sets free
    have b := sumBy_le_length (stale sh'.activeCall) 1 (stale_le _) (s.threads.set t th')
    rw [er', List.length_set, Nat.one_mul] at b
    have := Nat.mul_le_mul_left s.threads.length (Nat.add_le_add_right (Nat.succ_le_of_lt h1) (r casRem))
    rw [Nat.succ_add, Nat.mul_succ] at this
    exact ⟨by omega, by omega, fun hf => by rw [h3] at hf; cases hf⟩

theorem trace_length_le (s : State) (sched : List ThreadId) : (trace s sched).length + mu (run s sched) ≤ mu s :=
  trace_induction (I := fun _ => True) (M := fun s tr sf => tr.length + mu sf ≤ mu s) (fun _ _ => trivial)
    (fun _ => Nat.le_of_eq (Nat.zero_add _))
    (fun _ h ih => by have := (step_measure h).1; simp only [List.length_cons]; omega) trivial sched

theorem trace_fails_le (s : State) (sched : List ThreadId) :
    (trace s sched).countP (fun e => isCasFail e.act) + phi (run s sched) ≤ phi s := by
  refine trace_induction (I := fun _ => True) (M := fun s tr sf =>
    tr.countP (fun e => isCasFail e.act) + phi sf ≤ phi s) (fun _ _ => trivial) (fun _ => by simp) ?_ trivial sched
  intro s t s' e tr sf _ h ih
  obtain ⟨-, h2, h3⟩ := step_measure h
  rw [List.countP_cons]
  split
  · have := h3 ‹_›; omega
  · omega

theorem step_isSome {s : State} {t : ThreadId} {th : Thread} (hget : s.threads[t]? = some th)
    (hl : (localStep s.toShared th).isSome = true) : t < s.threads.length ∧ (step s t).isSome = true := by
  obtain ⟨p, hp⟩ := Option.isSome_iff_exists.1 hl
  exact ⟨(List.getElem?_eq_some_iff.1 hget).1, by simp [step, stepEv, hget, hp]⟩

theorem localStep_isSome_free {sh : Shared} {th : Thread} (hfree : sh.outHeld = false) (hnd : th.isDone = false) :
    (localStep sh th).isSome = true := by
  fun_cases localStep sh th <;> simp_all [Thread.isDone, Thread.outcome]

theorem localStep_isSome_holder {sh : Shared} {th : Thread} (hh : 0 < holdsOut th) : (localStep sh th).isSome = true := by
  fun_cases localStep sh th <;> simp_all [holdsOut]

/-- deadlock freedom: in a reachable state in which some call has not finished, some goroutine can take a step
    (a goroutine waits only for the `out` mutex, and its holder can always move) -/
theorem exists_enabled {s : State} (hI : Inv s) (hnd : s.allDone = false) :
    ∃ t, t < s.threads.length ∧ (step s t).isSome = true := by
  cases hout : s.outHeld with
  | false =>
    simp only [State.allDone, List.all_eq_false, Bool.not_eq_true] at hnd
    obtain ⟨th, hmem, hd⟩ := hnd
    obtain ⟨i, hi⟩ := List.getElem?_of_mem hmem
    exact ⟨i, step_isSome hi (localStep_isSome_free hout hd)⟩
  | true =>
    have h1 := hI.lock
    rw [hout] at h1
    obtain ⟨i, a, hi, ha⟩ := exists_of_sumBy_pos holdsOut (by rw [h1]; decide)
    exact ⟨i, step_isSome hi (localStep_isSome_holder ha)⟩

theorem step_none_of_done {s : State} (t : ThreadId) (hd : s.allDone = true) : step s t = none := by
  unfold step stepEv
  cases hget : s.threads[t]? with
  | none => rfl
  | some th =>
    have : th.isDone = true := by
      simp only [State.allDone, List.all_eq_true] at hd
      exact hd th (List.mem_of_getElem? hget)
    rcases th with pc | pc <;> cases pc <;> first | rfl | (simp [Thread.isDone, Thread.outcome] at this)

theorem fair_termination {s : State} (hI : Inv s) (rounds : List (List ThreadId))
    (hfair : ∀ r ∈ rounds, ∀ t, t < s.threads.length → t ∈ r) (hlen : mu s ≤ rounds.length) :
    (run s rounds.flatten).allDone = true :=
  Proofs.Sched.fair_termination (step := step) (done := State.allDone)
    (I := fun s' => Inv s' ∧ s'.threads.length = s.threads.length)
    (fun h hs => (step_some hs).elim fun _ he => ⟨h.1.step he, (stepEv_length he).trans h.2⟩)
    (fun _ hs => (step_some hs).elim fun _ he => (step_measure he).1)
    (fun h hnd => h.2 ▸ exists_enabled h.1 hnd) step_none_of_done ⟨hI, rfl⟩ rounds hfair hlen

theorem localRem_le (a : Thread) : localRem a ≤ 8 := by
  rcases a with pc | pc <;> cases pc <;> simp [localRem]
theorem casRem_le (a : Thread) : casRem a ≤ 2 := by
  rcases a with pc | pc <;> cases pc <;> simp [casRem]

theorem casRem_init (kinds : List Kind) :
    sumBy casRem (initOf kinds).threads = 2 * kinds.count .writer + kinds.count .closer := by
  simp only [initOf]
  induction kinds with
  | nil => rfl
  | cons k ks ih => cases k <;> simp [sumBy, Thread.start, casRem, ih] <;> omega

theorem phi_init (kinds : List Kind) :
    phi (initOf kinds) = kinds.length * (2 * kinds.count .writer + kinds.count .closer) := by
  unfold phi
  rw [casRem_init, sumBy_init kinds _ rfl rfl, length_initOf, Nat.zero_add]

theorem count_kinds_le (kinds : List Kind) : kinds.count Kind.writer + kinds.count Kind.closer ≤ kinds.length := by
  induction kinds with
  | nil => simp
  | cons k ks ih => cases k <;> simp <;> omega

theorem mu_init_le (kinds : List Kind) : mu (initOf kinds) ≤ 8 * kinds.length + 6 * (kinds.length * kinds.length) := by
  unfold mu
  rw [phi_init]
  have h1 := sumBy_le_length localRem 8 localRem_le (initOf kinds).threads
  rw [length_initOf] at h1
  have h3 := count_kinds_le kinds
  have h4 : kinds.length * (2 * kinds.count .writer + kinds.count .closer) ≤ kinds.length * (2 * kinds.length) :=
    Nat.mul_le_mul_left _ (by omega)
  have h5 : kinds.length * (2 * kinds.length) = 2 * (kinds.length * kinds.length) := Nat.mul_left_comm _ _ _
  omega

/-- (a) fair termination — a schedule consisting of at least `8·N + 6·N²` rounds, each giving
    every one of the N goroutines at least one turn, finishes every Write and every Close (nobody spins or waits
    forever; in particular no deadlock on the `out` mutex);
    (b) any schedule whatsoever performs at most `8·N + 6·N²` actions in total;
    (c) the number of failed CASes of any schedule is at most `N·(2·writers + closers)`: a CAS fails only because
    another goroutine's CAS or Add(-2) succeeded in between, and there are at most `2·writers + closers` of those. -/
theorem progress (kinds : List Kind) :
    (∀ rounds : List (List ThreadId), (∀ r ∈ rounds, ∀ t, t < kinds.length → t ∈ r) →
        8 * kinds.length + 6 * (kinds.length * kinds.length) ≤ rounds.length →
        (run (initOf kinds) rounds.flatten).allDone = true) ∧
    (∀ sched, (trace (initOf kinds) sched).length ≤ 8 * kinds.length + 6 * (kinds.length * kinds.length)) ∧
    (∀ sched, (trace (initOf kinds) sched).countP (fun e => isCasFail e.act) ≤
        kinds.length * (2 * kinds.count .writer + kinds.count .closer)) := by
  have hmu := mu_init_le kinds
  refine ⟨?_, ?_, ?_⟩
  · intro rounds hfair hlen
    apply fair_termination (Inv.init kinds) rounds
    · intro r hr t ht
      rw [length_initOf] at ht
      exact hfair r hr t ht
    · omega
  · intro sched
    have := trace_length_le (initOf kinds) sched
    omega
  · intro sched
    have := trace_fails_le (initOf kinds) sched
    rw [phi_init] at this
    omega

def soloRun : Nat → Shared → Thread → Shared × Thread
  | 0, sh, th => (sh, th)
  | n+1, sh, th =>
    match localStep sh th with
    | none => (sh, th)
    | some (sh', th', _) => soloRun n sh' th'

theorem run_solo (n : Nat) : ∀ (sh : Shared) (l : List Thread) (t : ThreadId) (th : Thread), l[t]? = some th →
    run ⟨sh, l⟩ (List.replicate n t) = ⟨(soloRun n sh th).1, l.set t (soloRun n sh th).2⟩ := by
  induction n with
  | zero => intro sh l t th h; simp [soloRun, run_nil, set_same h]
  | succ n ih =>
    intro sh l t th h
    rw [List.replicate_succ, run_cons]
    cases hl : localStep sh th with
    | none =>
      have hn : stepEv ⟨sh, l⟩ t = none := by simp [stepEv, h, hl]
      rw [next_of_none hn, ih sh l t th h]
      have : ∀ m, soloRun m sh th = (sh, th) := by
        intro m; cases m <;> simp [soloRun, hl]
      rw [this n, this (n+1)]
    | some p =>
      obtain ⟨sh', th', a⟩ := p
      have hs : stepEv ⟨sh, l⟩ t = some (⟨sh', l.set t th'⟩, ⟨t, a⟩) := by simp [stepEv, h, hl]
      rw [next_of_some hs, ih sh' (l.set t th') t th' (getElem?_set_self_of th' h)]
      simp [soloRun, hl, List.set_set]

/-- between the calls of a sequential execution: nobody is inside a call, the `out` mutex is free -/
def Idle (sh : Shared) (closed : Bool) : Prop := sh.activeCall = (if closed then closedBit else 0) ∧ sh.outHeld = false

/-- result of a call made on an idle connection -/
def verdict (closed : Bool) : Outcome := if closed then .errClosed else .ok
def finished : Kind → Outcome → Thread
  | .writer, o => .writer (.done o)
  | .closer, o => .closer (.done o)

/-- one whole call on an idle connection (the sequential semantics): a Write or Close on a closed connection
    returns errClosed and changes nothing; on an open one it succeeds, and Close sets the closed bit -/
theorem solo_call (sh : Shared) (c : Bool) (k : Kind) (hI : Idle sh c) :
    (soloRun soloSteps sh (Thread.start k)).2 = finished k (verdict c) ∧
    Idle (soloRun soloSteps sh (Thread.start k)).1 (c || k == .closer) := by
  obtain ⟨sh_ac, sh_held, sh_cu, sh_cc, sh_cn, sh_rw, sh_bw, sh_sw⟩ := sh
  obtain ⟨h1, h2⟩ := hI
  simp only at h1 h2
  subst h1 h2
  rcases sh_cn with _ | m <;> cases sh_cu <;> cases c <;> cases k <;> simp [soloSteps, soloRun, localStep, Thread.start, isClosed, closedMask, closedBit, addWriter,
    writeInc, subWriter, releaseDec, setClosed, writesInFlight, finished, verdict, Idle]

theorem seqSchedule_nil : seqSchedule [] = [] := rfl
theorem seqSchedule_cons (t : ThreadId) (L : List ThreadId) :
    seqSchedule (t :: L) = List.replicate soloSteps t ++ seqSchedule L := by simp [seqSchedule]
theorem seqSchedule_append (A B : List ThreadId) : seqSchedule (A ++ B) = seqSchedule A ++ seqSchedule B := by
  simp [seqSchedule]

theorem block_run (s : State) (c : Bool) (hI : Idle s.toShared c) (t : ThreadId) (k : Kind)
    (ht : s.threads[t]? = some (Thread.start k)) :
    ∃ sh', run s (List.replicate soloSteps t) = ⟨sh', s.threads.set t (finished k (verdict c))⟩ ∧
      Idle sh' (c || k == .closer) := by
  have h := run_solo soloSteps s.toShared s.threads t _ ht
  have ⟨h1, h2⟩ := solo_call s.toShared c k hI
  exact ⟨_, by rw [← h1]; exact h, h2⟩

/-- a run of whole calls, one after the other, none of which changes the closed bit (Writes on an open
    connection, or any calls on a closed one) -/
theorem seq_phase (tgt : List Thread) (c : Bool) : ∀ (L : List ThreadId) (s : State), Idle s.toShared c → L.Nodup →
    (∀ t ∈ L, ∃ k, s.threads[t]? = some (Thread.start k) ∧ tgt[t]? = some (finished k (verdict c)) ∧
      (c = false → k = .writer)) →
    Idle (run s (seqSchedule L)).toShared c ∧ (∀ t ∈ L, (run s (seqSchedule L)).threads[t]? = tgt[t]?) ∧
      (∀ i, i ∉ L → (run s (seqSchedule L)).threads[i]? = s.threads[i]?) := by
  intro L
  induction L with
  | nil => intro s hI _ _; exact ⟨hI, by simp, fun _ _ => rfl⟩
  | cons t L ih =>
    intro s hI hnd hL
    obtain ⟨htL, hndL⟩ := List.nodup_cons.1 hnd
    obtain ⟨k, hk1, hk2, hk3⟩ := hL t (by simp)
    obtain ⟨sh', hrun, hidle⟩ := block_run s c hI t k hk1
    have hc : (c || k == Kind.closer) = c := by
      cases c with
      | true => rfl
      | false => rw [hk3 rfl]; rfl
    rw [hc] at hidle
    rw [seqSchedule_cons, run_append, hrun]
    have hfresh : ∀ t' ∈ L, ∃ k', (s.threads.set t (finished k (verdict c)))[t']? = some (Thread.start k') ∧
        tgt[t']? = some (finished k' (verdict c)) ∧ (c = false → k' = .writer) := by
      intro t' ht'
      obtain ⟨k', h1, h2, h3⟩ := hL t' (by simp [ht'])
      have hne : t ≠ t' := fun h => htL (h ▸ ht')
      exact ⟨k', by rw [List.getElem?_set_ne hne]; exact h1, h2, h3⟩
    obtain ⟨i1, i2, i3⟩ := ih ⟨sh', s.threads.set t (finished k (verdict c))⟩ hidle hndL hfresh
    refine ⟨i1, ?_, ?_⟩
    · intro t' ht'
      rcases List.mem_cons.1 ht' with rfl | ht'
      · rw [i3 t' htL, hk2]; exact getElem?_set_self_of _ hk1
      · exact i2 t' ht'
    · intro i hi
      have h1 : i ∉ L := fun h => hi (by simp [h])
      have h2 : t ≠ i := fun h => hi (by simp [h])
      rw [i3 i h1]; exact List.getElem?_set_ne h2

/-- the sequential semantics of an order in three phases on an idle, open connection: Writes `A`, then at most one
    Close `W`, then calls `C` that find the connection closed (there are none unless a Close came before): every
    goroutine of the order ends as `tgt` says -/
theorem seq_three (tgt : List Thread) {A W C : List ThreadId} {s : State} (hI : Idle s.toShared false)
    (hnd : (A ++ (W ++ C)).Nodup) (hW : W.length ≤ 1) (hWC : W = [] → C = [])
    (hA : ∀ t ∈ A, s.threads[t]? = some (Thread.start .writer) ∧ tgt[t]? = some (.writer (.done .ok)))
    (hWw : ∀ t ∈ W, s.threads[t]? = some (Thread.start .closer) ∧ tgt[t]? = some (.closer (.done .ok)))
    (hC : ∀ t ∈ C, ∃ k, s.threads[t]? = some (Thread.start k) ∧ tgt[t]? = some (finished k .errClosed)) :
    ∀ t ∈ A ++ (W ++ C), (run s (seqSchedule (A ++ (W ++ C)))).threads[t]? = tgt[t]? := by
  obtain ⟨hndA, hndWC, hdisj⟩ := List.nodup_append.1 hnd
  obtain ⟨a1, a2, a3⟩ := seq_phase tgt false A s hI hndA
    (fun t ht => ⟨.writer, (hA t ht).1, (hA t ht).2, fun _ => rfl⟩)
  rw [seqSchedule_append, run_append]
  match W, hW, hWC, hWw, hndWC, hdisj with
  | [], _, hWC, _, _, _ =>
    rw [hWC rfl]
    intro t ht
    exact a2 t (by simpa using ht)
  | [c], _, _, hWw, hndWC, hdisj =>
    obtain ⟨hcC, hndC⟩ := List.nodup_cons.1 hndWC
    have hcA : c ∉ A := fun h => hdisj c h c (by simp) rfl
    obtain ⟨sh2, hrun2, hidle2⟩ := block_run _ false a1 c .closer ((a3 c hcA).trans (hWw c (by simp)).1)
    obtain ⟨c1, c2, c3⟩ := seq_phase tgt true C
      ⟨sh2, (run s (seqSchedule A)).threads.set c (finished .closer (verdict false))⟩ hidle2 hndC (fun t ht => by
      obtain ⟨k, h1, h2⟩ := hC t ht
      have hne : c ≠ t := fun h => hcC (h ▸ ht)
      have htA : t ∉ A := fun h => hdisj t h t (by simp [ht]) rfl
      exact ⟨k, (List.getElem?_set_ne hne).trans ((a3 t htA).trans h1), h2, fun h => absurd h (by decide)⟩)
    rw [List.singleton_append, seqSchedule_cons, run_append, hrun2]
    intro t ht
    rcases List.mem_append.1 ht with htA | htC
    · have h1 : t ∉ C := fun h => hdisj t htA t (by simp [h]) rfl
      rw [c3 t h1]
      exact (List.getElem?_set_ne (fun h => hcA (by rw [h]; exact htA))).trans (a2 t htA)
    · rcases List.mem_cons.1 htC with rfl | htC
      · rw [c3 t hcC, (hWw t (by simp)).2]
        exact getElem?_set_self_of _ ((a3 t hcA).trans (hWw t (by simp)).1)
      · exact c2 t htC
  | _ :: _ :: _, hW, _, _, _, _ => simp at hW

theorem done_cases {g : Thread} (hd : g.isDone = true) :
    g = .writer (.done .ok) ∨ g = .closer (.done .ok) ∨ ∃ k, g = finished k .errClosed := by
  rcases g with pc | pc <;> cases pc <;> simp [Thread.isDone, Thread.outcome] at hd
  · rename_i o; cases o
    · exact Or.inl rfl
    · exact Or.inr (Or.inr ⟨.writer, rfl⟩)
  · rename_i o; cases o
    · exact Or.inr (Or.inl rfl)
    · exact Or.inr (Or.inr ⟨.closer, rfl⟩)

theorem start_kind (k : Kind) : (Thread.start k).kind = k := by cases k <;> rfl
theorem finished_kind (k : Kind) (o : Outcome) : (finished k o).kind = k := by cases k <;> rfl

theorem init_getElem? (kinds : List Kind) (sched : List ThreadId) {i : Nat} {g : Thread}
    (h : (run (initOf kinds) sched).threads[i]? = some g) : (initOf kinds).threads[i]? = some (Thread.start g.kind) := by
  have hk := run_kinds (initOf kinds) sched
  have h0 : (initOf kinds).threads.map Thread.kind = kinds := by
    simp only [initOf, List.map_map]
    have : Thread.kind ∘ Thread.start = id := by funext k; exact start_kind k
    rw [this, List.map_id]
  rw [h0] at hk
  have h1 : kinds[i]? = some g.kind := by
    rw [← hk, List.getElem?_map, h]; rfl
  simp only [initOf, List.getElem?_map, h1]; rfl

theorem winner_of_errClosed {s : State} (hI : Inv s) {i : Nat} {k : Kind} (h : s.threads[i]? = some (finished k .errClosed)) :
    ∃ (c : Nat) (a : Thread), s.threads[c]? = some a ∧ 0 < wonClose a := by
  have h1 := le_sumBy doneErr (List.mem_of_getElem? h)
  have h2 : doneErr (finished k .errClosed) = 1 := by cases k <;> rfl
  have h3 := hI.errClosed
  have h4 := hI.counter
  simp only [writeInc, closedBit] at h4
  apply exists_of_sumBy_pos wonClose
  omega

theorem won_done {a : Thread} (hw : 0 < wonClose a) (hd : a.isDone = true) : a = .closer (.done .ok) := by
  rcases done_cases hd with rfl | rfl | ⟨k, rfl⟩
  · simp [wonClose] at hw
  · rfl
  · cases k <;> simp [wonClose, finished] at hw

theorem length_le_one_of_all_eq {l : List Nat} (hn : l.Nodup) (h : ∀ a ∈ l, ∀ b ∈ l, a = b) : l.length ≤ 1 :=
  match l, hn, h with
  | [], _, _ => Nat.zero_le _
  | [_], _, _ => Nat.le_refl _
  | a :: b :: _, hn, h => absurd (h a (by simp) b (by simp) ▸ List.mem_cons_self ..) (List.nodup_cons.1 hn).1

/-- Take any complete execution (every call has returned) of any mix of Writes and
    Closes under any schedule.  There is a sequential order of the same goroutines — all the Writes that got
    through, then the Close that won (if any), then everybody else — such that running the calls one after
    the other in that order (`seqSchedule`: each goroutine runs to completion before the next one starts)
    gives every goroutine exactly the result it got in the concurrent execution. -/
theorem linearizable_outcomes (kinds : List Kind) (sched : List ThreadId)
    (hdone : (run (initOf kinds) sched).allDone = true) :
    ∃ okWriters winner rest : List ThreadId,
      (okWriters ++ winner ++ rest).Perm (List.range kinds.length) ∧ winner.length ≤ 1 ∧
      (∀ t ∈ okWriters, (run (initOf kinds) sched).threads[t]? = some (.writer (.done .ok))) ∧
      (∀ t ∈ winner, (run (initOf kinds) sched).threads[t]? = some (.closer (.done .ok))) ∧
      (∀ t ∈ rest, ∃ k, (run (initOf kinds) sched).threads[t]? = some (finished k .errClosed)) ∧
      (run (initOf kinds) (seqSchedule (okWriters ++ winner ++ rest))).threads =
        (run (initOf kinds) sched).threads := by
  have hR : Reachable (run (initOf kinds) sched) := ⟨kinds, sched, rfl⟩
  have hstart : ∀ (i : Nat) (g : Thread), (run (initOf kinds) sched).threads[i]? = some g →
      (initOf kinds).threads[i]? = some (Thread.start g.kind) := fun i g h => init_getElem? kinds sched h
  have hlen : (run (initOf kinds) sched).threads.length = kinds.length := by rw [run_length, length_initOf]
  have hd : ∀ (i : Nat) (g : Thread), (run (initOf kinds) sched).threads[i]? = some g → g.isDone = true := by
    intro i g h
    simp only [State.allDone, List.all_eq_true] at hdone
    exact hdone g (List.mem_of_getElem? h)
  generalize run (initOf kinds) sched = F at hR hstart hlen hd
  let p : Nat → Bool := fun i => decide (F.threads[i]? = some (.writer (.done .ok)))
  let q : Nat → Bool := fun i => decide (F.threads[i]? = some (.closer (.done .ok)))
  have hperm : ((List.range kinds.length).filter p ++ (((List.range kinds.length).filter (fun i => !p i)).filter q ++
      ((List.range kinds.length).filter (fun i => !p i)).filter (fun i => !q i))).Perm (List.range kinds.length) :=
    (List.Perm.append_left _ (List.filter_append_perm q _)).trans (List.filter_append_perm p _)
  have hA : ∀ t ∈ (List.range kinds.length).filter p, F.threads[t]? = some (.writer (.done .ok)) :=
    fun t ht => of_decide_eq_true (List.mem_filter.1 ht).2
  have hW : ∀ t ∈ ((List.range kinds.length).filter (fun i => !p i)).filter q,
      F.threads[t]? = some (.closer (.done .ok)) := fun t ht => of_decide_eq_true (List.mem_filter.1 ht).2
  have hWmem : ∀ c, F.threads[c]? = some (.closer (.done .ok)) →
      c ∈ ((List.range kinds.length).filter (fun i => !p i)).filter q := by
    intro c hc
    have := (List.getElem?_eq_some_iff.1 hc).1
    simp [List.mem_filter, p, q, hc]; omega
  have hC : ∀ t ∈ ((List.range kinds.length).filter (fun i => !p i)).filter (fun i => !q i),
      ∃ k, F.threads[t]? = some (finished k .errClosed) := by
    intro t ht
    obtain ⟨hB, hq⟩ := List.mem_filter.1 ht
    obtain ⟨hr, hp⟩ := List.mem_filter.1 hB
    have hg := List.getElem?_eq_getElem (l := F.threads) (i := t) (by have := List.mem_range.1 hr; omega)
    rcases done_cases (hd t _ hg) with h | h | ⟨k, h⟩
    · simp [p, hg, h] at hp
    · simp [q, hg, h] at hq
    · exact ⟨k, hg.trans (congrArg some h)⟩
  generalize (List.range kinds.length).filter p = A,
    ((List.range kinds.length).filter (fun i => !p i)).filter q = W,
    ((List.range kinds.length).filter (fun i => !p i)).filter (fun i => !q i) = C at hperm hA hW hWmem hC
  have hnd := hperm.nodup_iff.2 List.nodup_range
  have hW1 : W.length ≤ 1 := length_le_one_of_all_eq (List.nodup_append.1 (List.nodup_append.1 hnd).2.1).1
    fun a ha b hb => winner_unique hR (hW a ha) (hW b hb) rfl rfl
  have hWC : W = [] → C = [] := by
    intro hW0
    refine List.eq_nil_iff_forall_not_mem.2 fun t ht => ?_
    obtain ⟨k, hg⟩ := hC t ht
    obtain ⟨c, a, hca, hw⟩ := winner_of_errClosed hR.inv hg
    have := hWmem c (won_done hw (hd c a hca) ▸ hca)
    rw [hW0] at this; cases this
  refine ⟨A, W, C, by rwa [List.append_assoc], hW1, hA, hW, hC, ?_⟩
  rw [List.append_assoc]
  apply List.ext_getElem?
  intro i
  by_cases hi : i < kinds.length
  · exact seq_three F.threads ⟨rfl, rfl⟩ hnd hW1 hWC (fun t ht => ⟨hstart t _ (hA t ht), hA t ht⟩)
      (fun t ht => ⟨hstart t _ (hW t ht), hW t ht⟩)
      (fun t ht => (hC t ht).imp fun k hg => ⟨by have := hstart t _ hg; rwa [finished_kind] at this, hg⟩)
      i (hperm.mem_iff.2 (List.mem_range.2 hi))
  · rw [List.getElem?_eq_none (by rw [run_length, length_initOf]; omega), List.getElem?_eq_none (by omega)]

/-- the same, as a statement about the per-goroutine results only -/
theorem linearizable_outcomes_perm (kinds : List Kind) (sched : List ThreadId)
    (hdone : (run (initOf kinds) sched).allDone = true) :
    ∃ order : List ThreadId, order.Perm (List.range kinds.length) ∧
      (run (initOf kinds) (seqSchedule order)).outcomes = (run (initOf kinds) sched).outcomes := by
  obtain ⟨a, w, r, h1, -, -, -, -, h2⟩ := linearizable_outcomes kinds sched hdone
  exact ⟨_, h1, by simp only [State.outcomes, h2]⟩

/-- the model's constants are the ones the fact extractor reads out of conn.go (`Gen.Conn`, regenerated by every
    check): `x+2`, `x|1`, `Add(-2)`, `x&1` -/
theorem constants_pinned :
    writeInc = Gen.Conn.writeInc ∧ closedBit = Gen.Conn.closedBit ∧ releaseDec = Gen.Conn.releaseDec ∧
    closedMask = Gen.Conn.writeMask ∧ closedMask = Gen.Conn.closeMask := by decide

/-- what the proofs need of the constants: the mask tests the bit Close sets, that bit is below the Write
    increment, and the release undoes exactly one increment -/
theorem constants_coherent : closedMask = closedBit ∧ closedBit < writeInc ∧ releaseDec = writeInc ∧ writeInc % 2 = 0 := by
  decide

/-! ## non-vacuity: concrete executions (2 Writes = goroutines 0,1; 2 Closes = goroutines 2,3) -/

/-- Write 0 gets through, Close 2 wins while Write 0 is in flight (x = 2, so no close_notify), Write 0 completes,
    the connection is closed; Write 1 and Close 3 come later and get errClosed -/
def schedLoud : List ThreadId := [0,0,0, 2,2,2,2, 0,0,0,0, 2, 1,1, 3,3]

example : (run (init 2 2) schedLoud).outcomes = [some .ok, some .errClosed, some .ok, some .errClosed] := by decide
example : (run (init 2 2) schedLoud).closeNotifySent = 0 ∧ (run (init 2 2) schedLoud).recordsWritten = 1 ∧
    (run (init 2 2) schedLoud).connCloses = 1 ∧ (run (init 2 2) schedLoud).activeCall = 1 := by decide
/-- in the middle of it: one Write in flight and the closed bit set: activeCall = 2·1 + 1 -/
example : (run (init 2 2) (schedLoud.take 6)).activeCall = 3 ∧ writersInFlight (run (init 2 2) (schedLoud.take 6)) = 1 ∧
    closeWon (run (init 2 2) (schedLoud.take 6)) = 1 := by decide
/-- the sequential order Write 0, Close 2, Write 1, Close 3 gives the same results -/
example : (run (init 2 2) (seqSchedule [0, 2, 1, 3])).outcomes = (run (init 2 2) schedLoud).outcomes := by decide +kernel
/-- but sequentially the Close is quiet and does send close_notify -/
example : (run (init 2 2) (seqSchedule [0, 2, 1, 3])).closeNotifySent = 1 := by decide +kernel

/-- both Writes in flight at once (activeCall = 4), both finish, then Close 3 wins quietly and sends close_notify;
    Close 2 gets errClosed -/
def schedQuiet : List ThreadId := [0,0,0, 1,1,1, 0,0,0, 1, 1,1,1, 0, 3,3,3,3,3,3,3,3, 2,2]

example : (run (init 2 2) (schedQuiet.take 6)).activeCall = 4 := by decide
/-- Write 1 waits for the `out` mutex held by Write 0: its turn is lost -/
example : step (run (init 2 2) (schedQuiet.take 8)) 1 = none ∧ (run (init 2 2) (schedQuiet.take 8)).outHeld = true := by
  decide
example : (run (init 2 2) schedQuiet).outcomes = [some .ok, some .ok, some .errClosed, some .ok] ∧
    (run (init 2 2) schedQuiet).closeNotifySent = 1 ∧ (run (init 2 2) schedQuiet).recordsWritten = 2 ∧
    (run (init 2 2) schedQuiet).allDone = true := by decide

/-- a failed CAS: Write 0 and Close 2 both load 0; Close 2's CAS wins; Write 0's CAS(0, 2) fails, it reloads,
    sees the closed bit and returns errClosed.  Close 3 loaded 0 as well: its CAS fails too, then errClosed. -/
def schedRace : List ThreadId := [0,0, 3,3, 2,2,2, 0, 0,0, 3, 3,3, 2,2,2,2,2, 1,1]

example : (trace (init 2 2) schedRace).countP (fun e => isCasFail e.act) = 2 ∧
    (trace (init 2 2) schedRace).countP (fun e => isCCasOk e.act) = 1 := by decide
example : (run (init 2 2) schedRace).outcomes = [some .errClosed, some .errClosed, some .ok, some .errClosed] ∧
    (run (init 2 2) schedRace).closeNotifySent = 1 := by decide

/-- a Write that was in flight when Close tore the connection down finds the underlying connection closed
    (its record is not written): the interlock lets this happen by design ("Close is really just being used
    to break the Write") -/
def schedBroken : List ThreadId := [0,0,0, 2,2,2,2,2, 0,0,0,0]

example : (run (init 2 2) schedBroken).brokenWrites = 1 ∧ (run (init 2 2) schedBroken).recordsWritten = 0 ∧
    (run (init 2 2) schedBroken).closeNotifySent = 0 ∧
    (run (init 2 2) schedBroken).outcomes = [some .ok, none, some .ok, none] := by decide

/-- the hypotheses of `linearizable_outcomes` and `progress` are satisfiable: 16 round-robin rounds finish
    2 + 2 goroutines -/
example : (run (init 2 2) (List.replicate 16 [0, 1, 2, 3]).flatten).allDone = true := by decide +kernel
end Props.C20Interlock

