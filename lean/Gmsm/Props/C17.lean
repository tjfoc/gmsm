/-
C17 — PKCS#7 / PKCS#12 containers return what was put in, only to the right holder.
Theorems about `Model.BER` (length octets, block padding, BMPString codec) and `Model.PKCS7`
(signed-data verdict, enveloped-data recipient handling).
-/
import Gmsm.Model.PKCS7
import Gmsm.Proofs.BERParse
import Gmsm.Proofs.BytesNat
import Gmsm.Proofs.ListLemmas
namespace Props.C17
open Gmsm

section BER
open Model.BER

theorem marshalLong_succ (L n : Nat) :
    marshalLong (L + 1) n = BitVec.ofNat 8 (n / 256 ^ L) :: marshalLong L n := by
  unfold marshalLong
  rw [List.range_succ_eq_map, List.map_cons, List.map_map]
  congr 2
  funext k
  simp only [Function.comp, Nat.add_sub_cancel, Nat.succ_eq_add_one]
  rw [show L - (k + 1) = L - 1 - k by omega]

theorem marshalLong_length (L n : Nat) : (marshalLong L n).length = L := by
  unfold marshalLong; rw [List.length_map, List.length_range]

theorem os2ip_marshalLong (L n : Nat) : os2ip (marshalLong L n) = n % 256 ^ L := by
  induction L with
  | zero => rw [Nat.pow_zero, Nat.mod_one]; rfl
  | succ L ih =>
    rw [marshalLong_succ, os2ip_cons, ih, marshalLong_length, BitVec.toNat_ofNat]
    show n / 256 ^ L % 256 * 256 ^ L + n % 256 ^ L = n % (256 ^ L * 256)
    rw [Nat.mod_mul, Nat.mul_comm, Nat.add_comm]

theorem lengthLength_of_le (f : Nat) {n : Nat} (h : n ≤ 255) : lengthLength f n = 1 := by
  cases f with
  | zero => rfl
  | succ f => rw [lengthLength, if_neg (by omega)]

/-- `lengthLength f n` is the number of base-256 digits of `n` (one for 0), while that is at most `f + 1` -/
theorem lengthLength_spec : ∀ (f n : Nat), n < 256 ^ (f + 1) →
    n < 256 ^ lengthLength f n ∧ (0 < n → 256 ^ lengthLength f n ≤ 256 * n) := by
  intro f
  induction f with
  | zero =>
    intro n h
    show n < 256 ^ 1 ∧ (0 < n → 256 ^ 1 ≤ 256 * n)
    omega
  | succ f ih =>
    intro n h
    by_cases hn : n ≤ 255
    · rw [lengthLength_of_le _ hn]; omega
    · rw [Nat.pow_succ] at h
      obtain ⟨h1, h2⟩ := ih (n / 256) (by omega)
      rw [lengthLength, if_pos (by omega), Nat.add_comm, Nat.pow_succ]
      generalize 256 ^ lengthLength f (n / 256) = p at h1 h2
      omega

theorem encodeLength_short (n : Nat) (h : n < 128) : encodeLength n = [BitVec.ofNat 8 n] := by
  unfold encodeLength; rw [if_neg (by omega)]

theorem encodeLength_ne_nil (n : Nat) : encodeLength n ≠ [] := by
  unfold encodeLength; split <;> nofun

/-- The length octets `encodeLength` writes are read back by `readLength` as the
    same number, definite, consuming exactly those octets — for every length below 2^31 (Go `int`
    lengths `readObject` accepts), in particular on both sides of the 127/128 boundary. -/
theorem length_roundtrip (n : Nat) (h : n < 2 ^ 31) (rest : Bytes) :
    readLength (encodeLength n ++ rest) 1 ((encodeLength n).headD 0) =
      .ok (n, (encodeLength n).length, false) := by
  by_cases h0 : n < 128
  · have t := toNat_ofNat8 n (by omega)
    rw [encodeLength_short n h0, List.headD_cons]
    exact Props.C18.readLength_eq_ok.mpr (.inl ⟨by omega, by rw [t]; rfl⟩)
  · have e : encodeLength n = BitVec.ofNat 8 (0x80 + lengthLength 8 n) :: marshalLong (lengthLength 8 n) n := by
      unfold encodeLength; rw [if_pos (by omega)]
    obtain ⟨hlt, hge⟩ := lengthLength_spec 8 n (Nat.lt_trans h (by decide))
    have hge := hge (by omega)
    rw [e, List.headD_cons]
    generalize lengthLength 8 n = L at hlt hge
    -- `n` has `L` digits and is below 2^31, so `L ≤ 4`, and the first digit is below 0x80 when `L = 4`
    have hL : L < 5 := (Nat.pow_lt_pow_iff_right (a := 256) (by decide)).mp (by omega)
    have t := toNat_ofNat8 (0x80 + L) (by omega)
    cases L with
    | zero => omega
    | succ k =>
      rw [Nat.pow_succ] at hlt hge
      have hp : 0 < 256 ^ k := Nat.pow_pos (by decide)
      have hq := toNat_ofNat8 (n / 256 ^ k) ((Nat.div_lt_iff_lt_mul hp).mpr (by omega))
      have hq0 : 0 < n / 256 ^ k := Nat.div_pos (by omega) hp
      refine Props.C18.readLength_eq_ok.mpr (.inr (.inr ⟨by omega, by omega, ?_, ?_, ?_, ?_⟩))
      · rw [t, List.length_append, List.length_cons, marshalLong_length]; omega
      · rw [marshalLong_succ, t]
        show ¬ (_ ∧ 0x7F < (BitVec.ofNat 8 (n / 256 ^ k)).toNat)
        rw [hq]
        rintro ⟨hk, hneg⟩
        have : k = 3 := by omega
        subst this
        omega
      · rw [marshalLong_succ]
        show (BitVec.ofNat 8 (n / 256 ^ k)).toNat ≠ 0
        omega
      · rw [t, show (128 + (k + 1)) % 128 = k + 1 by omega, List.cons_append, List.drop_succ_cons, List.drop_zero,
          List.take_left' (marshalLong_length _ _), os2ip_marshalLong, Nat.pow_succ, Nat.mod_eq_of_lt hlt,
          List.length_cons, marshalLong_length, Nat.add_comm]

theorem lengthLength_le : ∀ f m, lengthLength f m ≤ f + 1 := by
  intro f
  induction f with
  | zero => intro m; simp [lengthLength]
  | succ f ih =>
    intro m
    unfold lengthLength
    split
    · have := ih (m / 256); omega
    · omega

/-- the two forms never collide: a length ≥ 128 is never written in the short form (the repaired
    boundary: before the repair 128 was written as the single octet 0x80, which reads back as "indefinite") -/
theorem encodeLength_long (n : Nat) (h : 128 ≤ n) :
    ∃ l rest, encodeLength n = BitVec.ofNat 8 (0x80 + l) :: rest ∧ 1 ≤ l ∧ l ≤ 9 := by
  unfold encodeLength
  rw [if_pos h]
  exact ⟨lengthLength 8 n, _, rfl, by unfold lengthLength; split <;> omega, lengthLength_le 8 n⟩

theorem guard_eq_some {α : Type} {c : Prop} [Decidable c] {x : Option α} {a : α} :
    (if c then none else x) = some a ↔ ¬ c ∧ x = some a := by
  by_cases h : c
  · rw [if_pos h]; exact ⟨nofun, fun h' => absurd h h'.1⟩
  · rw [if_neg h]; exact ⟨fun h' => ⟨h, h'⟩, fun h' => h'.2⟩

/-- For every content and block length 1..255 (8 for DES, 16 for AES), removing the
    padding that `pad` added returns the content. -/
theorem unpad_pad (data : Bytes) (bl : Nat) (h1 : 1 ≤ bl) (h2 : bl ≤ 255) :
    (pad data bl).bind (fun p => unpad p bl) = some data := by
  have hm := Nat.mod_lt data.length h1
  unfold pad
  rw [if_neg (by omega)]
  show unpad _ bl = some data
  generalize hk : bl - data.length % bl = k
  have hknat := toNat_ofNat8 k (by omega)
  have hlen : (data ++ List.replicate k (BitVec.ofNat 8 k)).length = data.length + k := by
    rw [List.length_append, List.length_replicate]
  have hdiv : (data.length + k) % bl = 0 := by
    have e : data.length + k = bl * (data.length / bl + 1) := by
      have := Nat.div_add_mod data.length bl
      rw [Nat.mul_add]; omega
    rw [e]; exact Nat.mul_mod_right _ _
  unfold unpad
  rw [if_neg (by omega), hlen, if_neg (by omega)]
  dsimp only
  rw [getLastD_append_replicate _ _ _ _ (by omega), hknat, if_neg (by omega), Nat.add_sub_cancel, List.drop_left,
    List.take_left, if_pos]
  rw [List.all_replicate, hknat, Nat.mod_eq_of_lt (by omega), beq_self_eq_true, ite_self]

/-- `unpad` only ever removes 1..bl bytes that all carry their count: what it accepts is what `pad`
    writes for the returned content (no other plaintext is hidden behind a valid padding) -/
theorem unpad_sound (data out : Bytes) (bl : Nat) (h : unpad data bl = some out) :
    ∃ k, 1 ≤ k ∧ k ≤ bl ∧ data.length = out.length + k ∧ out = data.take (data.length - k) := by
  unfold unpad at h
  rw [guard_eq_some, guard_eq_some] at h
  obtain ⟨h1, h2, h⟩ := h
  dsimp only at h
  rw [guard_eq_some] at h
  obtain ⟨h3, h⟩ := h
  split at h
  · cases h
    have : bl ≤ data.length := Nat.le_of_dvd (by omega) (Nat.dvd_of_mod_eq_zero (by omega))
    exact ⟨(data.getLastD 0).toNat, by omega, by omega, by rw [List.length_take]; omega, rfl⟩
  · cases h

end BER

section BMP
open Model.BER

def enc2 (r : Nat) : Bytes := [BitVec.ofNat 8 (r / 256), BitVec.ofNat 8 (r % 256)]

theorem pairs_length (rs : List Nat) : (rs.flatMap enc2).length = 2 * rs.length := by
  induction rs with
  | nil => rfl
  | cons r rs ih => simp [List.flatMap_cons, enc2, ih]; omega

theorem pairs_get (rs : List Nat) (i : Nat) (hi : i < rs.length) (hr : ∀ r ∈ rs, r < 0x10000) :
    ((rs.flatMap enc2).getD (2 * i) 0).toNat * 256 + ((rs.flatMap enc2).getD (2 * i + 1) 0).toNat = rs[i] := by
  induction rs generalizing i with
  | nil => simp at hi
  | cons r rs ih =>
    have hr0 : r < 0x10000 := hr r (by simp)
    cases i with
    | zero =>
      simp [List.flatMap_cons, enc2, BitVec.toNat_ofNat]
      omega
    | succ i =>
      have := ih i (by simpa using hi) (fun x hx => hr x (by simp [hx]))
      have e1 : 2 * (i + 1) = 2 * i + 2 := by omega
      have e2 : 2 * (i + 1) + 1 = 2 * i + 1 + 2 := by omega
      simp only [List.flatMap_cons, enc2, e1, List.cons_append, List.nil_append, List.getD_eq_getElem?_getD,
        List.getElem?_cons_succ, List.getElem_cons_succ] at this ⊢
      exact this

/-- Every password whose characters lie in the Basic Multilingual Plane (empty, ASCII,
    Cyrillic, CJK, embedded NUL …) is encoded and decoded back to the same code points. -/
theorem bmp_roundtrip (rs : List Nat) (hr : ∀ r ∈ rs, r < 0x10000) :
    (bmpString rs).bind decodeBMPString = some rs := by
  have hall : rs.all (fun r => decide (r < 0x10000)) = true := by
    simp only [List.all_eq_true, decide_eq_true_eq]; exact hr
  unfold bmpString
  rw [if_pos hall]
  simp only [Option.bind_some]
  have hf : rs.flatMap (fun r => [BitVec.ofNat 8 (r / 256), BitVec.ofNat 8 (r % 256)]) = rs.flatMap enc2 := rfl
  rw [hf]
  have hl := pairs_length rs
  unfold decodeBMPString
  have hlen : (rs.flatMap enc2 ++ [0, 0]).length = 2 * rs.length + 2 := by simp [hl]
  rw [hlen, if_neg (by omega)]
  have g1 : (rs.flatMap enc2 ++ [0, 0]).getD (2 * rs.length + 2 - 1) 1 = 0 := by
    have : 2 * rs.length + 2 - 1 = (rs.flatMap enc2).length + 1 := by omega
    rw [this]; simp [List.getD_eq_getElem?_getD]
  have g2 : (rs.flatMap enc2 ++ [0, 0]).getD (2 * rs.length + 2 - 2) 1 = 0 := by
    have : 2 * rs.length + 2 - 2 = (rs.flatMap enc2).length + 0 := by omega
    rw [this]; simp [List.getD_eq_getElem?_getD]
  simp only [g1, g2, and_self, and_true]
  rw [if_pos (by omega)]
  have ht : (rs.flatMap enc2 ++ [0, 0]).take (2 * rs.length + 2 - 2) = rs.flatMap enc2 := by
    have : 2 * rs.length + 2 - 2 = (rs.flatMap enc2).length := by omega
    rw [this, List.take_left]
  simp only [ht, hl]
  congr 1
  apply List.ext_getElem
  · simp
  · intro i h1 h2
    simp only [List.getElem_map, List.getElem_range]
    have hi : i < rs.length := by simpa using h1
    exact pairs_get rs i hi hr

/-- different passwords have different encodings (so the MAC / PBE keys are derived from different bytes) -/
theorem bmpString_injective (a b : List Nat) (ha : ∀ r ∈ a, r < 0x10000) (hb : ∀ r ∈ b, r < 0x10000)
    (h : bmpString a = bmpString b) : a = b := by
  have ra := bmp_roundtrip a ha
  have rb := bmp_roundtrip b hb
  rw [h, rb] at ra
  exact (Option.some.inj ra).symm

/-- a character outside the BMP is refused, never truncated to 16 bits -/
theorem bmpString_rejects_astral (a b : List Nat) (r : Nat) (h : 0x10000 ≤ r) : bmpString (a ++ r :: b) = none := by
  unfold bmpString
  rw [if_neg]
  simp only [List.all_eq_true, decide_eq_true_eq]
  intro hall
  have := hall r (by simp)
  omega

end BMP

section Signed
open Model.PKCS7

/-- The verdict on one signer: it is accepted exactly when its
    digest algorithm is known, its certificate is in the container, the (digest, encryption) pair names a
    signature algorithm, and the signature — by the certified key — covers the content itself (no signed
    attributes) or the DER SET of signed attributes, whose message-digest attribute must equal the digest
    of the content. -/
theorem verify_signer_iff (P : Prims) (content : Bytes) (certs : List Cert) (s : Signer) :
    verifySigner P content certs s = .ok () ↔
      ∃ h c a, getHashForOID s.digestAlg = some h ∧ findCert certs s.ias = some c ∧
        getSignatureAlgorithmByHash h s.encAlg = some a ∧
        ((s.attrs = [] ∧ P.check c.key a content s.sig = true) ∨
         (s.attrs ≠ [] ∧ messageDigestOf s.attrs = some (P.hash h content) ∧
            P.check c.key a (P.derAttrs s.attrs) s.sig = true)) := by
  unfold verifySigner
  cases hh : getHashForOID s.digestAlg with
  | none => simp
  | some h =>
    simp only [Option.some.injEq, exists_and_left, exists_eq_left']
    by_cases ha : s.attrs = []
    · simp only [ha, List.length_nil, Nat.lt_irrefl, if_false, true_and, ne_eq, not_true_eq_false, false_and, or_false]
      cases hc : findCert certs s.ias with
      | none => simp
      | some c =>
        cases hal : getSignatureAlgorithmByHash h s.encAlg with
        | none => simp
        | some a =>
          simp only [Option.some.injEq, exists_eq_left']
          by_cases hk : P.check c.key a content s.sig = true <;> simp [hk]
    · have hl : s.attrs.length > 0 := List.length_pos_iff.mpr ha
      simp only [hl, if_true, ha, false_and, ne_eq, not_false_eq_true, true_and, false_or]
      cases hm : messageDigestOf s.attrs with
      | none => simp
      | some d =>
        by_cases hd : d = P.hash h content
        · simp only [hd, if_true, true_and]
          cases hc : findCert certs s.ias with
          | none => simp
          | some c =>
            cases hal : getSignatureAlgorithmByHash h s.encAlg with
            | none => simp
            | some a =>
              simp only [Option.some.injEq, exists_eq_left']
              by_cases hk : P.check c.key a (P.derAttrs s.attrs) s.sig = true <;> simp [hk]
        · simp [hd]

theorem verifyAll_ok_iff (P : Prims) (content : Bytes) (certs : List Cert) (l : List Signer) :
    verifyAll P content certs l = .ok () ↔ ∀ x ∈ l, verifySigner P content certs x = .ok () := by
  induction l with
  | nil => simp [verifyAll]
  | cons x xs ih =>
    unfold verifyAll
    cases hx : verifySigner P content certs x with
    | error e => simp [hx]
    | ok u => simp [hx, ih]

/-- A signed-data object verifies exactly when it has at least one signer and every
    signer is accepted. -/
theorem verify_iff (P : Prims) (content : Bytes) (certs : List Cert) (signers : List Signer) :
    verify P content certs signers = .ok () ↔
      signers ≠ [] ∧ ∀ s ∈ signers, verifySigner P content certs s = .ok () := by
  unfold verify
  by_cases h : signers = []
  · simp [h]
  · have : signers.length ≠ 0 := by simpa using h
    simp [this, h, verifyAll_ok_iff]

/-- With signed attributes, an object that verifies for `content` is rejected for any other content unless
    the two have the same digest (a hash collision). -/
theorem content_bound (P : Prims) (c1 c2 : Bytes) (certs : List Cert) (s : Signer) (ha : s.attrs ≠ [])
    (h1 : verifySigner P c1 certs s = .ok ()) (h2 : verifySigner P c2 certs s = .ok ()) :
    ∃ h, getHashForOID s.digestAlg = some h ∧ P.hash h c1 = P.hash h c2 := by
  obtain ⟨h, _, _, hh, _, _, r1⟩ := (verify_signer_iff P c1 certs s).mp h1
  obtain ⟨h', _, _, hh', _, _, r2⟩ := (verify_signer_iff P c2 certs s).mp h2
  rw [hh] at hh'; cases hh'
  rcases r1 with ⟨e, _⟩ | ⟨_, m1, _⟩
  · exact absurd e ha
  · rcases r2 with ⟨e, _⟩ | ⟨_, m2, _⟩
    · exact absurd e ha
    · rw [m1] at m2; exact ⟨h, hh, Option.some.inj m2⟩

/-- Whatever is accepted carries a signature, valid under the key certified by the certificate the
    container holds for the signer's issuer and serial, over bytes that determine the content. -/
theorem accepted_is_signed (P : Prims) (content : Bytes) (certs : List Cert) (s : Signer)
    (h : verifySigner P content certs s = .ok ()) :
    ∃ c ∈ certs, c.ias = s.ias ∧ ∃ a, P.check c.key a (if s.attrs = [] then content else P.derAttrs s.attrs) s.sig = true := by
  obtain ⟨_, c, a, _, hc, _, r⟩ := (verify_signer_iff P content certs s).mp h
  have hm := List.mem_of_find?_eq_some hc
  have hp := List.find?_some hc
  refine ⟨c, hm, by simpa using hp, a, ?_⟩
  rcases r with ⟨e, k⟩ | ⟨e, _, k⟩
  · simp [e, k]
  · simp [e, k]

/-- the algorithm tables: the digest OIDs both name SM3 (repaired), and every pair the library's own
    signers write is recognised (RSA pairs were missing before the repair) -/
theorem tables_cover_own_output :
    getHashForOID .sm3 = some .sm3 ∧ getHashForOID .sm3Arc = some .sm3 ∧
    getSignatureAlgorithmByHash .sha1 .sha1WithRSA = some .sha1WithRSA ∧
    getSignatureAlgorithmByHash .sm3 .sm3WithSM2 = some .sm2WithSM3 := by decide

end Signed

section Enveloped
open Model.PKCS7

/-- the wrap / content-encryption primitives do what they are for -/
structure CorrectE (E : EPrims) : Prop where
  unwrap_wrap : ∀ id k, E.unwrap id (E.wrap id k) = some k
  dec_enc : ∀ k m, E.dec k (E.enc k m) = some m
  wrap_nonempty : ∀ id k, (E.wrap id k).isEmpty = false

theorem find_map_recip (E : EPrims) (cek : Bytes) (rs : List Cert) (c : Cert) (hc : c ∈ rs)
    (hd : ∀ a ∈ rs, ∀ b ∈ rs, a.ias = b.ias → a = b) :
    (rs.map (fun c => (⟨c.ias, E.wrap c.key cek⟩ : Recip))).find? (fun r => r.ias = c.ias) =
      some ⟨c.ias, E.wrap c.key cek⟩ := by
  induction rs with
  | nil => simp at hc
  | cons x xs ih =>
    simp only [List.map_cons, List.find?_cons]
    by_cases hx : x.ias = c.ias
    · have : x = c := hd x (by simp) c hc hx
      subst this; simp
    · simp only [hx, decide_false]
      have hc' : c ∈ xs := by
        rcases List.mem_cons.mp hc with e | e
        · exact absurd (by rw [e]) hx
        · exact e
      exact ih hc' (fun a ha b hb => hd a (by simp [ha]) b (by simp [hb]))

/-- For every content, content key, and list of recipients with pairwise distinct
    (issuer, serial), each recipient — presenting its certificate and its own private key — recovers
    exactly the content. -/
theorem recipient_recovers (E : EPrims) (hE : CorrectE E) (cek content : Bytes) (rs : List Cert) (c : Cert)
    (hc : c ∈ rs) (hd : ∀ a ∈ rs, ∀ b ∈ rs, a.ias = b.ias → a = b) :
    decrypt E (encrypt E cek content rs) c c.key = .ok content := by
  unfold decrypt encrypt selectRecipient
  simp [find_map_recip E cek rs c hc hd, hE.wrap_nonempty, hE.unwrap_wrap, hE.dec_enc]

/-- A certificate whose (issuer, serial) is not among the recipients gets an
    error whatever key accompanies it. -/
theorem non_recipient_rejected (E : EPrims) (cek content : Bytes) (rs : List Cert) (c : Cert) (sk : Nat)
    (hn : ∀ a ∈ rs, a.ias ≠ c.ias) :
    decrypt E (encrypt E cek content rs) c sk = .error .noRecipient := by
  unfold decrypt encrypt selectRecipient
  have : (rs.map (fun c => (⟨c.ias, E.wrap c.key cek⟩ : Recip))).find? (fun r => r.ias = c.ias) = none := by
    simp only [List.find?_eq_none, List.mem_map, decide_eq_true_eq, forall_exists_index, and_imp]
    intro r a ha e
    subst e
    exact hn a ha
  simp [this]

/-- A recipient's certificate with another key yields content only through that
    key's un-wrapping of the recipient's wrapped key; if the wrap scheme refuses foreign keys (SM2: the C3
    hash check; RSA PKCS#1 v1.5: the padding check — both probabilistic facts outside this model), the
    result is an error. -/
theorem other_key_partial (E : EPrims) (cek content : Bytes) (rs : List Cert) (c : Cert) (sk : Nat)
    (hc : c ∈ rs) (hd : ∀ a ∈ rs, ∀ b ∈ rs, a.ias = b.ias → a = b)
    (hrefuse : E.unwrap sk (E.wrap c.key cek) = none) :
    ∃ e, decrypt E (encrypt E cek content rs) c sk = .error e := by
  unfold decrypt encrypt selectRecipient
  simp only [find_map_recip E cek rs c hc hd, hrefuse]
  split <;> exact ⟨_, rfl⟩

/-- a toy scheme: three recipients, the second one decrypts -/
def toyE : EPrims where
  wrap id k := BitVec.ofNat 8 id :: k
  unwrap id w := match w with | t :: k => if t = BitVec.ofNat 8 id then some k else none | [] => none
  enc k m := k ++ m
  dec k b := if b.take k.length = k then some (b.drop k.length) else none

example : decrypt toyE (encrypt toyE [7] [1, 2, 3] [⟨⟨[1], 5⟩, 1⟩, ⟨⟨[1], 6⟩, 2⟩, ⟨⟨[2], 5⟩, 3⟩]) ⟨⟨[1], 6⟩, 2⟩ 2 = .ok [1, 2, 3] := by rfl
example : decrypt toyE (encrypt toyE [7] [1, 2, 3] [⟨⟨[1], 5⟩, 1⟩, ⟨⟨[1], 6⟩, 2⟩]) ⟨⟨[1], 6⟩, 2⟩ 1 = .error .unwrapFailed := by rfl

end Enveloped
end Props.C17
