/-
C15 (codec part) — the byte-level handshake message codecs of gmtls/handshake_messages.go and
gm_handshake_messages.go.  Theorems about `Model.TLSMessages`, which is tied to the Go code by the `hsmsg` op
(harness/c15codec.go, Driver/TLSMessages.lean: parsed fields and re-marshalled bytes compared line by line).

Theorem families (X a message; not every family exists for every message):
  * `unmarshalX_iff`            exactly which byte strings `unmarshal` accepts and what it returns for them:
                                which bytes are checked, which are ignored;
  * `unmarshalX_marshalX`       `unmarshal` reads back what `marshal` wrote, for every value inside the ranges
                                of the length fields (`WFX`);
  * `marshalX_unmarshalX`       what is accepted is, apart from the bytes the parser ignores, what `marshal`
                                writes for the returned value (canonical encoding); for Certificate,
                                CertificateRequest, CertificateVerify, ClientKeyExchange, ServerKeyExchange and
                                Finished only;
  * `unmarshalX_total_bounds`   every returned byte string is shorter than the input by at least the bytes in front
                                of it: a length field never makes the parser claim bytes that are not there (in Lean
                                the parser is total by construction, `none` standing for `return false`);
  * `unmarshalX_no_trailing`    where the parser is strict: an accepted message followed by anything is rejected;
                                where it is not, the tolerance is a theorem as well: `unmarshalFinished_any_tail`,
                                `unmarshalServerKeyExchange_iff` (everything after the header is the key),
                                `unmarshalCertificateStatus_other_trailing` (a type other than OCSP).
`certificateMsg` additionally: `no_stray_bytes`.  ServerHelloDone and HelloRequest (accepted iff the input has 4 bytes)
have `_iff` and `unmarshalX_marshalX` only.
The two hello messages (`clientHelloMsg`, `serverHelloMsg`) are not canonical — unknown extensions are skipped, known
ones may repeat, the header is ignored — and have only `unmarshalX_total_bounds` (`BoundedClientHello` /
`BoundedServerHello`) and `unmarshalX_marshalX` for every value in `WFClientHello` / `WFServerHello`, through all
ten / six extensions the code writes.  The accepted byte strings are characterised exactly only for the server_name and
status_request extensions of a ClientHello (Props.C15Strict: `chExtension_sni_iff`, `chExtension_ocsp_iff`).

The theorems are in Props.C15Codec.Simple (the messages with a fixed layout), .Certificate (certificateMsg and the
certificate requests) and .Hello; this module holds the tests.
-/
import Gmsm.Props.C15Codec.Certificate
import Gmsm.Props.C15Codec.Hello
namespace Props.C15Codec
open Gmsm Model.TLSMessages

-- a list of two certificates, the first one empty
example : unmarshalCertificate [11, 0, 0, 10, 0, 0, 7, 0, 0, 0, 0, 0, 1, 0xaa] = some ⟨[[], [0xaa]]⟩ := by decide
example : marshalCertificate ⟨[[], [0xaa]]⟩ = [11, 0, 0, 10, 0, 0, 7, 0, 0, 0, 0, 0, 1, 0xaa] := by decide
-- header bytes are not looked at
example : unmarshalCertificate [0, 0xff, 0xff, 0xff, 0, 0, 4, 0, 0, 1, 0xaa] = some ⟨[[0xaa]]⟩ := by decide
-- the empty list
example : unmarshalCertificate [11, 0, 0, 3, 0, 0, 0] = some ⟨[]⟩ := by decide
-- a list ending in an empty certificate: written by `marshal`, rejected by `unmarshal`
example : marshalCertificate ⟨[[0xaa], []]⟩ = [11, 0, 0, 10, 0, 0, 7, 0, 0, 1, 0xaa, 0, 0, 0] := by decide
example : unmarshalCertificate (marshalCertificate ⟨[[0xaa], []]⟩) = none := by decide
example : unmarshalCertificate (marshalCertificate ⟨[[]]⟩) = none := by decide
-- one, two, three stray bytes after the entries, every enclosing length adjusted
example : unmarshalCertificate [11, 0, 0, 8, 0, 0, 5, 0, 0, 1, 0xaa, 0xbb] = none := by decide
example : unmarshalCertificate [11, 0, 0, 9, 0, 0, 6, 0, 0, 1, 0xaa, 0xbb, 0xcc] = none := by decide
example : unmarshalCertificate [11, 0, 0, 10, 0, 0, 7, 0, 0, 1, 0xaa, 0xbb, 0xcc, 0xdd] = none := by decide
-- trailing byte, truncation
example : unmarshalCertificate [11, 0, 0, 7, 0, 0, 4, 0, 0, 1, 0xaa, 0] = none := by decide
example : unmarshalCertificate [11, 0, 0, 7, 0, 0, 4, 0, 0, 1] = none := by decide
example : WFCertificate ⟨[[], [0xaa]]⟩ := ⟨by decide, by decide, by simp [lastNonempty]⟩

example : unmarshalClientKeyExchange [16, 0, 0, 2, 1, 2] = some ⟨[1, 2]⟩ := by decide
example : unmarshalClientKeyExchange [16, 0, 0, 2, 1, 2, 3] = none := by decide
example : unmarshalClientKeyExchange [16, 0, 0, 3, 1, 2] = none := by decide
example : unmarshalFinished [20, 0, 0, 12, 1, 2, 3] = some ⟨[1, 2, 3]⟩ := by decide
example : unmarshalServerKeyExchange [12, 9, 9, 9] = some ⟨[]⟩ := by decide
example : unmarshalServerHelloDone [14, 0, 0, 0] = some ⟨⟩ := by decide
example : unmarshalServerHelloDone [14, 0, 0, 0, 0] = none := by decide
example : unmarshalHelloRequest [0, 0, 0] = none := by decide
example : unmarshalCertificateVerify false [15, 0, 0, 4, 0, 2, 7, 8] = some ⟨false, 0, [7, 8]⟩ := by decide
example : unmarshalCertificateVerify true [15, 0, 0, 6, 7, 7, 0, 2, 7, 8] = some ⟨true, 1799, [7, 8]⟩ := by decide
example : unmarshalCertificateVerify true [15, 0, 0, 4, 0, 2, 7, 8] = none := by decide
example : unmarshalNewSessionTicket [4, 0, 0, 8, 9, 9, 9, 9, 0, 2, 5, 6] = some ⟨[5, 6]⟩ := by decide
example : unmarshalCertificateRequest true [13, 0, 0, 13, 2, 1, 64, 0, 2, 7, 7, 0, 4, 0, 2, 5, 6] =
    some ⟨true, [1, 64], [1799], [[5, 6]]⟩ := by decide
example : unmarshalCertificateRequest false [13, 0, 0, 9, 2, 1, 64, 0, 4, 0, 0, 0, 0] =
    some ⟨false, [1, 64], [], [[], []]⟩ := by decide
example : unmarshalCertificateRequestGM [13, 0, 0, 4, 1, 64, 0, 0] = some ⟨[64], []⟩ := by decide
-- zero certificate types; a name list one byte short; a byte after the name list
example : unmarshalCertificateRequestGM [13, 0, 0, 3, 0, 0, 0] = none := by decide
example : unmarshalCertificateRequestGM [13, 0, 0, 7, 1, 64, 0, 3, 0, 2, 5] = none := by decide
example : unmarshalCertificateRequestGM [13, 0, 0, 5, 1, 64, 0, 0, 0] = none := by decide
example : unmarshalCertificateStatus [22, 0, 0, 6, 1, 0, 0, 2, 5, 6] = some ⟨1, [5, 6]⟩ := by decide
example : unmarshalCertificateStatus [22, 0, 0, 6, 1, 0, 0, 2, 5, 6, 7] = none := by decide
example : unmarshalCertificateStatus [22, 0, 0, 6, 2, 0, 0, 2, 5, 6, 7] = some ⟨2, []⟩ := by decide
example : unmarshalNextProto [67, 0, 0, 5, 2, 104, 50, 1, 0] = some ⟨[104, 50]⟩ := by decide
example : unmarshalNextProto [67, 0, 0, 5, 2, 104, 50, 1] = none := by decide

def sampleServerHello : ServerHelloMsg :=
  { vers := 0x0303, random := List.replicate 32 7, sessionId := [1, 2], cipherSuite := 0xc02f, compressionMethod := 0,
    nextProtoNeg := true, nextProtos := [[104, 50], [120]], ocspStapling := true, scts := [[9, 9], [8]],
    ticketSupported := true, secureRenegotiation := [5, 6], secureRenegotiationSupported := true,
    alpnProtocol := [104, 50] }

set_option maxRecDepth 20000 in
example : unmarshalServerHello (marshalServerHello sampleServerHello) = some sampleServerHello := by decide
set_option maxRecDepth 20000 in
example : WFServerHello sampleServerHello := by unfold WFServerHello; decide
set_option maxRecDepth 20000 in
example : (marshalServerHello sampleServerHello).length = 92 := by decide
-- a second NPN extension appends, a second SCT extension replaces, an unknown extension is skipped
set_option maxRecDepth 20000 in
example : (unmarshalServerHello ([2, 0, 0, 0, 3, 3] ++ List.replicate 32 7 ++ [0, 0, 47, 0, 0, 36,
    0x33, 0x74, 0, 2, 1, 97, 0x33, 0x74, 0, 2, 1, 98, 0, 18, 0, 5, 0, 3, 0, 1, 9, 0, 18, 0, 5, 0, 3, 0, 1, 8,
    0xab, 0xcd, 0, 2, 1, 2])).map (fun m => (m.nextProtos, m.scts)) = some ([[97], [98]], [[8]]) := by decide
-- one byte missing at the end; one stray byte inside the extension block
set_option maxRecDepth 20000 in
example : unmarshalServerHello ((marshalServerHello sampleServerHello).dropLast) = none := by decide
set_option maxRecDepth 20000 in
example : unmarshalServerHello (marshalServerHello sampleServerHello ++ [0]) = none := by decide

def sampleClientHello : ClientHelloMsg :=
  { vers := 0x0101, random := List.replicate 32 3, sessionId := [], cipherSuites := [0xe013, 0x00ff],
    compressionMethods := [0], nextProtoNeg := true, serverName := [97, 46, 98], ocspStapling := true, scts := true,
    supportedCurves := [23], supportedPoints := [0], ticketSupported := true, sessionTicket := [1, 2, 3],
    supportedSignatureAlgorithms := [0x0403], secureRenegotiation := [], secureRenegotiationSupported := true,
    alpnProtocols := [[104, 50], [120]] }

set_option maxRecDepth 20000 in
example : unmarshalClientHello (marshalClientHello sampleClientHello) = some sampleClientHello := by decide
set_option maxRecDepth 20000 in
example : WFClientHello sampleClientHello := by unfold WFClientHello; decide
-- the signalling suite 0x00ff alone sets the renegotiation flag: this value does not survive the round trip
set_option maxRecDepth 20000 in
example : (unmarshalClientHello (marshalClientHello { sampleClientHello with secureRenegotiationSupported := false })).map
    (fun m => m.secureRenegotiationSupported) = some true := by decide
set_option maxRecDepth 20000 in
example : unmarshalClientHello ((marshalClientHello sampleClientHello).dropLast) = none := by decide
set_option maxRecDepth 20000 in
example : unmarshalClientHello (marshalClientHello sampleClientHello ++ [0]) = none := by decide

end Props.C15Codec
