/-
C20 (shared objects): the lock discipline of `lruSessionCache`, of `Config.sessionTicketKeys` / the fields written
by `serverInit`, and the write sites of x509 `CertPool`, checked on facts that /verif/extract/locks2.go regenerates
from /repo's working tree on every run (`Gen.SharedLocks`).

First, for ANY table of access sites, what the Boolean checks of Model/SharedLocks.lean imply.  Then the checks are
discharged on the regenerated table by kernel evaluation, and `facts_present` pins that the table really contains
the functions it is about, so an extractor that silently finds nothing fails the build.

What this is: a SYNTACTIC, per-function statement. "Lock in force at the site" means: walking the statements of the
function in order, a `B.Lock()` / `B.mutex.Lock()` (resp. `RLock`) on the same base EXPRESSION `B` as in the access
`B.field` precedes the site and no matching Unlock statement lies between (a deferred Unlock keeps it in force to the
end of the function); lock operations inside branches must be undone inside the branch (otherwise the extractor
reports a problem and `no_problems` fails).
What this is NOT: no aliasing analysis (two expressions for the same object, a guarded map or list handed out and
used elsewhere, whole-struct copies other than `*x`), no analysis of other packages or of user code writing the
exported `Config` fields, nothing about the memory model or about the Go runtime's mutexes themselves, and no claim
that functions are called only in the contexts the table lists. The race detector runs of C20 remain the dynamic side.
-/
import Gmsm.Model.SharedLocks
namespace Props.C20Shared
open Model.SharedLocks

theorem site_of_discipline {t : Table} (h : disciplineOK t = true) {a : Access} (ha : a ∈ t) : siteOK a = true :=
  List.all_eq_true.mp h a ha

/-- In a table that passes `disciplineOK`, every WRITE site of a mutex-guarded field
    (`lruSessionCache.m`, `.q`, `Config.sessionTicketKeys`) has the object's mutex locked exclusively at the site, or
    the object is fresh (created in that function, not yet visible to another goroutine). A read lock is not enough.
    Go meaning: dropping `c.Lock()` from `lruSessionCache.Put/Get`, or assigning `c.sessionTicketKeys` under
    `RLock` or with no lock, makes `disciplineOK` false for the regenerated table. -/
theorem write_needs_exclusive {t : Table} (h : disciplineOK t = true) {a : Access} (ha : a ∈ t)
    (hp : policy a.obj a.field = .mutexRW) (hw : a.write = true) : a.exclusive = true ∨ a.fresh = true := by
  have hs := site_of_discipline h ha
  simp only [siteOK, hp, hw, if_true, Bool.or_eq_true] at hs
  exact hs

/-- Every READ site of a mutex-guarded field holds the mutex at least shared (RLock), or
    exclusively, or the object is fresh. Go meaning: reading `c.sessionTicketKeys` before `c.mutex.RLock()` or after
    `c.mutex.RUnlock()` fails the check. -/
theorem read_needs_lock {t : Table} (h : disciplineOK t = true) {a : Access} (ha : a ∈ t)
    (hp : policy a.obj a.field = .mutexRW) (hw : a.write = false) :
    a.shared = true ∨ a.exclusive = true ∨ a.fresh = true := by
  have hs := site_of_discipline h ha
  simp only [siteOK, hp, hw, Bool.false_eq_true, if_false, Bool.or_eq_true] at hs
  rcases hs with (h1 | h1) | h1
  · exact Or.inl h1
  · exact Or.inr (Or.inl h1)
  · exact Or.inr (Or.inr h1)

/-- A field with policy `initOnly` (`lruSessionCache.capacity`) is written only on a
    fresh object, i.e. by the constructor before the cache is returned; that is why reading it needs no lock. -/
theorem init_only_written_fresh {t : Table} (h : disciplineOK t = true) {a : Access} (ha : a ∈ t)
    (hp : policy a.obj a.field = .initOnly) (hw : a.write = true) : a.fresh = true := by
  have hs := site_of_discipline h ha
  simpa [siteOK, hp, hw] using hs

/-- A write of any other `Config` field inside the package happens with `c.mutex`
    locked exclusively, or inside a `Once.Do` literal, or on a fresh Config (a literal / a `Clone()` result that has
    not been published), or it is one of the listed set-up methods (`BuildNameToCertificate`, documented to be called
    before the Config is used). Go meaning: a handshake function that assigns `c.config.X = …` on the shared Config
    fails the check. It does NOT constrain reads of these fields and does not see writes by user code. -/
theorem config_write_protected {t : Table} (h : disciplineOK t = true) {a : Access} (ha : a ∈ t)
    (hp : policy a.obj a.field = .lockedWrite) (hw : a.write = true) :
    a.exclusive = true ∨ a.once = true ∨ a.fresh = true ∨ setupWriters.contains (a.obj, a.fn, a.field) = true := by
  have hs := site_of_discipline h ha
  simp only [siteOK, hp, hw, Bool.not_true, Bool.false_or, Bool.or_eq_true] at hs
  rcases hs with ((h1 | h1) | h1) | h1
  · exact Or.inl h1
  · exact Or.inr (Or.inl h1)
  · exact Or.inr (Or.inr (Or.inl h1))
  · exact Or.inr (Or.inr (Or.inr h1))

/-- An object without any lock (`CertPool`) is written, after construction, only by
    the listed functions (`CertPool.AddCert`). Go meaning: a pool is immutable except through `AddCert` (and
    `AppendCertsFromPEM`, which calls it); a new method or a verification routine that modifies a pool (for example a
    lazily built index) fails the check. Whether callers add certificates while another goroutine verifies against the
    same pool is outside this statement. -/
theorem unguarded_writer_listed {t : Table} (h : disciplineOK t = true) {a : Access} (ha : a ∈ t)
    (hp : policy a.obj a.field = .unguarded) (hw : a.write = true) :
    a.fresh = true ∨ unguardedWriters.contains (a.obj, a.fn) = true := by
  have hs := site_of_discipline h ha
  simp only [siteOK, hp, hw, Bool.not_true, Bool.false_or, Bool.or_eq_true] at hs
  exact hs

theorem discipline_splits {t : Table} (h : disciplineOK t = true) : writesHeld t = true ∧ readsHeld t = true := by
  constructor
  · apply List.all_eq_true.mpr
    intro a ha
    cases hw : a.write
    · simp
    · by_cases hp : policy a.obj a.field = .mutexRW
      · rcases write_needs_exclusive h ha hp hw with h1 | h1 <;> simp [h1]
      · simp [hp]
  · apply List.all_eq_true.mpr
    intro a ha
    cases hw : a.write
    · by_cases hp : policy a.obj a.field = .mutexRW
      · rcases read_needs_lock h ha hp hw with h1 | h1 | h1 <;> simp [h1]
      · simp [hp]
    · simp

theorem subsetOf_sound {xs ys : List String} (h : subsetOf xs ys = true) {x : String} (hx : x ∈ xs) : x ∈ ys := by
  have := List.all_eq_true.mp h x hx
  simpa using this

/-- `writersOf t obj field` really contains every function that has a write site of
    `obj.field` on a non-fresh object in `t` (so a statement "the writers are ⊆ L" speaks about all sites). -/
theorem writers_complete (t : Table) (obj field : String) {a : Access} (ha : a ∈ t) (ho : a.obj = obj)
    (hf : a.field = field) (hw : a.write = true) (hn : a.fresh = false) : a.fn ∈ writersOf t obj field := by
  unfold writersOf
  rw [List.mem_eraseDups]
  apply List.mem_map.mpr
  refine ⟨a, ?_, rfl⟩
  apply List.mem_filter.mpr
  refine ⟨ha, ?_⟩
  simp [ho, hf, hw, hn]

theorem writersObj_complete (t : Table) (obj : String) {a : Access} (ha : a ∈ t) (ho : a.obj = obj)
    (hw : a.write = true) (hn : a.fresh = false) : a.fn ∈ writersOfObj t obj := by
  unfold writersOfObj
  rw [List.mem_eraseDups]
  apply List.mem_map.mpr
  refine ⟨a, ?_, rfl⟩
  apply List.mem_filter.mpr
  refine ⟨ha, ?_⟩
  simp [ho, hw, hn]

/-- The extractor classified every shape it met (no Lock inside a branch that is not undone there,
    no Lock call inside an expression, no guarded access in a deferred call, no goto, no unresolved base type, no
    `*cfg` whole-struct copy, no struct embedding a tracked type, every function left with its locks released or their
    Unlock deferred). -/
theorem no_problems : noProblems = true := by decide +kernel

/-- The regenerated table passes the discipline; with `write_needs_exclusive` … `unguarded_writer_listed` this gives, for the current source:
    every touch of `lruSessionCache.m/q` in `Put`/`Get` is under `c.Lock()`; every read of `sessionTicketKeys`
    (`Clone`, `serverInit`, `ensureTicketKeys`, `ticketKeys`) is under the RLock or Lock of the SAME Config expression,
    every write (`serverInit`, `SetSessionTicketKeys`) under its Lock; `serverInit`'s writes of `SessionTicketKey` and
    `SessionTicketsDisabled` are under `c.mutex.Lock()`; the pool is written only by `NewCertPool`/`AddCert`. -/
theorem discipline_ok : disciplineOK table = true := by decide +kernel

theorem writes_held : writesHeld table = true := (discipline_splits discipline_ok).1
theorem reads_held : readsHeld table = true := (discipline_splits discipline_ok).2

/-- Every access (read or write) of a field of `lruSessionCache` outside its
    constructor is under the exclusive `Lock()` of the cache - `sync.Mutex` has no shared mode. -/
theorem cache_always_exclusive :
    ∀ a ∈ table, a.obj = "lruSessionCache" → a.exclusive = true ∨ a.fresh = true := by
  have h : (table.all fun a => !(a.obj == "lruSessionCache") || a.exclusive || a.fresh) = true := by decide +kernel
  intro a ha ho
  have := List.all_eq_true.mp h a ha
  simpa [ho] using this

/-- The functions that assign `sessionTicketKeys` of an existing Config are among
    `serverInit` and `SetSessionTicketKeys` (both under `c.mutex.Lock()` by `discipline_ok` / `write_needs_exclusive`). A new exported method that sets
    the keys shows up here even if it takes the lock. -/
theorem ticket_key_writers :
    subsetOf (writersOf table "Config" "sessionTicketKeys") ["Config.serverInit", "Config.SetSessionTicketKeys"] = true := by
  decide +kernel

/-- The (function, field) pairs of writes to an existing (non-fresh) Config, any field:
    only `serverInit` (`sessionTicketKeys`, `SessionTicketKey`, `SessionTicketsDisabled` - these are the fields
    initialised under `serverInitOnce`), `SetSessionTicketKeys`, and the set-up method `BuildNameToCertificate`. -/
theorem config_field_writers :
    ((table.filter fun a => a.obj == "Config" && a.write && !a.fresh).map fun a => (a.fn, a.field)).all
      [("Config.serverInit", "sessionTicketKeys"), ("Config.serverInit", "SessionTicketKey"),
       ("Config.serverInit", "SessionTicketsDisabled"), ("Config.SetSessionTicketKeys", "sessionTicketKeys"),
       ("Config.BuildNameToCertificate", "NameToCertificate")].contains = true := by decide +kernel

/-- Only `Put` and `Get` modify an existing cache. -/
theorem cache_writers :
    subsetOf (writersOfObj table "lruSessionCache") ["lruSessionCache.Put", "lruSessionCache.Get"] = true := by
  decide +kernel

/-- Only `AddCert` modifies an existing pool, and `CertPool` has no field from package sync
    (no lock, no Once): all three tracked structs' sync fields are exactly the ones listed. If someone adds a lock or
    lazily built state to `CertPool`, this fails and the policy has to be revisited. -/
theorem certpool_writers :
    writersOfObj table "CertPool" = ["CertPool.AddCert"] ∧
    Gen.SharedLocks.syncFields = [("lruSessionCache", "Mutex", "sync.Mutex"), ("Config", "mutex", "sync.RWMutex"),
      ("Config", "serverInitOnce", "sync.Once")] := by decide +kernel

/-- No function calls a method that locks its receiver's mutex (`Get`, `Put`, `Clone`,
    `serverInit`, `ensureTicketKeys`, `ticketKeys`, `SetSessionTicketKeys`) on an expression whose mutex it holds at
    that point; in particular `ensureTicketKeys` calls `serverInit` after `RUnlock`, and the `Once.Do` literals run
    `serverInit` without `c.mutex`. (Go mutexes are not re-entrant: such a call would block forever.) -/
theorem no_reentrant_calls : reentrantCalls Gen.SharedLocks.calls Gen.SharedLocks.acquirers = [] := by decide +kernel

/-- The analysis saw the functions it is about - an extractor that finds nothing fails here. -/
theorem facts_present :
    1 ≤ countSites table "lruSessionCache" "lruSessionCache.Get" "m" ∧
    1 ≤ countSites table "lruSessionCache" "lruSessionCache.Get" "q" ∧
    3 ≤ countSites table "lruSessionCache" "lruSessionCache.Put" "m" ∧
    3 ≤ countSites table "lruSessionCache" "lruSessionCache.Put" "q" ∧
    1 ≤ countSites table "lruSessionCache" "lruSessionCache.Put" "capacity" ∧
    1 ≤ countSites table "lruSessionCache" "NewLRUClientSessionCache" "m" ∧
    1 ≤ countSites table "lruSessionCache" "NewLRUClientSessionCache" "capacity" ∧
    1 ≤ countSites table "Config" "Config.ticketKeys" "sessionTicketKeys" ∧
    1 ≤ countSites table "Config" "Config.SetSessionTicketKeys" "sessionTicketKeys" ∧
    3 ≤ countSites table "Config" "Config.serverInit" "sessionTicketKeys" ∧
    1 ≤ countSites table "Config" "Config.serverInit" "SessionTicketKey" ∧
    1 ≤ countSites table "Config" "Config.serverInit" "SessionTicketsDisabled" ∧
    2 ≤ countSites table "Config" "Config.Clone" "sessionTicketKeys" ∧
    1 ≤ countSites table "Config" "Config.ensureTicketKeys" "sessionTicketKeys" ∧
    1 ≤ countSites table "CertPool" "CertPool.AddCert" "certs" ∧
    1 ≤ countSites table "CertPool" "CertPool.AddCert" "byName" ∧
    1 ≤ countSites table "CertPool" "NewCertPool" "byName" ∧
    Gen.SharedLocks.acquirers.contains ("lruSessionCache", "lruSessionCache.Get", 2) = true ∧
    Gen.SharedLocks.acquirers.contains ("lruSessionCache", "lruSessionCache.Put", 2) = true ∧
    Gen.SharedLocks.acquirers.contains ("Config", "Config.serverInit", 2) = true ∧
    Gen.SharedLocks.acquirers.contains ("Config", "Config.SetSessionTicketKeys", 2) = true ∧
    Gen.SharedLocks.acquirers.contains ("Config", "Config.ticketKeys", 1) = true ∧
    Gen.SharedLocks.calls.contains ("Config", "Config.ensureTicketKeys", "Config.serverInit", 4) = true ∧
    Gen.SharedLocks.calls.contains ("Config", "Config.ensureTicketKeys", "Config.serverInit", 0) = true ∧
    Gen.SharedLocks.calls.contains ("Config", "Config.Clone", "Config.serverInit", 4) = true ∧
    Gen.SharedLocks.calls.contains ("Config", "Conn.decryptTicket", "Config.ticketKeys", 0) = true := by
  decide +kernel

/-- `Get` without its `c.Lock()`: the two sites have lock state 0 -/
example : disciplineOK [⟨"lruSessionCache", "lruSessionCache.Get", "m", false, 0⟩] = false := by decide +kernel
/-- reading the ticket keys before `RLock` -/
example : disciplineOK [⟨"Config", "Config.ticketKeys", "sessionTicketKeys", false, 0⟩] = false := by decide +kernel
/-- writing the ticket keys under the read lock only -/
example : disciplineOK [⟨"Config", "Config.Set", "sessionTicketKeys", true, 1⟩] = false := by decide +kernel
/-- … and the real shapes pass -/
example : disciplineOK [⟨"Config", "Config.ticketKeys", "sessionTicketKeys", false, 1⟩,
    ⟨"Config", "Config.SetSessionTicketKeys", "sessionTicketKeys", true, 2⟩,
    ⟨"lruSessionCache", "NewLRUClientSessionCache", "m", true, 8⟩] = true := by decide +kernel
/-- a verification routine that writes a pool -/
example : disciplineOK [⟨"CertPool", "CertPool.findVerifiedParents", "byName", true, 0⟩] = false := by decide +kernel
/-- a re-entrant call is found -/
example : reentrantCalls [("Config", "Config.ensureTicketKeys", "Config.serverInit", 1)] [("Config", "Config.serverInit", 2)] ≠ [] := by
  decide +kernel

end Props.C20Shared
