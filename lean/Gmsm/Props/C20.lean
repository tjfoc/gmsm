/-
C20 — Results do not depend on goroutine interleaving.
What a theorem can carry here: the sequential models of the shared objects are order-independent — every
call's result is a function of that call's own inputs — so EVERY sequential order of the same calls (which
is what a linearizable concurrent execution is equivalent to) yields the same result for each call.  That
makes "equals the single-threaded result" a well-defined oracle for the concurrent runs of the check.
Data-race freedom itself is a statement about the Go memory model and is decided by the race detector in
the correspondence run, not by these theorems (see DESIGN.md §0.2, §11).
-/
import Gmsm.Props.C05
import Gmsm.Props.C04
import Gmsm.Model.Resume
namespace Props.C20
open Gmsm

/-- one SM4 cipher object shared by any number of callers: for every key and
    every two sequential orders of the same multiset of Encrypt/Decrypt calls, the multiset of results is the
    same, and each call's result is the GM/T 0002 value for that call's own `src` in either order. -/
theorem sm4_order_independent (key : Bytes) (c : Model.SM4.Cipher) (hk : c.subkeys = Model.SM4.generateSubKeys key)
    (ops₁ ops₂ : List Model.SM4.Op) (h : ops₁.Perm ops₂) :
    (Model.SM4.run c ops₁).Perm (Model.SM4.run c ops₂) ∧
    Model.SM4.run c ops₁ = ops₁.map (Props.C05.specOut key) ∧ Model.SM4.run c ops₂ = ops₂.map (Props.C05.specOut key) := by
  have e1 := Props.C05.history_independent key c hk ops₁
  have e2 := Props.C05.history_independent key c hk ops₂
  exact ⟨by rw [e1, e2]; exact h.map _, e1, e2⟩

/-- `Interleave xs ys zs`: `zs` is an interleaving of two callers' call sequences `xs` and `ys` -/
inductive Interleave {α : Type} : List α → List α → List α → Prop
  | nil : Interleave [] [] []
  | left {a : α} {xs ys zs : List α} : Interleave xs ys zs → Interleave (a :: xs) ys (a :: zs)
  | right {a : α} {xs ys zs : List α} : Interleave xs ys zs → Interleave xs (a :: ys) (a :: zs)

theorem Interleave.perm {α : Type} {xs ys zs : List α} (h : Interleave xs ys zs) : zs.Perm (xs ++ ys) := by
  induction h with
  | nil => exact List.Perm.refl _
  | left _ ih => exact List.Perm.cons _ ih
  | right _ ih =>
    rename_i a xs ys zs _
    exact (List.Perm.cons a ih).trans (List.perm_middle.symm)

/-- two goroutines issue the call sequences `xs` and `ys` on one shared cipher object;
    whatever the interleaving `zs` of whole calls, each goroutine sees exactly the results it would have seen
    alone on a fresh object. -/
theorem sm4_interleaving (key : Bytes) (c : Model.SM4.Cipher) (hk : c.subkeys = Model.SM4.generateSubKeys key)
    (xs ys zs : List Model.SM4.Op) (_h : Interleave xs ys zs) :
    Model.SM4.run c zs = zs.map (Props.C05.specOut key) ∧
    Model.SM4.run c xs = xs.map (Props.C05.specOut key) ∧ Model.SM4.run c ys = ys.map (Props.C05.specOut key) :=
  ⟨Props.C05.history_independent key c hk zs, Props.C05.history_independent key c hk xs,
   Props.C05.history_independent key c hk ys⟩

/-- hash objects obtained from the constructor share nothing: the results of
    one object's operation sequence are determined by that sequence alone (whatever other objects do in
    between), namely prefix ‖ SM3(bytes written since the last Reset). -/
theorem sm3_objects_independent (ops : List Model.SM3.Op) :
    Model.SM3.run Model.SM3.init ops = Props.C04.specRun [] ops :=
  Props.C04.hist_refines_init ops

/-- a ticket lookup running while `SetSessionTicketKeys` replaces the key list sees
    either the old list or the new one (the code reads the slice header once under the read lock): its result
    equals the sequential result before or after the rotation — there is no third outcome. -/
theorem ticket_keys_snapshot (s : Model.Resume.Server) (newKeys : List Nat) (t : Model.Resume.Ticket)
    (seen : List Nat) (h : seen = s.keys ∨ seen = newKeys) :
    Model.Resume.decryptTicket { s with keys := seen } t = Model.Resume.decryptTicket s t ∨
    Model.Resume.decryptTicket { s with keys := seen } t = Model.Resume.decryptTicket { s with keys := newKeys } t := by
  rcases h with h | h
  · left; rw [h]
  · right; rw [h]

end Props.C20
