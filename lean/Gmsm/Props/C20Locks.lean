/-
C20, lock discipline of one connection — "one connection with concurrent readers, writers and Close all behave as
some sequential order of the same calls would … and no data race occurs".

The facts (`Gen.ConnLocks`) are regenerated from /repo's working tree by /verif/extract/locks.go on every run.
The theorems hold for ALL call paths from an exported method (`Path`: any depth, recursion allowed).
The checks on the tables (`must_ok` … `facts_present`) are kernel evaluation on the current facts; the theorems about
paths follow from them by the soundness of the two lock-set tables (`must_sound`, `may_sound`).
-/
import Gmsm.Model.ConnLocks
namespace Props.C20Locks
open Model.ConnLocks Gen.ConnLocks

theorem subset_iff {a b : LS} : a.subset b = true ↔
    (a.hs = true → b.hs = true) ∧ (a.inn = true → b.inn = true) ∧ (a.out = true → b.out = true) := by
  have imp : ∀ x y : Bool, (!x || y) = true ↔ (x = true → y = true) := by decide
  simp only [LS.subset, Bool.and_eq_true, imp, and_assoc]

theorem subset_refl (a : LS) : a.subset a = true := subset_iff.2 ⟨id, id, id⟩

theorem subset_trans {a b c : LS} (h1 : a.subset b = true) (h2 : b.subset c = true) : a.subset c = true :=
  have ⟨p1, p2, p3⟩ := subset_iff.1 h1
  have ⟨q1, q2, q3⟩ := subset_iff.1 h2
  subset_iff.2 ⟨q1 ∘ p1, q2 ∘ p2, q3 ∘ p3⟩

theorem union_mono {a b : LS} (c : LS) (h : a.subset b = true) : (a.union c).subset (b.union c) = true := by
  have ⟨p1, p2, p3⟩ := subset_iff.1 h
  simp only [subset_iff, LS.union, Bool.or_eq_true]
  exact ⟨Or.imp_left p1, Or.imp_left p2, Or.imp_left p3⟩

theorem empty_subset (a : LS) : LS.empty.subset a = true := subset_iff.2 ⟨nofun, nofun, nofun⟩

theorem has_mono {a b : LS} (h : a.subset b = true) (bit : Nat) (hb : a.has bit = true) : b.has bit = true := by
  have ⟨p1, p2, p3⟩ := subset_iff.1 h
  by_cases h1 : bit = 1
  · subst h1; exact p1 hb
  by_cases h2 : bit = 2
  · subst h2; exact p2 hb
  by_cases h4 : bit = 4
  · subst h4; exact p3 hb
  · simp [LS.has, h1, h2, h4] at hb

theorem protects_mono {a b : LS} (h : a.subset b = true) (half : Nat) (hp : protects a half = true) :
    protects b half = true := by
  simp only [protects, Bool.or_eq_true] at *
  exact hp.imp (has_mono h half) (subset_iff.1 h).1

/-- `Path g L`: some chain of call sites leads from an exported method (entered with no lock of the connection
    held) to `g`, and `L` is the set of locks held on entry to `g` along it: every function on the way keeps the
    locks it has acquired itself until it returns (`Lock(); defer Unlock()`). -/
inductive Path : Nat → LS → Prop
  | api (f : Nat) (h : exported f = true) : Path f LS.empty
  | call {f : Nat} {L : LS} (c : Nat × Nat × Nat × Nat) (hc : c ∈ calls) (hf : c.1 = f) (p : Path f L) :
      Path c.2.1 (L.union (LS.ofMask c.2.2.1))

theorem exported_lt {f : Nat} (h : exported f = true) : f < nFns := by
  unfold exported at h
  by_cases hlt : f < nFns
  · exact hlt
  · have : fns.getD f (false, []) = (false, []) := by
      unfold nFns at hlt
      simp [List.getD_eq_getElem?_getD, List.getElem?_eq_none (Nat.le_of_not_lt hlt)]
    rw [this] at h; simp at h

/-- a table that passes `mustOK` under-approximates the locks held on entry along EVERY path. -/
theorem must_sound (t : Table) (hok : mustOK t = true) {g : Nat} {L : LS} (p : Path g L) :
    (t.at g).subset L = true := by
  unfold mustOK at hok
  have h1 := (Bool.and_eq_true _ _ |>.mp hok).1
  have h2 := (Bool.and_eq_true _ _ |>.mp hok).2
  induction p with
  | api f h =>
    have hlt := exported_lt h
    have := List.all_eq_true.mp h1 f (List.mem_range.mpr hlt)
    simp [h] at this
    rw [this]; exact empty_subset _
  | call c hc hf p ih =>
    have hs := List.all_eq_true.mp h2 c hc
    subst hf
    exact subset_trans hs (union_mono _ ih)

/-- a table that passes `mayOK` over-approximates the locks held on entry along ANY path. -/
theorem may_sound (t : Table) (hok : mayOK t = true) {g : Nat} {L : LS} (p : Path g L) :
    L.subset (t.at g) = true := by
  unfold mayOK at hok
  induction p with
  | api f h => exact empty_subset _
  | call c hc hf p ih =>
    have hs := List.all_eq_true.mp hok c hc
    subst hf
    exact subset_trans (union_mono _ ih) hs

theorem must_ok : mustOK must = true := by decide +kernel
theorem may_ok : mayOK may = true := by decide +kernel
theorem no_touch_violation : touchViolations must = [] := by decide +kernel
theorem no_reacquisition : reacquisitions may = [] := by decide +kernel
/-- every lock-order edge of the code is one of the four known ones (`expectedEdges`) -/
theorem order_edges_expected : (orderEdges may).all (fun e => expectedEdges.contains e) = true := by decide +kernel

/-- the facts are not empty: the analysis saw the functions it is about -/
theorem facts_present :
    names.contains "Conn.Read" = true ∧ names.contains "Conn.Write" = true ∧ names.contains "Conn.Close" = true ∧
    names.contains "Conn.Handshake" = true ∧ names.contains "Conn.sendAlertLocked" = true ∧
    names.contains "Conn.writeRecordLocked" = true ∧ names.contains "Conn.readRecord" = true ∧
    80 ≤ nFns ∧ 150 ≤ calls.length ∧ 15 ≤ touches.length := by decide +kernel

theorem protects_of_must {f : Nat} {L : LS} (p : Path f L) (own : LS) (half : Nat)
    (h : protects ((must.at f).union own) half = true) : protects (L.union own) half = true :=
  protects_mono (union_mono _ (must_sound must must_ok p)) _ h

/-- on every call path from an exported method, a function that touches the state of the
    read half (`half = 2`) or the write half (`half = 4`) holds, at that place, the half's mutex or the handshake
    mutex (its own earlier `Lock()`s are in `x.2.2`). A change that sends an alert or writes a record from a
    reader without `c.out` breaks this. -/
theorem half_protected {f : Nat} {L : LS} (p : Path f L) (x : Nat × Nat × Nat) (hx : x ∈ touches) (hf : x.1 = f) :
    protects (L.union (LS.ofMask x.2.2)) x.2.1 = true := by
  have hv := no_touch_violation
  unfold touchViolations at hv
  have := List.filter_eq_nil_iff.mp (List.map_eq_nil_iff.mp (List.append_eq_nil_iff.mp hv).1) x hx
  subst hf
  exact protects_of_must p _ _ (by simpa using this)

/-- the same for `halfConn` methods reached through `c.in` / `c.out` (encrypt, decrypt,
    incSeq, setErrorLocked, newBlock, …): at the call site the half's mutex or the handshake mutex is held. -/
theorem half_call_protected {f : Nat} {L : LS} (p : Path f L) (c : Nat × Nat × Nat × Nat) (hc : c ∈ calls)
    (hf : c.1 = f) (hvia : c.2.2.2 ≠ 0) : protects (L.union (LS.ofMask c.2.2.1)) c.2.2.2 = true := by
  have hv := no_touch_violation
  unfold touchViolations at hv
  have := List.filter_eq_nil_iff.mp (List.map_eq_nil_iff.mp (List.append_eq_nil_iff.mp hv).2) c hc
  subst hf
  exact protects_of_must p _ _ (by simpa [hvia] using this)

theorem reacq_mono : ∀ (ls : List Nat) (a b : LS), a.subset b = true → reacq a ls = true → reacq b ls = true
  | [], _, _, _, h => by simp [reacq] at h
  | l :: ls, a, b, hab, h => by
    unfold reacq at *
    rcases Bool.or_eq_true _ _ |>.mp h with h1 | h1
    · simp [has_mono hab l h1]
    · simp [reacq_mono ls _ _ (union_mono _ hab) h1]

/-- on no call path does a function lock a mutex that the goroutine already holds (a
    `sync.Mutex` is not reentrant: the goroutine would wait for itself for ever). -/
theorem no_reacquire {f : Nat} {L : LS} (p : Path f L) (hlt : f < nFns) : reacq L (acquires f) = false := by
  have hr := no_reacquisition
  unfold reacquisitions at hr
  have := List.filter_eq_nil_iff.mp hr f (List.mem_range.mpr hlt)
  have hmay := may_sound may may_ok p
  cases h : reacq L (acquires f) with
  | false => rfl
  | true => exact absurd (reacq_mono _ _ _ hmay h) this

/-- non-vacuity: paths exist, e.g. Read → readRecord with `c.in` held -/
example : ∃ f g : Nat, names.getD f "" = "Conn.Read" ∧ names.getD g "" = "Conn.readRecord" ∧
    Path g (LS.empty.union (LS.ofMask 2)) := by
  have hR : ((List.range nFns).any fun f => names.getD f "" == "Conn.Read" && exported f &&
      calls.any fun c => c.1 == f && names.getD c.2.1 "" == "Conn.readRecord" && c.2.2.1 == 2) = true := by
    decide +kernel
  obtain ⟨f, _, hf⟩ := List.any_eq_true.mp hR
  simp only [Bool.and_eq_true, beq_iff_eq, List.any_eq_true] at hf
  obtain ⟨⟨hn, he⟩, c, hc, ⟨hcf, hcn⟩, hm⟩ := hf
  exact ⟨f, c.2.1, hn, hcn, hm ▸ Path.call c hc hcf (Path.api f he)⟩

end Props.C20Locks
