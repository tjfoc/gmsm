/-
C19: the two helper loops of sm4/padding/bloc_cryptor.go: `P7BlockEnc` writes the block-mode
encryption of `data ‖ pad` whatever the source's read pattern is, `P7BlockDecrypt` returns the
un-padded decryption (or exactly the two documented errors) whatever the ciphertext source's read
pattern is, and the two compose to the identity.  Model: `Model.P7Block` over `Model.Padding`.
-/
import Gmsm.Model.P7Block
import Gmsm.Props.C19
import Gmsm.Proofs.Modes
import Gmsm.Props.C05
namespace Props.C19Stream
open Gmsm Model.Padding Model.P7Block Proofs.Padding Proofs.Modes Props.C19 Spec.Modes

theorem blocksN_div_append {bs : Nat} (hbs : 0 < bs) (a b : Bytes) (ha : a.length % bs = 0) :
    blocksN bs ((a ++ b).length / bs) (a ++ b) = blocksN bs (a.length / bs) a ++ blocksN bs (b.length / bs) b := by
  obtain ⟨n, hn⟩ := Nat.dvd_of_mod_eq_zero ha
  rw [List.length_append, hn, Nat.mul_div_cancel_left n hbs, Nat.add_comm, Nat.add_mul_div_left _ _ hbs, Nat.add_comm,
    blocksN_append bs n _ a b hn]

theorem getLastD_append (xs ys : List Bytes) (d : Bytes) : (xs ++ ys).getLastD d = ys.getLastD (xs.getLastD d) := by
  induction xs generalizing d with
  | nil => rfl
  | cons x xs ih => rw [List.cons_append, List.getLastD_cons, List.getLastD_cons]; exact ih x

theorem cbcEnc_law (bs : Nat) (hbs : 0 < bs) (E : Bytes → Bytes) (hE : ∀ x, (E x).length = bs) :
    BlockMode bs Bytes (cbcEncCrypt bs E) where
  pos := hbs
  nil := fun st => by simp [cbcEncCrypt, blocksN, cbcEnc]
  append := fun st a b ha _ => by
    simp only [cbcEncCrypt, blocksN_div_append hbs a b ha, cbcEnc_append, getLastD_append, List.flatten_append]
  length := fun st a ha => by
    simp only [cbcEncCrypt]
    rw [flatten_length _ (cbcEnc_all E hE _ _), cbcEnc_length, blocksN_length]
    exact Nat.mul_div_cancel' (Nat.dvd_of_mod_eq_zero ha)

theorem cbcDec_law (bs : Nat) (hbs : 0 < bs) (D : Bytes → Bytes) (hD : ∀ x, (D x).length = bs) :
    BlockMode bs (IV bs) (cbcDecCrypt bs D) where
  pos := hbs
  nil := fun st => by
    apply Prod.ext
    · simp [cbcDecCrypt, blocksN, cbcDec]
    · apply Subtype.ext; simp [cbcDecCrypt, blocksN]
  append := fun st a b ha _ => by
    simp only [cbcDecCrypt, blocksN_div_append hbs a b ha, cbcDec_append, getLastD_append, List.flatten_append]
  length := fun st a ha => by
    simp only [cbcDecCrypt]
    rw [flatten_length _ (cbcDec_all D hD _ st.2 _ (blocksN_all bs _ a (Nat.mul_div_le _ _))),
      cbcDec_length, blocksN_length]
    exact Nat.mul_div_cancel' (Nat.dvd_of_mod_eq_zero ha)

theorem cbc_crypt_inv (bs : Nat) (hbs : 0 < bs) (E D : Bytes → Bytes) (hE : ∀ x, (E x).length = bs)
    (hDE : ∀ x, x.length = bs → D (E x) = x) (iv : IV bs) (p : Bytes) (hp : p.length % bs = 0) :
    (cbcDecCrypt bs D iv (cbcEncCrypt bs E iv.1 p).1).1 = p :=
  cbc_flatten_inv hbs E D hE hDE iv.1 iv.2 p hp

/-- progress of the padding reader: a `Read` into a non-empty buffer returns at most `len(buf)` bytes, and
    if it does not return io.EOF it returns at least one byte (so `io.ReadFull` needs at most `len(buf)` calls). -/
theorem read_len (r : Reader) (q : Nat) (hq : 0 < q) :
    (r.read q).2.1.length ≤ q ∧ ((r.read q).2.2 = Err.none → 0 < (r.read q).2.1.length) := by
  obtain ⟨_, f2, _, f4⟩ := fill_spec r.src.script r.src.data q
  rw [read_eq]
  cases he : r.eof
  · rw [if_neg (fun h' => nomatch h'.1), if_neg nofun]
    dsimp only
    cases hf : (fill r.src.script r.src.data q).2.2
    · rw [if_neg nofun]; exact ⟨f2, fun _ => (f4 hf).symm ▸ hq⟩
    · rw [if_pos rfl]; exact servePad_len _ _ q f2 hq
  · cases hep : r.eop
    · rw [if_neg (fun h' => nomatch h'.2), if_pos rfl]; exact servePad_len r [] q (Nat.zero_le _) hq
    · rw [if_pos ⟨rfl, rfl⟩]; exact ⟨Nat.zero_le _, nofun⟩

theorem rfLoop_spec {data : Bytes} {bs f need : Nat} {r r' : Reader} {acc b : Bytes} {e : LoopEnd}
    (hf : need ≤ f) (h : RInv data bs r acc) (hres : rfLoop f r need = (r', b, e)) :
    RInv data bs r' (acc ++ b) ∧ b.length ≤ need ∧ e ≠ .fuel ∧ (e = .filled → b.length = need) ∧
      (e = .eof → acc ++ b = padStream bs data) := by
  induction f generalizing r acc need b e with
  | zero =>
    obtain rfl := Nat.le_zero.mp hf
    cases hres
    exact ⟨(List.append_nil acc).symm ▸ h, Nat.le_refl _, nofun, fun _ => rfl, nofun⟩
  | succ f ih =>
    rw [rfLoop] at hres
    split at hres
    · next h0 =>
      cases hres
      exact ⟨(List.append_nil acc).symm ▸ h, Nat.zero_le _, nofun, fun _ => h0.symm, nofun⟩
    · next h0 =>
      obtain ⟨hinv, heof⟩ := rinv_read data bs r acc need h
      obtain ⟨hle, hpos⟩ := read_len r need (Nat.pos_of_ne_zero h0)
      generalize r.read need = res at hres hinv heof hle hpos
      obtain ⟨r1, b1, e1⟩ := res
      dsimp only at hres hinv heof hle hpos
      split at hres
      · next hE => cases hres; exact ⟨hinv, hle, nofun, nofun, fun _ => heof hE⟩
      · next hE =>
        have hb : 0 < b1.length := hpos (by cases e1 <;> first | rfl | exact absurd rfl hE)
        rcases hrec : rfLoop f r1 (need - b1.length) with ⟨r2, b2, e2⟩
        rw [hrec] at hres
        dsimp only at hres
        cases hres
        obtain ⟨i1, i2, i3, i4, i5⟩ := ih (Nat.sub_le_of_le_add (Nat.le_trans hf (Nat.add_le_add_left hb f))) hinv hrec
        rw [← List.append_assoc, List.length_append]
        exact ⟨i1, Nat.add_le_of_le_sub' hle i2, i3, fun hc => by rw [i4 hc, Nat.add_sub_of_le hle], i5⟩

/-- `io.ReadFull` over the padding reader terminates within its `L` iterations (its status is never `fuel`);
    fewer than `L` bytes are only returned when the whole padded stream has been delivered. -/
theorem readFull_spec {data : Bytes} {bs L : Nat} {r r' : Reader} {acc b : Bytes} {e : RF}
    (h : RInv data bs r acc) (hres : readFull r L = (r', b, e)) :
    RInv data bs r' (acc ++ b) ∧ b.length ≤ L ∧
    e = (if L ≤ b.length then .nil else if 0 < b.length then .unexpectedEOF else .eof) ∧
    (b.length < L → acc ++ b = padStream bs data) := by
  rw [readFull] at hres
  rcases hl : rfLoop L r L with ⟨r1, b1, e1⟩
  rw [hl] at hres
  cases hres
  obtain ⟨i1, i2, i3, i4, i5⟩ := rfLoop_spec (Nat.le_refl _) h hl
  refine ⟨i1, i2, ?_, fun hlt => ?_⟩
  · cases e1 with
    | fuel => exact absurd rfl i3
    | filled => exact (if_pos (Nat.le_of_eq (i4 rfl).symm)).symm
    | eof => rfl
  · cases e1 with
    | fuel => exact absurd rfl i3
    | filled => exact absurd (i4 rfl) (Nat.ne_of_lt hlt)
    | eof => exact i5 rfl

theorem readFullSrc_spec {src src' : Src} {L : Nat} {b : Bytes} {e : RF} (hres : readFullSrc src L = (b, src', e)) :
    b ++ src'.data = src.data ∧ b.length ≤ L ∧
    e = (if L ≤ b.length then .nil else if 0 < b.length then .unexpectedEOF else .eof) ∧
    (b.length < L → src'.data = []) := by
  obtain ⟨f1, f2, f3, f4⟩ := fill_spec src.script src.data L
  rw [readFullSrc] at hres
  generalize fill src.script src.data L = res at hres f1 f2 f3 f4
  obtain ⟨b1, s1, eof⟩ := res
  cases hres
  cases eof with
  | true => exact ⟨f1, f2, rfl, fun _ => f3 rfl⟩
  | false =>
    have hL := Nat.le_of_eq (f4 rfl).symm
    exact ⟨f1, f2, by rw [if_pos hL, if_pos hL], fun h => absurd (f4 rfl) (Nat.ne_of_lt h)⟩

theorem length_append_mod {bs : Nat} {a : Bytes} (b : Bytes) (ha : a.length % bs = 0) :
    (a ++ b).length % bs = b.length % bs := by
  rw [List.length_append, Nat.add_mod, ha, Nat.zero_add, Nat.mod_mod]

/-- one refill of either loop.  `out` and `st` are the mode's output and chaining state after the whole blocks
    `acc`; the guarded `CryptBlocks` call on the next whole blocks `b` (skipped when `b` is empty) brings them to
    the output and state after `acc ++ b`.  `g` is what the loop does with the output. -/
theorem crypt_step {State α : Type} {bs : Nat} {crypt : State → Bytes → Bytes × State} (law : BlockMode bs State crypt)
    (g : Bytes → α) {init st : State} {acc out : Bytes} (b : Bytes) (hst : crypt init acc = (out, st))
    (ha : acc.length % bs = 0) (hb : b.length % bs = 0) :
    (if 0 < b.length then (g (out ++ (crypt st b).1), (crypt st b).2) else (g out, st)) =
      (g (crypt init (acc ++ b)).1, (crypt init (acc ++ b)).2) := by
  rw [law.append init acc b ha hb, hst]
  cases b with
  | nil => simp only [law.nil, List.length_nil, Nat.lt_irrefl, if_false, List.append_nil]
  | cons x b => exact if_pos (Nat.succ_pos _)

/-- loop invariant of `P7BlockEnc`: `acc` = what the padding reader has delivered in the refills so far (whole
    blocks), `out` = what has been written = the mode's output for `acc`, `st` = its chaining state. -/
theorem encLoop_spec {State : Type} (L : Nat) (m : Mode State) (law : BlockMode m.bs State m.crypt)
    (hL : 0 < L) (hdiv : m.bs ∣ L) (data : Bytes) (f : Nat) (st : State) (r : Reader) (out acc : Bytes)
    (hinv : RInv data m.bs r acc) (hacc : acc.length % m.bs = 0) (hst : m.crypt m.init acc = (out, st))
    (hf : (padStream m.bs data).length < acc.length + f) :
    encLoop L m f st r out = .ok (m.run (padStream m.bs data)) := by
  induction f generalizing st r out acc with
  | zero => exact absurd (rinv_le hinv) (Nat.not_le_of_lt hf)
  | succ f ih =>
    rw [encLoop]
    rcases hres : readFull r L with ⟨r', b, e⟩
    obtain ⟨i1, i2, rfl, i4⟩ := readFull_spec hinv hres
    dsimp only
    by_cases hbL : L ≤ b.length
    · have hb : b.length % m.bs = 0 := Nat.le_antisymm i2 hbL ▸ Nat.mod_eq_zero_of_dvd hdiv
      rw [if_pos hbL, if_neg nofun, if_neg (fun h => h hb), crypt_step law (fun o => o) b hst hacc hb, if_neg (fun h => h rfl)]
      refine ih _ r' _ (acc ++ b) i1 ((length_append_mod b hacc).trans hb) rfl ?_
      rw [List.length_append]; omega
    · -- the last refill: the padded stream has been delivered in full
      have htot := i4 (Nat.lt_of_not_le hbL)
      have hb : b.length % m.bs = 0 := by
        rw [← length_append_mod b hacc, htot]; exact padStream_mod m.bs law.pos data
      rw [if_neg hbL, if_neg (by split <;> nofun), if_neg (fun h => h hb), crypt_step law (fun o => o) b hst hacc hb,
        if_pos (by split <;> nofun), htot]
      rfl

/-- for every lawful block mode whose block size divides the buffer size, every data and
    EVERY source script (short reads, zero-byte reads, data returned together with io.EOF, in any order),
    `P7BlockEnc` returns nil having written exactly the block-mode encryption of `data ‖ pad`, as one
    `CryptBlocks` call on the whole padded stream would produce it — independent of the script.  In
    particular `CryptBlocks` is never called on a partial block (`notFullBlocks`), and neither loop counter
    of the model runs out (`fuel`).  No liveness hypothesis is needed: a script is a finite list, and the
    model's convention is that a source whose script is exhausted serves full reads and then io.EOF, so
    every modelled source eventually delivers its data (a source returning (0, nil) forever is outside the
    model, as for `C19.reader_stream`). -/
theorem enc_stream {State : Type} (L : Nat) (m : Mode State) (law : BlockMode m.bs State m.crypt)
    (hL : 0 < L) (hdiv : m.bs ∣ L) (data : Bytes) (script : List (Nat × Bool)) :
    p7BlockEnc L m ⟨data, script⟩ = .ok (m.run (padStream m.bs data)) := by
  refine encLoop_spec L m law hL hdiv data _ m.init _ [] [] (rinv_init data m.bs script) (Nat.zero_mod _) (law.nil _) ?_
  show (padStream m.bs data).length < 0 + (data.length + m.bs + 1)
  rw [padStream, List.length_append, List.length_replicate]; omega

/-- what `P7BlockDecrypt` is supposed to compute from the whole ciphertext `ct` -/
def decSpec (bs : Nat) (run : Bytes → Bytes) (ct : Bytes) : Except P7Err Bytes :=
  if ct.length % bs ≠ 0 then .error .notMultiple
  else match unpadStream bs (run ct) with
    | some d => .ok d
    | none => .error .badPad

/-- loop invariant of `P7BlockDecrypt`: `acc` = the ciphertext consumed so far (whole blocks), `out` = the mode's
    output for `acc`, all of it written to the un-padding writer, `st` = the mode's chaining state. -/
theorem decLoop_spec {State : Type} (L : Nat) (m : Mode State) (law : BlockMode m.bs State m.crypt)
    (hL : 0 < L) (hdiv : m.bs ∣ L) (ct : Bytes) (f : Nat) (st : State) (src : Src) (acc out : Bytes)
    (hsrc : acc ++ src.data = ct) (hacc : acc.length % m.bs = 0)
    (hst : m.crypt m.init acc = (out, st)) (hf : src.data.length < f) :
    decLoop L m f st src (writerAfter m.bs out) = decSpec m.bs m.run ct := by
  induction f generalizing st src acc out with
  | zero => exact absurd hf (Nat.not_lt_zero _)
  | succ f ih =>
    rw [decLoop]
    rcases hres : readFullSrc src L with ⟨b, src', e⟩
    obtain ⟨i1, i2, rfl, i4⟩ := readFullSrc_spec hres
    dsimp only
    by_cases hbL : L ≤ b.length
    · have hb : b.length % m.bs = 0 := Nat.le_antisymm i2 hbL ▸ Nat.mod_eq_zero_of_dvd hdiv
      rw [if_pos hbL, if_neg (fun h => h hb), write_after, crypt_step law (writerAfter m.bs) b hst hacc hb,
        if_neg (fun h => h rfl)]
      refine ih _ src' (acc ++ b) _ ?_ ((length_append_mod b hacc).trans hb) rfl ?_
      · rw [List.append_assoc, i1, hsrc]
      · have := congrArg List.length i1
        rw [List.length_append] at this; omega
    · -- the last refill: the source is exhausted, so `acc ++ b` is the whole ciphertext
      have hct : acc ++ b = ct := by rw [← hsrc, ← i1, i4 (Nat.lt_of_not_le hbL), List.append_nil]
      have hlen : ct.length % m.bs = b.length % m.bs := hct ▸ length_append_mod b hacc
      rw [decSpec, hlen]
      by_cases hb : b.length % m.bs = 0
      · have hnb : ¬ b.length % m.bs ≠ 0 := fun h => h hb
        rw [if_neg hnb, if_neg hnb, write_after, crypt_step law (writerAfter m.bs) b hst hacc hb,
          if_neg hbL, if_pos (by split <;> nofun), hct, final_after]
        rfl
      · rw [if_pos hb, if_pos hb]

/-- for every lawful block mode whose block size divides the buffer size, every ciphertext
    and EVERY source script, `P7BlockDecrypt` returns `decSpec`: the error "not a multiple of the block
    size" iff the ciphertext length is not a multiple of the block size; otherwise the un-padded block-mode
    decryption of the whole ciphertext, with `Final`'s error exactly when that does not end in a valid
    pad — independent of the script. -/
theorem dec_stream {State : Type} (L : Nat) (m : Mode State) (law : BlockMode m.bs State m.crypt)
    (hL : 0 < L) (hdiv : m.bs ∣ L) (ct : Bytes) (script : List (Nat × Bool)) :
    p7BlockDecrypt L m ⟨ct, script⟩ = decSpec m.bs m.run ct := by
  rw [p7BlockDecrypt, newWriter_eq]
  exact decLoop_spec L m law hL hdiv ct _ m.init ⟨ct, script⟩ [] [] rfl (Nat.zero_mod _) (law.nil _) (Nat.lt_succ_self _)

theorem decSpec_enc {S1 S2 : Type} (enc : Mode S1) (dec : Mode S2) (lawE : BlockMode enc.bs S1 enc.crypt)
    (hbs : dec.bs = enc.bs) (h255 : enc.bs ≤ 255)
    (hinv : ∀ p : Bytes, p.length % enc.bs = 0 → dec.run (enc.run p) = p) (data : Bytes) :
    decSpec dec.bs dec.run (enc.run (padStream enc.bs data)) = .ok data := by
  have hp := padStream_mod enc.bs lawE.pos data
  rw [decSpec, hbs, Mode.run, lawE.length _ _ hp, if_neg (fun h => h hp), ← Mode.run, hinv _ hp,
    unpad_padStream enc.bs lawE.pos h255 data]

/-- for every pair of lawful block modes of the same block size 1..255 dividing the buffer
    size with `dec ∘ enc = id` on whole blocks, every data and every two source scripts:
    `P7BlockDecrypt(dec, P7BlockEnc(enc, data))` returns exactly `data` (and the intermediate ciphertext is
    the encryption of `data ‖ pad`). -/
theorem enc_dec_stream {S1 S2 : Type} (L : Nat) (enc : Mode S1) (dec : Mode S2)
    (lawE : BlockMode enc.bs S1 enc.crypt) (lawD : BlockMode dec.bs S2 dec.crypt)
    (hbs : dec.bs = enc.bs) (h255 : enc.bs ≤ 255) (hL : 0 < L) (hdiv : enc.bs ∣ L)
    (hinv : ∀ p : Bytes, p.length % enc.bs = 0 → dec.run (enc.run p) = p)
    (data : Bytes) (s1 s2 : List (Nat × Bool)) :
    roundTrip L enc dec data s1 s2 = .ok (enc.run (padStream enc.bs data), data) := by
  rw [roundTrip, enc_stream L enc lawE hL hdiv data s1]
  dsimp only
  rw [dec_stream L dec lawD hL (hbs ▸ hdiv) _ s2, decSpec_enc enc dec lawE hbs h255 hinv data]

/-- the same, stated on the two functions instead of `roundTrip` -/
theorem enc_dec_stream_ex {S1 S2 : Type} (L : Nat) (enc : Mode S1) (dec : Mode S2)
    (lawE : BlockMode enc.bs S1 enc.crypt) (lawD : BlockMode dec.bs S2 dec.crypt)
    (hbs : dec.bs = enc.bs) (h255 : enc.bs ≤ 255) (hL : 0 < L) (hdiv : enc.bs ∣ L)
    (hinv : ∀ p : Bytes, p.length % enc.bs = 0 → dec.run (enc.run p) = p)
    (data : Bytes) (s1 s2 : List (Nat × Bool)) :
    ∃ ct, p7BlockEnc L enc ⟨data, s1⟩ = .ok ct ∧ p7BlockDecrypt L dec ⟨ct, s2⟩ = .ok data :=
  ⟨_, enc_stream L enc lawE hL hdiv data s1,
    (dec_stream L dec lawD hL (hbs ▸ hdiv) _ s2).trans (decSpec_enc enc dec lawE hbs h255 hinv data)⟩

/-- `P7BlockDecrypt` fails with "not a multiple of the block size" exactly when the last (short) refill of
    the `L`-byte buffer — `len(ct) mod L` bytes, at EOF — does not end on a block boundary. -/
theorem dec_notMultiple_iff {State : Type} (L : Nat) (m : Mode State) (law : BlockMode m.bs State m.crypt)
    (hL : 0 < L) (hdiv : m.bs ∣ L) (ct : Bytes) (script : List (Nat × Bool)) :
    p7BlockDecrypt L m ⟨ct, script⟩ = .error .notMultiple ↔ (ct.length % L) % m.bs ≠ 0 := by
  rw [dec_stream L m law hL hdiv, Nat.mod_mod_of_dvd _ hdiv, decSpec]
  by_cases h : ct.length % m.bs = 0
  · rw [if_neg (fun h' => h' h)]
    cases unpadStream m.bs (m.run ct) <;> simp [h]
  · simp [h]

/-- `P7BlockDecrypt` succeeds with `d` exactly when the ciphertext is whole blocks and its decryption
    un-pads to `d`. -/
theorem dec_ok_iff {State : Type} (L : Nat) (m : Mode State) (law : BlockMode m.bs State m.crypt)
    (hL : 0 < L) (hdiv : m.bs ∣ L) (ct : Bytes) (script : List (Nat × Bool)) (d : Bytes) :
    p7BlockDecrypt L m ⟨ct, script⟩ = .ok d ↔ ct.length % m.bs = 0 ∧ unpadStream m.bs (m.run ct) = some d := by
  rw [dec_stream L m law hL hdiv, decSpec]
  by_cases h : ct.length % m.bs = 0
  · rw [if_neg (fun h' => h' h)]
    cases unpadStream m.bs (m.run ct) <;> simp [h]
  · simp [h]

/-- `Final`'s error is returned exactly when the ciphertext is whole blocks and its decryption does not end
    in a valid pad (this includes the empty ciphertext). -/
theorem dec_badPad_iff {State : Type} (L : Nat) (m : Mode State) (law : BlockMode m.bs State m.crypt)
    (hL : 0 < L) (hdiv : m.bs ∣ L) (ct : Bytes) (script : List (Nat × Bool)) :
    p7BlockDecrypt L m ⟨ct, script⟩ = .error .badPad ↔ ct.length % m.bs = 0 ∧ unpadStream m.bs (m.run ct) = none := by
  rw [dec_stream L m law hL hdiv, decSpec]
  by_cases h : ct.length % m.bs = 0
  · rw [if_neg (fun h' => h' h)]
    cases unpadStream m.bs (m.run ct) <;> simp [h]
  · simp [h]

theorem fit_length (bs : Nat) (x : Bytes) : (fit bs x).length = bs := by
  rw [fit, List.length_append, List.length_take, List.length_replicate]
  rcases Nat.le_total bs x.length with h | h
  · rw [Nat.min_eq_left h, Nat.sub_eq_zero_of_le h]; rfl
  · rw [Nat.min_eq_right h, Nat.add_sub_of_le h]

theorem fit_of_length (bs : Nat) (x : Bytes) (h : x.length = bs) : fit bs x = x := by
  subst h; simp [fit]

theorem toyE_length (bs : Nat) (k x : Bytes) : (toyE bs k x).length = bs := by
  simp [toyE, xorBytes_length, fit_length]

theorem toyD_length (bs : Nat) (k x : Bytes) : (toyD bs k x).length = bs := by
  simp [toyD, xorBytes_length, fit_length]

theorem toyD_toyE (bs : Nat) (k x : Bytes) (h : x.length = bs) : toyD bs k (toyE bs k x) = x := by
  unfold toyD
  rw [fit_of_length bs _ (toyE_length bs k x)]
  unfold toyE
  rw [List.reverse_reverse, fit_of_length bs x h, xor_cancel_right _ _ (by rw [fit_length]; omega)]

theorem toy_enc_law (bs : Nat) (hbs : 0 < bs) (k iv : Bytes) :
    BlockMode (cbcEncMode bs (toyE bs k) iv).bs Bytes (cbcEncMode bs (toyE bs k) iv).crypt :=
  cbcEnc_law bs hbs _ (toyE_length bs k)

theorem toy_dec_law (bs : Nat) (hbs : 0 < bs) (k : Bytes) (iv : IV bs) :
    BlockMode (cbcDecMode bs (toyD bs k) iv).bs (IV bs) (cbcDecMode bs (toyD bs k) iv).crypt :=
  cbcDec_law bs hbs _ (toyD_length bs k)

/-- CBC over any block cipher pair (`D ∘ E = id` on `bs`-byte blocks, `bs`-byte outputs), any block size
    1..255 dividing the buffer size: the helpers compose to the identity for every data, IV and pair of
    source scripts.  (`bs = 8`: the 3DES-CBC shape of op `p7rt8`; `bs = 16`: SM4.) -/
theorem cbc_enc_dec_stream (L bs : Nat) (hbs : 0 < bs) (h255 : bs ≤ 255) (hL : 0 < L) (hdiv : bs ∣ L)
    (E D : Bytes → Bytes) (hE : ∀ x, (E x).length = bs) (hD : ∀ x, (D x).length = bs)
    (hDE : ∀ x, x.length = bs → D (E x) = x) (iv : IV bs) (data : Bytes) (s1 s2 : List (Nat × Bool)) :
    roundTrip L (cbcEncMode bs E iv.1) (cbcDecMode bs D iv) data s1 s2 =
      .ok ((cbcEncCrypt bs E iv.1 (padStream bs data)).1, data) :=
  enc_dec_stream L (cbcEncMode bs E iv.1) (cbcDecMode bs D iv) (cbcEnc_law bs hbs E hE) (cbcDec_law bs hbs D hD)
    rfl h255 hL hdiv (fun p hp => cbc_crypt_inv bs hbs E D hE hDE iv p hp) data s1 s2

/-- SM4-CBC encryption of a whole-block string, as `Spec.Modes` writes it (the driver's `p7stream`) -/
def sm4CbcEncAll (key iv p : Bytes) : Bytes :=
  (Spec.Modes.cbcEnc (Spec.SM4.encrypt key) iv (Spec.Modes.blocks (p.length / 16) p)).flatten
def sm4CbcDecAll (key iv c : Bytes) : Bytes :=
  (Spec.Modes.cbcDec (Spec.SM4.decrypt key) iv (Spec.Modes.blocks (c.length / 16) c)).flatten

theorem sm4CbcEnc_run (key iv p : Bytes) : (sm4CbcEnc key iv).run p = sm4CbcEncAll key iv p := by
  rw [sm4CbcEncAll, ← blocksN_16]; rfl

theorem sm4CbcDec_run (key : Bytes) (iv : IV 16) (c : Bytes) : (sm4CbcDec key iv).run c = sm4CbcDecAll key iv.1 c := by
  rw [sm4CbcDecAll, ← blocksN_16]; rfl

theorem sm4_enc_law (key iv : Bytes) : BlockMode (sm4CbcEnc key iv).bs Bytes (sm4CbcEnc key iv).crypt :=
  cbcEnc_law 16 (by decide) _ (Props.C05.enc_length key)

theorem sm4_dec_law (key : Bytes) (iv : IV 16) : BlockMode (sm4CbcDec key iv).bs (IV 16) (sm4CbcDec key iv).crypt :=
  cbcDec_law 16 (by decide) _ (Props.C05.dec_length key)

/-- SM4-CBC with the 1024-byte buffer of bloc_cryptor.go: for every key, IV, data and source script
    `P7BlockEnc(cipher.NewCBCEncrypter(sm4, iv), src, out)` writes the SP 800-38A CBC encryption of
    `data ‖ pad` (what the driver's `p7stream` prints as the standard's answer). -/
theorem sm4_enc_stream (key iv data : Bytes) (script : List (Nat × Bool)) :
    p7BlockEnc 1024 (sm4CbcEnc key iv) ⟨data, script⟩ = .ok (sm4CbcEncAll key iv (padStream 16 data)) :=
  sm4CbcEnc_run key iv _ ▸ enc_stream 1024 (sm4CbcEnc key iv) (sm4_enc_law key iv) (by decide) ⟨64, rfl⟩ data script

/-- `P7BlockDecrypt(cipher.NewCBCDecrypter(sm4, iv), src, out)` with the 1024-byte buffer -/
theorem sm4_dec_stream (key : Bytes) (iv : IV 16) (ct : Bytes) (script : List (Nat × Bool)) :
    p7BlockDecrypt 1024 (sm4CbcDec key iv) ⟨ct, script⟩ = decSpec 16 (sm4CbcDecAll key iv.1) ct :=
  (dec_stream 1024 (sm4CbcDec key iv) (sm4_dec_law key iv) (by decide) ⟨64, rfl⟩ ct script).trans
    (congrArg (decSpec 16 · ct) (funext (sm4CbcDec_run key iv)))

/-- the round trip of op `p7stream`: for every key, 16-byte IV, data and two scripts the
    result is `(SM4-CBC(data ‖ pad), data)`; uses C05 `dec_enc` (SM4 decryption inverts encryption). -/
theorem sm4_enc_dec_stream (key : Bytes) (iv : IV 16) (data : Bytes) (s1 s2 : List (Nat × Bool)) :
    roundTrip 1024 (sm4CbcEnc key iv.1) (sm4CbcDec key iv) data s1 s2 =
      .ok (sm4CbcEncAll key iv.1 (padStream 16 data), data) :=
  sm4CbcEnc_run key iv.1 _ ▸ cbc_enc_dec_stream 1024 16 (by decide) (by decide) (by decide) ⟨64, rfl⟩
    (Spec.SM4.encrypt key) (Spec.SM4.decrypt key) (Props.C05.enc_length key) (Props.C05.dec_length key)
    (Props.C05.dec_enc key) iv data s1 s2

theorem enc_script_independent {State : Type} (L : Nat) (m : Mode State) (law : BlockMode m.bs State m.crypt)
    (hL : 0 < L) (hdiv : m.bs ∣ L) (data : Bytes) (s1 s2 : List (Nat × Bool)) :
    p7BlockEnc L m ⟨data, s1⟩ = p7BlockEnc L m ⟨data, s2⟩ := by
  rw [enc_stream L m law hL hdiv, enc_stream L m law hL hdiv]

/-- both block sizes of the property with the 1024-byte buffer of bloc_cryptor.go -/
theorem enc_stream_1024 {State : Type} (m : Mode State) (law : BlockMode m.bs State m.crypt)
    (hbs : m.bs = 8 ∨ m.bs = 16) (data : Bytes) (script : List (Nat × Bool)) :
    p7BlockEnc 1024 m ⟨data, script⟩ = .ok (m.run (padStream m.bs data)) :=
  enc_stream 1024 m law (by decide) (by rcases hbs with h | h <;> rw [h] <;> decide) data script

theorem dec_stream_1024 {State : Type} (m : Mode State) (law : BlockMode m.bs State m.crypt)
    (hbs : m.bs = 8 ∨ m.bs = 16) (ct : Bytes) (script : List (Nat × Bool)) :
    p7BlockDecrypt 1024 m ⟨ct, script⟩ = decSpec m.bs m.run ct :=
  dec_stream 1024 m law (by decide) (by rcases hbs with h | h <;> rw [h] <;> decide) ct script

def K8 : Bytes := [1, 2, 3, 4, 5, 6, 7, 8]
def iv8 : IV 8 := ⟨[9, 9, 9, 9, 9, 9, 9, 9], rfl⟩
def K16 : Bytes := [1, 2, 3, 4, 5, 6, 7, 8, 9, 10, 11, 12, 13, 14, 15, 16]
def iv16 : IV 16 := ⟨List.replicate 16 0x5a, rfl⟩

/-- the hypotheses of `cbc_enc_dec_stream` are satisfiable for block size 8 and the 1024-byte buffer -/
example (data : Bytes) (s1 s2 : List (Nat × Bool)) :
    roundTrip 1024 (cbcEncMode 8 (toyE 8 K8) iv8.1) (cbcDecMode 8 (toyD 8 K8) iv8) data s1 s2 =
      .ok ((cbcEncCrypt 8 (toyE 8 K8) iv8.1 (padStream 8 data)).1, data) :=
  cbc_enc_dec_stream 1024 8 (by decide) (by decide) (by decide) ⟨128, rfl⟩ _ _ (toyE_length 8 K8) (toyD_length 8 K8)
    (toyD_toyE 8 K8) iv8 data s1 s2

/-- 21 bytes, block size 8, a 16-byte buffer (two refills): the source returns 1, 0 and 7 bytes and then
    everything, the ciphertext source 3 bytes and then the rest together with EOF -/
example : roundTrip 16 (cbcEncMode 8 (toyE 8 K8) iv8.1) (cbcDecMode 8 (toyD 8 K8) iv8) (List.replicate 21 0x41)
      [(1, false), (0, false), (7, true)] [(3, false), (100, true)] =
    .ok ([0x40, 0x4f, 0x4e, 0x4d, 0x4c, 0x4b, 0x4a, 0x49, 0x00, 0x0c, 0x0c, 0x08, 0x08, 0x0c, 0x0c, 0x00,
          0x0b, 0x08, 0x09, 0x4c, 0x4d, 0x4e, 0x4f, 0x40], List.replicate 21 0x41) := by decide +kernel

/-- the io.EOF that arrives together with the byte that fills the buffer is dropped by `io.ReadFull`;
    the next refill reads 0 bytes and io.EOF, and `Final` still runs -/
example : roundTrip 16 (cbcEncMode 8 (toyE 8 K8) iv8.1) (cbcDecMode 8 (toyD 8 K8) iv8) [1, 2, 3, 4, 5, 6, 7, 8]
      [(8, true)] [(16, true)] =
    .ok ([9, 9, 9, 9, 9, 9, 9, 9, 9, 6, 7, 4, 5, 2, 3, 0], [1, 2, 3, 4, 5, 6, 7, 8]) := by decide +kernel

example : p7BlockDecrypt 16 (cbcDecMode 8 (toyD 8 K8) iv8) ⟨List.replicate 21 0x41, [(5, false), (0, false)]⟩
    = .error .notMultiple := by decide +kernel
example : p7BlockDecrypt 16 (cbcDecMode 8 (toyD 8 K8) iv8) ⟨List.replicate 24 0x41, [(5, false), (0, false)]⟩
    = .error .badPad := by decide +kernel
example : p7BlockDecrypt 16 (cbcDecMode 8 (toyD 8 K8) iv8) ⟨[], [(5, true)]⟩ = .error .badPad := by decide +kernel

/-- the real buffer size: 1030 bytes through the 1024-byte buffer, block size 16, with zero-byte reads,
    short reads and data-with-EOF on both sources (an instance of `cbc_enc_dec_stream`) -/
example : (roundTrip 1024 (cbcEncMode 16 (toyE 16 K16) iv16.1) (cbcDecMode 16 (toyD 16 K16) iv16)
      (List.replicate 1030 0x41) [(1, false), (0, false), (700, false), (0, false), (1000, true)]
      [(1023, false), (0, false), (1, false), (16, true)]).toOption.map (·.2)
    = some (List.replicate 1030 0x41) := by
  rw [cbc_enc_dec_stream 1024 16 (by decide) (by decide) (by decide) ⟨64, rfl⟩ _ _ (toyE_length 16 K16)
    (toyD_length 16 K16) (toyD_toyE 16 K16) iv16]
  rfl

end Props.C19Stream
