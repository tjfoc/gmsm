/-
C18 (x509/ber.go, as repaired): the OUTPUT of the BER → DER transcoder is linear in the input it consumed.
`encodeTo o` re-encodes every object with the same tag octets, the same primitive contents and a definite length of
at most 10 octets; the BER header of every object has at least the tag octets and one length octet, and (since
fix 58832e0) the children of an object lie inside it, one after the other. So the DER encoding of a tree read from
`[off, off')` has at most `(off' - off) + 9 · nodes` bytes, and with `span_linear` (Props/C18Linear.lean: two input
bytes per node) an accepted n-byte input yields at most 5.5 n bytes of DER.  Together with `ber2der_cost`
(Props/C18.lean: the encoder buffers at most 129 × the output) and `ber2der_linear` (at most n/2 objects, depth ≤ 128):
time and memory of `ber2der` are within a constant multiple of the input size.
-/
import Gmsm.Props.C18Linear
import Gmsm.Props.C17

namespace Props.C18
open Model.BER Gmsm

/-- 10: `0x80 + k` and `k ≤ 9` octets -/
theorem encodeLength_le (L : Nat) : (encodeLength L).length ≤ 10 := by
  unfold encodeLength
  split
  · have := Props.C17.lengthLength_le 8 L
    simp only [List.length_cons, Props.C17.marshalLong_length]; omega
  · simp

theorem readObject_sizes {ber : Bytes} {off : Nat} {hd : Hdr} (h : header ber off = .ok hd)
    (hce : hd.o2 + hd.len ≤ ber.length) :
    (hd.tag ber off).length = hd.tagEnd - off ∧ ((ber.drop hd.o2).take hd.len).length = hd.len := by
  have := header_bounds h
  simp only [Hdr.tag, List.length_take, List.length_drop]; omega

/-- the DER of what was read from `[off, e)` has at most `(e - off) + 9 · nodes` bytes: the same identifier and
    content octets, a length field of at most 10 octets in place of one of at least 1 -/
theorem encode_all (ber : Bytes) : ∀ f : Nat,
    (∀ off d o e, readObject f ber off d = .ok (o, e) → (encodeTo o).length + off ≤ e + 9 * o.nodes) ∧
    (∀ off ce ind d os e, readItems f ber off ce ind d = .ok (os, e) →
        (encodeItems os).length + off ≤ e + 9 * nodesItems os) := by
  refine parse_induction ber ?_ ?_ ?_ ?_
  · intro off d hd hh hce _
    have := header_bounds hh
    have := readObject_sizes hh hce
    have := encodeLength_le ((ber.drop hd.o2).take hd.len).length
    simp only [encodeTo, Obj.nodes, List.length_append]; omega
  · intro f off d hd items e1 hh hce _ _ hi hI
    have := header_bounds hh
    have := readObject_sizes hh hce
    have := encodeLength_le (encodeItems items).length
    simp only [encodeTo, Obj.nodes, List.length_append]
    cases hind : hd.ind
    · have := items_inside_parent (Nat.le_add_right _ _) (hind ▸ hi)
      simp only [Bool.false_eq_true, if_false]; omega
    · simp only [if_true]; omega
  · intro off ce ind d _ _
    simp [encodeItems, nodesItems]
  · intro f off ce ind d o e1 os e _ _ _ hO hI
    simp only [encodeItems, nodesItems, List.length_append]; omega

/-- the re-encoding of an object read from the bytes `[off, off')` is at most
    `(off' - off) + 9 · nodes` bytes long. -/
theorem encode_le_span {fuel : Nat} {ber : Bytes} {off d : Nat} {o : Obj} {off' : Nat}
    (h : readObject fuel ber off d = .ok (o, off')) : (encodeTo o).length ≤ (off' - off) + 9 * o.nodes := by
  have := (encode_all ber fuel).1 off d o off' h
  have := (readObject_progress h).1
  omega

/-- an accepted n-byte input yields at most 5.5 n bytes of DER. -/
theorem ber2der_output_linear {ber der : Bytes} (h : ber2der ber = .ok der) : 2 * der.length ≤ 11 * ber.length := by
  obtain ⟨o, e, hr, rfl⟩ := ber2der_ok h
  have := span_linear hr
  have := (readObject_progress hr).2
  have := encode_le_span hr
  omega

/-- re-encoding can shrink (long-form length of a short content) … -/
example : (ber2der [0x30, 0x80, 0x04, 0x81, 0x01, 0xaa, 0x00, 0x00]).toOption.map (·.length) = some 5 := by rfl

/-- … and a definite minimal encoding is reproduced byte for byte -/
example : ber2der [0x30, 0x03, 0x02, 0x01, 0x05] = .ok [0x30, 0x03, 0x02, 0x01, 0x05] := by rfl

end Props.C18
