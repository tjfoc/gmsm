/-
C15 — the hello checks made strict by five repairs of the library (reports /verif/reports10/C15):

  `fix: reject a ServerHello version above the client's offer`        `clientHandshakeState.pickTLSVersion`
  `fix: reject a TLS 1.2-only cipher suite below TLS 1.2 (client)`     `clientHandshakeState.pickCipherSuite`
  `fix: ClientHello: check the lengths inside server_name and status_request`   `clientHelloMsg.unmarshal`
  `fix: reject a session_ticket extension the client did not offer`   both `processServerHello`
  `fix: reject handshake data behind the peer's Finished`             the four `readFinished`

For each, in this order, the theorems state the repaired behaviour — what was false of the code as found — over
`Model.Handshake` / `Model.TLSMessages`, with non-vacuity examples.  The models are tied to the Go code by the ops
`shmod`, `shmodv`, `chext`, `hsmsg`, `evilsrv`, `evilgm`, `evilgmc`, `evilcli` (harness/c15*.go).
-/
import Gmsm.Props.C15
import Gmsm.Props.C15Limits
import Gmsm.Props.C15Codec
namespace Props.C15Strict
open Model.Handshake

/-- `pickTLSVersion` of a TLS client with `minVersion()` = lo, `maxVersion()` = hi; `hi` is the version the client
    wrote into its hello -/
theorem clientVersionOkLim_iff (lo hi v : Nat) :
    clientVersionOkLim lo hi false v = true ↔ lo ≤ v ∧ 0x0301 ≤ v ∧ v ≤ hi := by
  unfold clientVersionOkLim mutualVersionLim versionGMSSL versionSSL30
  simp only [Bool.false_eq_true, if_false]
  by_cases h1 : v < lo
  · simp [h1]; omega
  · rw [if_neg h1]
    by_cases h2 : 0x0101 < v ∧ v < 0x0300
    · simp [h2]; omega
    · rw [if_neg h2]
      by_cases h3 : v > hi
      · simp [h3]; omega
      · simp [h3]; omega

/-- the version is accepted only if `mutualVersion` returns it unchanged: never after clamping -/
theorem client_accepts_only_unclamped_version (lo hi : Nat) (offered : List Nat) (v s comp : Nat)
    (h : clientHelloCheckLim lo hi false offered v s comp = .accept) :
    mutualVersionLim lo hi v = some v ∧ lo ≤ v ∧ 0x0301 ≤ v ∧ v ≤ hi := by
  have hv : clientVersionOkLim lo hi false v = true := by
    unfold clientHelloCheckLim at h
    by_cases c : clientVersionOkLim lo hi false v = true
    · exact c
    · simp [c] at h
  have r := (clientVersionOkLim_iff lo hi v).mp hv
  refine ⟨?_, r⟩
  unfold mutualVersionLim versionGMSSL versionSSL30
  rw [if_neg (by omega), if_neg (by omega), if_neg (by omega)]

/-- the repaired clause ("unsupported versions").  Before the repair `mutualVersion` clamped the version to `hi` and
    the handshake went on, e.g. `clientHelloCheck false … 0x0304 0x009c 0 = .accept`. -/
theorem client_rejects_version_above_offer (lo hi : Nat) (offered : List Nat) (v s comp : Nat) (h : hi < v) :
    clientHelloCheckLim lo hi false offered v s comp = .reject .protocolVersion := by
  have hv : clientVersionOkLim lo hi false v = false := by
    cases c : clientVersionOkLim lo hi false v with
    | false => rfl
    | true => have := (clientVersionOkLim_iff lo hi v).mp c; omega
  simp [clientHelloCheckLim, hv]

theorem clientHelloCheckLim_default (gm : Bool) (offered : List Nat) (v s comp : Nat) :
    clientHelloCheckLim (cfgMin 0) (cfgMax 0) gm offered v s comp = clientHelloCheck gm offered v s comp := by
  unfold clientHelloCheckLim clientHelloCheck clientVersionOkLim clientVersionOk
  rw [Props.C15Limits.mutualVersionLim_default]

theorem client_rejects_version_above_tls12 (offered : List Nat) (v s comp : Nat) (h : 0x0303 < v) :
    clientHelloCheck false offered v s comp = .reject .protocolVersion := by
  rw [← clientHelloCheckLim_default]
  exact client_rejects_version_above_offer _ _ _ _ _ _ (by simpa [cfgMax, versionTLS12] using h)

example : clientHelloCheck false (helloSuites false [0xc02f, 0x009c]) 0x0304 0x009c 0 = .reject .protocolVersion := by decide
example : clientHelloCheck false (helloSuites false [0xc02f, 0x009c]) 0xffff 0x009c 0 = .reject .protocolVersion := by decide
example : clientHelloCheckLim 0x0101 0x0301 false (helloSuitesAt 0x0301 false [0xc02f, 0xc013]) 0x0303 0xc013 0
    = .reject .protocolVersion := by decide
example : clientHelloCheckLim 0x0101 0x0302 false (helloSuitesAt 0x0302 false [0xc02f, 0xc013]) 0x0303 0xc013 0
    = .reject .protocolVersion := by decide
example : clientHelloCheckLim 0x0101 0x0301 false (helloSuitesAt 0x0301 false [0xc02f, 0xc013]) 0x0301 0xc013 0 = .accept := by
  decide
example : clientHelloCheckLim 0x0101 0x0303 false (helloSuitesAt 0x0303 false [0xc02f, 0xc013]) 0x0302 0xc013 0 = .accept := by
  decide

/-- the ids that carry the `suiteTLS12` flag in `cipherSuites` (cipher_suites.go): the AEAD and the SHA-256 CBC suites -/
def tls12Suites : List Nat :=
  [0xcca8, 0xcca9, 0xc02f, 0xc02b, 0xc030, 0xc02c, 0xc027, 0xc023, 0x009c, 0x009d, 0x003c]

theorem tls12Suites_eq : (tlsSuiteTable.filter (fun e => e.2.2.2.1)).map (·.1) = tls12Suites := by decide

theorem tls12Only_iff (s : Nat) : tls12Only s = true ↔ s ∈ tls12Suites := by
  constructor
  · intro h
    unfold tls12Only at h
    cases hf : tlsSuiteTable.find? (·.1 = s) with
    | none => rw [hf] at h; cases h
    | some e =>
      rw [hf] at h
      obtain ⟨a, b, c, t, o⟩ := e
      have hm := List.mem_of_find?_eq_some hf
      have hp := List.find?_some hf
      simp only [decide_eq_true_eq] at hp
      dsimp only at h
      rw [← tls12Suites_eq, List.mem_map]
      exact ⟨(a, b, c, t, o), List.mem_filter.mpr ⟨hm, h⟩, hp⟩
  · intro h
    simp only [tls12Suites, List.mem_cons, List.not_mem_nil, or_false] at h
    rcases h with h | h | h | h | h | h | h | h | h | h | h <;> subst h <;> decide

/-- the client's rule is the server's rule (`setCipherSuite`): a suite the library's own server may select at
    version `w` passes the client's suite/version test at `w` -/
theorem server_choice_passes_client_rule (w : Nat) (e : Bool) (s : Nat) (h : tlsSuiteOk w e s = true) :
    clientSuiteVersionOk false w s = true := by
  rw [Props.C15.clientSuiteVersionOk_iff]
  right
  unfold tlsSuiteOk at h
  unfold tls12Only
  cases hf : tlsSuiteTable.find? (·.1 = s) with
  | none => right; rfl
  | some x =>
    obtain ⟨a, b, c, t, o⟩ := x
    rw [hf] at h
    dsimp only at h ⊢
    cases t with
    | false => right; rfl
    | true =>
      left
      simp only [if_true, Bool.and_eq_true, versionTLS12] at h
      exact of_decide_eq_true h.2

theorem tls12Suite_below_tls12 (v s : Nat) (hv : v < 0x0303) (hs : s ∈ tls12Suites) :
    clientSuiteVersionOk false v s = false := by
  cases c : clientSuiteVersionOk false v s with
  | false => rfl
  | true =>
    rcases (Props.C15.clientSuiteVersionOk_iff false v s).mp c with h | h | h
    · cases h
    · omega
    · rw [(tls12Only_iff s).mpr hs] at h; cases h

/-- the repaired clause ("unsupported suites"): below TLS 1.2 a TLS client never goes on with a suite that exists only
    in TLS 1.2, although such a suite is in the list it offered.  Before the repair `pickCipherSuite` only looked the
    id up in that list. -/
theorem client_never_tls12_suite_below_tls12 (lo hi : Nat) (offered : List Nat) (v s comp : Nat)
    (hv : v < 0x0303) (hs : s ∈ tls12Suites) : clientHelloCheckLim lo hi false offered v s comp ≠ .accept := by
  unfold clientHelloCheckLim
  rw [tls12Suite_below_tls12 v s hv hs]
  split
  · nofun
  · split
    · nofun
    · nofun

/-- … and the alert, when the version itself is one the client offered -/
theorem client_rejects_tls12_suite_below_tls12 (lo hi : Nat) (offered : List Nat) (v s comp : Nat)
    (hlo : lo ≤ v) (h10 : 0x0301 ≤ v) (hhi : v ≤ hi) (hv : v < 0x0303) (hs : s ∈ tls12Suites) :
    clientHelloCheckLim lo hi false offered v s comp = .reject .handshakeFailure := by
  have h1 : clientVersionOkLim lo hi false v = true := (clientVersionOkLim_iff lo hi v).mpr ⟨hlo, h10, hhi⟩
  unfold clientHelloCheckLim
  rw [h1, tls12Suite_below_tls12 v s hv hs]
  simp

example : clientHelloCheck false (helloSuites false [0xc02f, 0x009c, 0xc013]) 0x0301 0x009c 0 = .reject .handshakeFailure := by decide
example : clientHelloCheck false (helloSuites false [0xc02f, 0x009c, 0xc013]) 0x0302 0xc02f 0 = .reject .handshakeFailure := by decide
example : clientHelloCheck false (helloSuites false [0xc02f, 0x009c, 0xc013]) 0x0303 0xc02f 0 = .accept := by decide
example : clientHelloCheck false (helloSuites false [0xc02f, 0x009c, 0xc013]) 0x0301 0xc013 0 = .accept := by decide

open Gmsm Model.TLSMessages Props.C15Codec Proofs.TLSBytes

/-- a hello without extensions (the struct `unmarshal` starts from), for the examples -/
def blankHelloMsg : ClientHelloMsg :=
  { vers := 0, random := [], sessionId := [], cipherSuites := [], compressionMethods := [], nextProtoNeg := false,
    serverName := [], ocspStapling := false, scts := false, supportedCurves := [], supportedPoints := [],
    ticketSupported := false, sessionTicket := [], supportedSignatureAlgorithms := [], secureRenegotiation := [],
    secureRenegotiationSupported := false, alpnProtocols := [] }

/-- a ServerNameList as RFC 6066 writes it: entries `name_type (1) | length (2) | name` -/
def sniEntries : List (Byte × Bytes) → Bytes
  | [] => []
  | (t, n) :: es => [t] ++ (put16 n.length ++ (n ++ sniEntries es))

/-- the names of type host_name (0) -/
def hostNames : List (Byte × Bytes) → List Bytes
  | [] => []
  | (t, n) :: es => if t = 0 then n :: hostNames es else hostNames es

/-- what `sniLoop` returns on a well-formed list: the host name if there is one, else what it started with -/
def sniResult (es : List (Byte × Bytes)) (acc : Option Bytes) : Option Bytes :=
  match hostNames es with
  | [] => acc
  | n :: _ => some n

/-- every name fits its 16-bit length; a host name is not empty; at most one host name, counting the one seen
    before (`acc`) -/
def SniWF (es : List (Byte × Bytes)) (acc : Option Bytes) : Prop :=
  (∀ e ∈ es, e.2.length < 65536) ∧ (∀ n ∈ hostNames es, n ≠ []) ∧
  (hostNames es).length + (if acc.isSome then 1 else 0) ≤ 1

/-- `SniWF` read along one turn of `sniLoop`: the tests the loop makes on an entry, then the rest with the loop's new `acc` -/
theorem SniWF_cons (t : Byte) (n : Bytes) (es : List (Byte × Bytes)) (acc : Option Bytes) :
    SniWF ((t, n) :: es) acc ↔ n.length < 65536 ∧
      if t = 0 then (n ≠ [] ∧ acc.isSome = false) ∧ SniWF es (some n) else SniWF es acc := by
  unfold SniWF
  by_cases ht : t = 0
  · simp only [hostNames, ht, if_true, List.forall_mem_cons, List.length_cons, Option.isSome_some]
    cases acc.isSome
    · exact ⟨fun ⟨⟨a, b⟩, ⟨c, d⟩, e⟩ => ⟨a, ⟨c, rfl⟩, b, d, e⟩, fun ⟨a, ⟨c, _⟩, b, d, e⟩ => ⟨⟨a, b⟩, ⟨c, d⟩, e⟩⟩
    · exact ⟨fun h => absurd h.2.2 (by simp), fun h => Bool.noConfusion h.2.1.2⟩
  · simp only [hostNames, ht, if_false, List.forall_mem_cons, and_assoc]

theorem sniResult_cons (t : Byte) (n : Bytes) (es : List (Byte × Bytes)) (acc : Option Bytes) :
    sniResult ((t, n) :: es) acc = if t = 0 then some n else sniResult es acc := by
  by_cases ht : t = 0 <;> simp only [sniResult, hostNames, ht, ↓reduceIte]

theorem sniResult_seen (es : List (Byte × Bytes)) (n : Bytes) (h : SniWF es (some n)) : sniResult es (some n) = some n := by
  have h3 := h.2.2
  simp only [Option.isSome_some, if_true] at h3
  rw [sniResult, List.eq_nil_of_length_eq_zero (by omega : (hostNames es).length = 0)]

/-- Before the repair the loop stopped at the first host name: everything behind it — in particular what a lowered
    HostName length leaves over — was never looked at. -/
theorem sniLoop_sound (fuel : Nat) (d : Bytes) (acc r : Option Bytes) (h : sniLoop fuel d acc = some r) :
    ∃ es, d = sniEntries es ∧ SniWF es acc ∧ r = sniResult es acc := by
  induction fuel generalizing d acc with
  | zero => simp [sniLoop] at h
  | succ fuel ih =>
    unfold sniLoop at h
    split at h
    · simp only [Option.ite_none_left_eq_some] at h
      obtain ⟨t, a, b, rest, rfl⟩ := split3 d (by omega)
      bsimp at h
      obtain ⟨_, hl, h⟩ := h
      have htl : (List.take (get16 a b) rest).length = get16 a b := List.length_take_of_le (by omega)
      have hlt := get16_lt a b
      have hd : ∀ es, List.drop (get16 a b) rest = sniEntries es →
          t :: a :: b :: rest = sniEntries ((t, List.take (get16 a b) rest) :: es) := by
        intro es e1
        simp only [sniEntries, htl, put16_get16, ← e1, List.take_append_drop, List.cons_append, List.nil_append]
      split at h
      · rename_i ht
        simp only [Option.ite_none_left_eq_some, not_or, Bool.not_eq_true] at h
        obtain ⟨⟨hc, hacc⟩, h⟩ := h
        obtain ⟨es, e1, w, rfl⟩ := ih _ _ h
        refine ⟨_ :: es, hd es e1, (SniWF_cons ..).mpr ⟨by omega, ?_⟩, ?_⟩
        · rw [if_pos ht]
          exact ⟨⟨fun hnil => hc (by rw [← htl, hnil]; rfl), hacc⟩, w⟩
        · rw [sniResult_cons, if_pos ht, sniResult_seen es _ w]
      · rename_i ht
        obtain ⟨es, e1, w, rfl⟩ := ih _ _ h
        refine ⟨_ :: es, hd es e1, (SniWF_cons ..).mpr ⟨by omega, ?_⟩, ?_⟩
        · rwa [if_neg ht]
        · rw [sniResult_cons, if_neg ht]
    · cases h
      have : d = [] := List.eq_nil_of_length_eq_zero (by omega)
      subst this
      refine ⟨[], rfl, ⟨by simp, by simp [hostNames], ?_⟩, rfl⟩
      simp only [hostNames, List.length_nil]
      split <;> omega

theorem sniLoop_complete (es : List (Byte × Bytes)) (fuel : Nat) (acc : Option Bytes) (hw : SniWF es acc)
    (hf : (sniEntries es).length < fuel) : sniLoop fuel (sniEntries es) acc = some (sniResult es acc) := by
  induction es generalizing fuel acc with
  | nil =>
    obtain ⟨fuel, rfl⟩ := Nat.exists_eq_add_one_of_ne_zero (by omega : fuel ≠ 0)
    simp [sniLoop, sniEntries, sniResult, hostNames]
  | cons e es ih =>
    obtain ⟨t, n⟩ := e
    obtain ⟨hn0, hw⟩ := (SniWF_cons ..).mp hw
    obtain ⟨fuel, rfl⟩ := Nat.exists_eq_add_one_of_ne_zero (by omega : fuel ≠ 0)
    rw [sniEntries] at hf ⊢
    simp only [put16, List.length_append, List.length_cons, List.length_nil] at hf
    rw [sniLoop]
    simp only [put16]
    bsimp
    rw [if_pos (by omega), if_neg (by omega), get16_put16 _ hn0, if_neg (by simp only [List.length_append]; omega),
      List.drop_left, List.take_left, sniResult_cons]
    by_cases ht : t = 0
    · simp only [if_pos ht] at hw ⊢
      obtain ⟨⟨hne, hacc⟩, hw⟩ := hw
      rw [if_neg (by rw [hacc]; simp; exact hne), ih fuel (some n) hw (by omega), sniResult_seen es n hw]
    · simp only [if_neg ht] at hw ⊢
      exact ih fuel acc hw (by omega)

/-- what `chExtension` makes of `sniLoop`'s result -/
def withServerName (m : ClientHelloMsg) : Option Bytes → ClientHelloMsg
  | none => m
  | some n => { m with serverName := n }

/-- the repaired clause for server_name ("inconsistent length fields"): the extension is accepted exactly when its
    body is a 16-bit length followed by that many bytes which are, to the last one, well-formed ServerName entries
    (`SniWF`).  No byte of the body is left unexamined. -/
theorem chExtension_sni_iff (m m2 : ClientHelloMsg) (length : Nat) (data : Bytes) :
    chExtension m 0 length data = some m2 ↔
      ∃ es, data.take length = put16 (sniEntries es).length ++ sniEntries es ∧ (sniEntries es).length < 65536 ∧
        SniWF es none ∧ m2 = withServerName m (sniResult es none) := by
  unfold chExtension
  rw [if_pos rfl]
  dsimp only
  constructor
  · intro h
    simp only [Option.ite_none_left_eq_some] at h
    obtain ⟨a, b, r, hr⟩ := split2 (List.take length data) (by omega)
    rw [hr] at h
    bsimp at h
    obtain ⟨_, hl, h⟩ := h
    have hlt := get16_lt a b
    cases hs : sniLoop (r.length + 1) r none with
    | none => rw [hs] at h; simp at h
    | some res =>
      obtain ⟨es, e1, w, e2⟩ := sniLoop_sound _ _ _ _ hs
      refine ⟨es, ?_, by rw [← e1]; omega, w, ?_⟩
      · rw [hr, ← e1, show r.length = get16 a b by omega, put16_get16]; rfl
      · rw [hs] at h
        rw [← e2]
        cases res <;> simpa [withServerName] using h.symm
  · rintro ⟨es, e1, hl, w, rfl⟩
    rw [e1]
    simp only [put16]
    bsimp
    rw [get16_put16 _ hl, if_neg (by omega), if_neg (by omega), sniLoop_complete es _ none w (by omega)]
    cases sniResult es none <;> rfl

/-- what a lowered host name length leaves over starts with a letter, read as name_type, and two more, read as a
    length of at least 0x2020 -/
theorem sniLoop_printable_tail (fuel : Nat) (t : Bytes) (acc : Option Bytes) (h0 : 0 < t.length) (hl : t.length < 0x2000)
    (hp : ∀ b ∈ t, 0x20 ≤ b.toNat) : sniLoop fuel t acc = none := by
  cases fuel with
  | zero => rfl
  | succ fuel =>
    unfold sniLoop
    rw [if_pos h0]
    by_cases h3 : t.length < 3
    · rw [if_pos h3]
    · rw [if_neg h3]
      obtain ⟨x, a, b, r, rfl⟩ := split3 t (by omega)
      have ha := hp a (by simp)
      bsimp
      have hg : r.length < get16 a b := by
        simp only [List.length_cons] at hl
        unfold get16; omega
      rw [if_pos hg]

/-- the failing inputs of the report, in general: a printable host name (every byte at least 0x20, as in any DNS
    name) whose 16-bit length field is changed to any other value is refused.
    `k > len`: the entry does not fit; `k = 0`: an empty host name; `k < len`: `sniLoop_printable_tail`. -/
theorem sni_hostname_length_perturbed (m : ClientHelloMsg) (name rest : Bytes) (k : Nat)
    (hp : ∀ b ∈ name, 0x20 ≤ b.toNat) (hl : name.length < 0x2000) (hk : k ≠ name.length) (hk2 : k < 65536) :
    chExtension m 0 (name.length + 5) ((put16 (name.length + 3) ++ ([0] ++ (put16 k ++ name))) ++ rest) = none := by
  have el : (([0] : Bytes) ++ (put16 k ++ name)).length = name.length + 3 := by
    simp only [put16, List.length_append, List.length_cons, List.length_nil]; omega
  rw [List.append_assoc, chExtension_sni_list m _ rest _ _ el (by omega), if_neg (by omega)]
  unfold sniLoop
  simp only [put16]
  bsimp
  rw [if_pos (by omega), if_neg (by omega), get16_put16 _ hk2]
  by_cases hgt : name.length < k
  · rw [if_pos hgt]
  · rw [if_neg hgt, if_pos trivial]
    by_cases hz : k = 0
    · rw [if_pos (Or.inl hz)]
    · rw [if_neg (by simp [hz])]
      have hd : (List.drop k name).length = name.length - k := List.length_drop
      rw [sniLoop_printable_tail _ (List.drop k name) _ (by omega) (by omega)
        (fun b hb => hp b (List.mem_of_mem_drop hb))]

/-- … and the 16-bit length of the list itself must be the number of bytes that follow it inside the extension -/
theorem sni_list_length_perturbed (m : ClientHelloMsg) (list rest : Bytes) (k : Nat) (hk : k ≠ list.length) (hk2 : k < 65536) :
    chExtension m 0 (list.length + 2) (put16 k ++ (list ++ rest)) = none := by
  rw [chExtension_sni_list m list rest _ k rfl hk2, if_pos (Ne.symm hk)]

-- the report's inputs: "example.com" with its length 11 lowered to 10 and to 0; the honest extension; a second name
example : chExtension blankHelloMsg 0 16 [0, 14, 0, 0, 10, 101, 120, 97, 109, 112, 108, 101, 46, 99, 111, 109] = none := by decide
example : chExtension blankHelloMsg 0 16 [0, 14, 0, 0, 0, 101, 120, 97, 109, 112, 108, 101, 46, 99, 111, 109] = none := by decide
example : (chExtension blankHelloMsg 0 16 [0, 14, 0, 0, 11, 101, 120, 97, 109, 112, 108, 101, 46, 99, 111, 109]).map (·.serverName)
    = some [101, 120, 97, 109, 112, 108, 101, 46, 99, 111, 109] := by decide
example : (chExtension blankHelloMsg 0 10 [0, 8, 1, 0, 1, 120, 0, 0, 1, 97]).map (·.serverName) = some [97] := by decide
example : chExtension blankHelloMsg 0 10 [0, 8, 0, 0, 1, 120, 0, 0, 1, 97] = none := by decide

/-- a responder_id_list as RFC 6066 writes it: entries `length (2) | ResponderID` -/
def ridEntries : List Bytes → Bytes
  | [] => []
  | i :: is => put16 i.length ++ (i ++ ridEntries is)

theorem ridLoop_sound (fuel : Nat) (ids : Bytes) (h : ridLoop fuel ids = true) :
    ∃ l, ids = ridEntries l ∧ ∀ i ∈ l, i ≠ [] ∧ i.length < 65536 := by
  induction fuel generalizing ids with
  | zero => simp [ridLoop] at h
  | succ fuel ih =>
    unfold ridLoop at h
    split at h
    · simp only [Bool.if_false_left, Bool.and_eq_true, Bool.not_eq_true', decide_eq_false_iff_not] at h
      obtain ⟨a, b, r, rfl⟩ := split2 ids (by omega)
      bsimp at h
      obtain ⟨_, hc, h⟩ := h
      have hlt := get16_lt a b
      have htl : (List.take (get16 a b) r).length = get16 a b := List.length_take_of_le (by omega)
      obtain ⟨l, e1, w⟩ := ih _ h
      refine ⟨List.take (get16 a b) r :: l, ?_, ?_⟩
      · simp only [ridEntries, htl, put16_get16, ← e1, List.take_append_drop, List.cons_append, List.nil_append]
      · intro i hi
        rcases List.mem_cons.mp hi with rfl | hi
        · refine ⟨fun hnil => ?_, by omega⟩
          have : (List.take (get16 a b) r).length = 0 := by rw [hnil]; rfl
          exact hc (Or.inl (by omega))
        · exact w i hi
    · have : ids = [] := List.eq_nil_of_length_eq_zero (by omega)
      subst this
      exact ⟨[], rfl, by simp⟩

theorem ridLoop_complete (l : List Bytes) (fuel : Nat) (hw : ∀ i ∈ l, i ≠ [] ∧ i.length < 65536)
    (hf : (ridEntries l).length < fuel) : ridLoop fuel (ridEntries l) = true := by
  induction l generalizing fuel with
  | nil =>
    obtain ⟨fuel, rfl⟩ := Nat.exists_eq_add_one_of_ne_zero (by omega : fuel ≠ 0)
    simp [ridLoop, ridEntries]
  | cons c cs ih =>
    obtain ⟨fuel, rfl⟩ := Nat.exists_eq_add_one_of_ne_zero (by omega : fuel ≠ 0)
    obtain ⟨hne, hc0⟩ := hw c (by simp)
    have hnl : c.length ≠ 0 := fun h0 => hne (List.eq_nil_of_length_eq_zero h0)
    rw [ridEntries] at hf ⊢
    simp only [put16, List.length_append, List.length_cons, List.length_nil] at hf
    rw [ridLoop]
    simp only [put16]
    bsimp
    rw [if_pos (by omega), if_neg (by omega), get16_put16 _ hc0, if_neg (by simp only [List.length_append]; omega),
      List.drop_left, ih fuel (fun x hx => hw x (by simp [hx])) (by omega)]

/-- the repaired clause for status_request: after the type byte an OCSP status request is accepted exactly when it is
    a 16-bit length, that many bytes of non-empty ResponderIDs with their 16-bit lengths, a second 16-bit length and
    exactly that many bytes of request extensions.  (Before the repair only the type byte was read.) -/
theorem ocspRequestOk_iff (d : Bytes) :
    ocspRequestOk d = true ↔
      ∃ l exts, d = put16 (ridEntries l).length ++ (ridEntries l ++ (put16 exts.length ++ exts)) ∧
        (ridEntries l).length < 65536 ∧ exts.length < 65536 ∧ ∀ i ∈ l, i ≠ [] ∧ i.length < 65536 := by
  constructor
  · intro h
    simp only [ocspRequestOk, Bool.if_false_left, Bool.and_eq_true, Bool.not_eq_true', decide_eq_false_iff_not,
      decide_eq_true_eq, Bool.not_eq_false] at h
    obtain ⟨a, b, r, rfl⟩ := split2 d (by omega)
    bsimp at h
    obtain ⟨_, hl, hr, h3, h⟩ := h
    have hlt := get16_lt a b
    have htl : (List.take (get16 a b) r).length = get16 a b := List.length_take_of_le (by omega)
    obtain ⟨l, e1, w⟩ := ridLoop_sound _ _ hr
    obtain ⟨x, y, r2, hr2⟩ := split2 (List.drop (get16 a b) r) (by omega)
    rw [hr2] at h
    bsimp at h
    have hlt2 := get16_lt x y
    refine ⟨l, r2, ?_, by rw [← e1]; omega, by omega, w⟩
    rw [← e1, htl, put16_get16, show r2.length = get16 x y by omega, put16_get16]
    show a :: b :: r = a :: b :: (List.take (get16 a b) r ++ (x :: y :: r2))
    rw [← hr2, List.take_append_drop]
  · rintro ⟨l, exts, rfl, h1, h2, w⟩
    unfold ocspRequestOk
    simp only [put16]
    bsimp
    rw [get16_put16 _ h1, if_neg (by simp only [List.length_append, List.length_cons]; omega),
      if_neg (by simp only [List.length_append, List.length_cons]; omega), List.take_left, List.drop_left,
      ridLoop_complete l _ w (by omega)]
    bsimp
    have hg := get16_put16 _ h2
    simp only [hg]
    simp; omega

/-- status types other than ocsp carry no format this code knows and only clear `ocspStapling` -/
theorem chExtension_ocsp_iff (m m2 : ClientHelloMsg) (length : Nat) (data : Bytes) :
    chExtension m 5 length data = some m2 ↔
      if length > 0 ∧ data.getD 0 0 = 1 then
        ocspRequestOk ((data.take length).drop 1) = true ∧ m2 = { m with ocspStapling := true }
      else m2 = { m with ocspStapling := false } := by
  unfold chExtension
  rw [if_neg (by decide), if_neg (by decide), if_pos rfl]
  dsimp only
  by_cases c : length > 0 ∧ data.getD 0 0 = 1
  · rw [if_pos c]
    simp only [c, and_self, decide_true, Bool.true_and]
    cases ho : ocspRequestOk (List.drop 1 (List.take length data)) with
    | false => simp
    | true => simp [eq_comm]
  · rw [if_neg c]
    simp only [c, decide_false, Bool.false_and, Bool.false_eq_true, if_false]
    simp [eq_comm]

theorem ocsp_two_lengths (a b : Nat) (h : ¬(a = 0 ∧ b = 0))
    (ha : a < 65536) (hb : b < 65536) : ocspRequestOk (put16 a ++ put16 b) = false := by
  cases hx : ocspRequestOk (put16 a ++ put16 b) with
  | false => rfl
  | true =>
    -- four bytes leave no room for a responder id or a request extension, so both lengths are zero
    obtain ⟨l, exts, e, _, _, _⟩ := (ocspRequestOk_iff _).mp hx
    have hlen := congrArg List.length e
    simp only [put16, List.length_append, List.length_cons, List.length_nil] at hlen
    have r0 := List.eq_nil_of_length_eq_zero (by omega : (ridEntries l).length = 0)
    have e0 := List.eq_nil_of_length_eq_zero (by omega : exts.length = 0)
    rw [r0, e0, List.nil_append, List.append_nil] at e
    obtain ⟨e1, e2⟩ := List.append_inj e rfl
    exact absurd ⟨put16_inj a _ ha (by decide) e1, put16_inj b _ hb (by decide) e2⟩ h

/-- the failing inputs of the report, in general: in the request the library itself writes (`01 0000 0000`) neither
    16-bit length can be changed to anything else -/
theorem ocsp_length_perturbed (m : ClientHelloMsg) (rest : Bytes) (a b : Nat) (h : ¬(a = 0 ∧ b = 0))
    (ha : a < 65536) (hb : b < 65536) :
    chExtension m 5 5 (([1] ++ (put16 a ++ put16 b)) ++ rest) = none := by
  cases hx : chExtension m 5 5 (([1] ++ (put16 a ++ put16 b)) ++ rest) with
  | none => rfl
  | some m2 =>
    exfalso
    have hh := (chExtension_ocsp_iff m m2 5 _).mp hx
    rw [if_pos ⟨by decide, rfl⟩] at hh
    have e : List.drop 1 (List.take 5 ((([1] : Bytes) ++ (put16 a ++ put16 b)) ++ rest)) = put16 a ++ put16 b := by
      simp only [put16]
      bsimp
    rw [e, ocsp_two_lengths a b h ha hb] at hh
    exact Bool.false_ne_true hh.1

example : chExtension blankHelloMsg 5 5 [1, 0, 0, 0, 0] = some { blankHelloMsg with ocspStapling := true } := by decide
example : chExtension blankHelloMsg 5 5 [1, 0xff, 0xff, 0, 0] = none := by decide
example : chExtension blankHelloMsg 5 5 [1, 0, 0, 1, 0] = none := by decide
example : chExtension blankHelloMsg 5 9 [1, 0, 4, 0, 2, 0xaa, 0xbb, 0, 0] = some { blankHelloMsg with ocspStapling := true } := by
  decide
example : chExtension blankHelloMsg 5 7 [1, 0, 2, 0, 0, 0, 0] = none := by decide   -- an empty ResponderID
example : chExtension blankHelloMsg 5 6 [1, 0, 0, 0, 0, 0] = none := by decide      -- a byte behind request_extensions
example : chExtension blankHelloMsg 5 3 [2, 0xff, 0xff] = some blankHelloMsg := by decide  -- another status type: not parsed

/-- wherever the extension stands in the hello (`m`: what the extensions before it have set, `rest`: the extensions
    behind it), the loop over the extensions — hence `clientHelloMsg.unmarshal` — returns false -/
theorem chExtLoop_rejects_perturbed_sni (f : Nat) (m : ClientHelloMsg) (name rest : Bytes) (k : Nat)
    (hp : ∀ b ∈ name, 0x20 ≤ b.toNat) (hl : name.length < 0x2000) (hk : k ≠ name.length) (hk2 : k < 65536)
    (hf : (put16 0 ++ (put16 (name.length + 5) ++ ((put16 (name.length + 3) ++ ([0] ++ (put16 k ++ name))) ++ rest))).length < f) :
    chExtLoop f (put16 0 ++ (put16 (name.length + 5) ++ ((put16 (name.length + 3) ++ ([0] ++ (put16 k ++ name))) ++ rest))) m
      = none := by
  have el : (put16 (name.length + 3) ++ ([0] ++ (put16 k ++ name))).length = name.length + 5 := by
    simp only [put16, List.length_append, List.length_cons, List.length_nil]; omega
  rw [chExtLoop_eq, extLoop_step chExtension f 0 _ (put16 (name.length + 3) ++ ([0] ++ (put16 k ++ name))) rest m
    (by decide) el (by omega) hf, sni_hostname_length_perturbed m name rest k hp hl hk hk2]

theorem chExtLoop_rejects_perturbed_ocsp (f : Nat) (m : ClientHelloMsg) (rest : Bytes) (a b : Nat) (h : ¬(a = 0 ∧ b = 0))
    (ha : a < 65536) (hb : b < 65536)
    (hf : (put16 5 ++ (put16 5 ++ (([1] ++ (put16 a ++ put16 b)) ++ rest))).length < f) :
    chExtLoop f (put16 5 ++ (put16 5 ++ (([1] ++ (put16 a ++ put16 b)) ++ rest))) m = none := by
  have el : (([1] : Bytes) ++ (put16 a ++ put16 b)).length = 5 := by
    simp only [put16, List.length_append, List.length_cons, List.length_nil]
  rw [chExtLoop_eq, extLoop_step chExtension f 5 _ ([1] ++ (put16 a ++ put16 b)) rest m (by decide) el (by decide) hf,
    ocsp_length_perturbed m rest a b h ha hb]

/-- the repaired clause: the hello is accepted exactly when the server announces a ticket only to a client that
    offered the extension -/
theorem clientTicketCheck_iff (offered hello : Bool) :
    clientTicketCheck offered hello = .accept ↔ (hello = true → offered = true) := by
  cases offered <;> cases hello <;> simp [clientTicketCheck]

theorem unsolicited_ticket_rejected : clientTicketCheck false true = .reject .handshakeFailure := rfl

/-- in the automaton `Cfg.ticket` says that the accepted ServerHello announced a ticket; a NewSessionTicket message is
    taken in the one phase that exists for it, and that phase is entered only under `Cfg.ticket` -/
theorem newSessionTicket_only_in_ticket_phase (c : Cfg) (p : Phase) (q : Option Phase)
    (h : next c p .newSessionTicket = some q) : p = .cTicket := by
  cases p <;> simp [next] at h ⊢

theorem ticket_phase_iff (c : Cfg) : afterHelloDone c = .cTicket ↔ c.ticket = true := by
  unfold afterHelloDone
  cases c.ticket <;> simp

theorem never_enters_ticket_phase (c : Cfg) (h : c.ticket = false) (p : Phase) (m : Msg) (q : Phase)
    (hn : next c p m = some (some q)) : q ≠ .cTicket := by
  intro hq
  subst hq
  -- row by row through the transition table: the target is a phase other than `cTicket`, or `afterHelloDone c`
  unfold next at hn
  split at hn <;> simp only [afterHelloDone, h, Bool.false_eq_true, if_false, Option.some.injEq, reduceCtorEq,
    Option.ite_none_right_eq_some, Option.ite_none_left_eq_some, and_false] at hn
  all_goals (repeat' split at hn) <;> cases hn

theorem ticket_phase_unreachable (c : Cfg) (h : c.ticket = false) (ms : List Msg) :
    ∀ s s', s.phase ≠ .cTicket → run c s ms = .cont s' → s'.phase ≠ .cTicket := by
  induction ms with
  | nil => intro s s' hs hr; simp only [run] at hr; cases hr; exact hs
  | cons m ms ih =>
    intro s s' hs hr
    simp only [run] at hr
    cases hst : step c s m with
    | cont s1 =>
      rw [hst] at hr
      refine ih s1 s' ?_ hr
      rcases Props.C15.step_cont c s s1 m hst with ⟨_, e⟩ | ⟨_, e, _⟩
      · rw [e]; exact hs
      · exact never_enters_ticket_phase c h _ _ _ e
    | done => rw [hst] at hr; cases hr
    | error a => rw [hst] at hr; cases hr

/-- the repaired clause for a client that did not offer tickets and went on after the hello: a NewSessionTicket
    message is an error wherever it comes (`clientTicketCheck false t = .accept` forces `t = false`, the value of
    `Cfg.ticket`; before the repair `t` could be true and the message was taken). -/
theorem unsolicited_newSessionTicket_is_error (c : Cfg) (t : Bool) (hc : clientTicketCheck false t = .accept)
    (ht : c.ticket = t) (pre : List Msg) (s : State) (hr : run c (init c) pre = .cont s) :
    ∃ a, step c s .newSessionTicket = .error a := by
  have htf : c.ticket = false := by
    rw [ht]; cases t
    · rfl
    · simp [clientTicketCheck] at hc
  have hi : (init c).phase ≠ .cTicket := by
    unfold init initPhase; split <;> simp
  have hp := ticket_phase_unreachable c htf pre _ _ hi hr
  unfold step
  by_cases hw : wantsCCS s.phase = true
  · simp [hw]
  · have hn : next c s.phase .newSessionTicket = none := by
      cases hnx : next c s.phase .newSessionTicket with
      | none => rfl
      | some q => exact absurd (newSessionTicket_only_in_ticket_phase c _ q hnx) hp
    simp [hw, hn]

/-- the repaired clause: a Finished whose record holds further handshake bytes aborts the handshake in every
    configuration, phase and state (where a ChangeCipherSpec is awaited, with the alert for any handshake record).
    Before the repair `readFinished` returned with the bytes still in `c.hand` and `Handshake()` reported success. -/
theorem finished_with_trailing_is_error (c : Cfg) (s : State) :
    step c s .finishedTrailing = .error (if wantsCCS s.phase then hsAtCCSAlert c else .unexpectedMessage) := by
  unfold step
  cases h : wantsCCS s.phase <;> simp

/-- no sequence of events that contains such a Finished is accepted -/
theorem finished_with_trailing_never_accepted (c : Cfg) (s : State) (pre post : List Msg) :
    accepts c s (pre ++ .finishedTrailing :: post) = false := by
  induction pre generalizing s with
  | nil =>
    simp only [List.nil_append, accepts, finished_with_trailing_is_error]
  | cons m ms ih =>
    simp only [List.cons_append, accepts]
    cases hs : step c s m with
    | cont s' => simp only [ih]
    | done => simp
    | error a => rfl

theorem finished_with_trailing_never_done (c : Cfg) (s : State) (pre : List Msg) :
    run c s (pre ++ [.finishedTrailing]) ≠ .done ∨ run c s pre = .done := by
  induction pre generalizing s with
  | nil => left; simp [run, finished_with_trailing_is_error]
  | cons m ms ih =>
    simp only [List.cons_append, run]
    cases hs : step c s m with
    | cont s' => exact ih s'
    | done => right; rfl
    | error a => left; simp

def exCfg (server gm : Bool) : Cfg :=
  { server := server, gm := gm, resume := false, reqCert := false, peerCert := false, ticket := false, ocsp := false,
    skx := true, npn := false }
example : step (exCfg false true) ⟨.cFinished, 0, false⟩ .finished = .done := by decide
example : step (exCfg false true) ⟨.cFinished, 0, false⟩ .finishedTrailing = .error .unexpectedMessage := by decide
example : step (exCfg true false) ⟨.sFinished, 0, false⟩ .finished = .done := by decide
example : step (exCfg true false) ⟨.sFinished, 0, false⟩ .finishedTrailing = .error .unexpectedMessage := by decide
example : accepts (exCfg true false) ⟨.sCCS, 0, false⟩ [.ccs, .finished] = true := by decide
example : accepts (exCfg true false) ⟨.sCCS, 0, false⟩ [.ccs, .finishedTrailing] = false := by decide

end Props.C15Strict
