/-
C16 — Resumption preserves the session or falls back; tickets are authenticated.
Theorems about `Model.Resume` (server gate, ticket issue/refresh, client offer, LRU cache) over arbitrary
histories of connections, key rotations and configuration changes.
-/
import Gmsm.Model.Resume
namespace Props.C16
open Model.Resume

theorem decryptTicket_eq_some (s : Server) (t : Ticket) (st : Sess) (old : Bool) :
    decryptTicket s t = some (st, old) ↔
      s.disabled = false ∧ t.intact = true ∧ (∃ i, s.keys.idxOf? t.key = some i ∧ old = decide (i > 0)) ∧ st = t.sess := by
  unfold decryptTicket
  cases s.keys.idxOf? t.key <;>
    simp [Option.ite_none_left_eq_some, and_comm, eq_comm (a := st), eq_comm (a := old)]

/-- every `if … then none else` of the gate contributes the negation of its condition -/
theorem gate_eq_some (m : Mode) (s : Server) (hello : List Suite) (t : Ticket) (p : Sess × Bool) :
    checkForResumption m s hello t = some p ↔
      decryptTicket s t = some p ∧ vers m s = p.1.vers ∧ p.1.suite ∈ hello ∧ p.1.suite ∈ resumeSupported s ∧
      servable m s p.1.suite = true ∧ ¬ ((s.auth = 2 ∨ s.auth = 4) ∧ p.1.ccerts = 0) ∧ ¬ (p.1.ccerts ≠ 0 ∧ s.auth = 0) ∧
      ¬ (p.1.ccerts ≠ 0 ∧ s.auth ≥ 3 ∧ p.1.ctrust = false) := by
  unfold checkForResumption
  cases decryptTicket s t with
  | none => simp
  | some q =>
    by_cases hp : q = p
    · subst hp
      simp only [bne_iff_ne, ne_eq, List.contains_eq_mem, Bool.not_eq_eq_eq_not, Bool.not_true, decide_eq_false_iff_not,
        Bool.not_and, Bool.or_eq_true, Bool.and_eq_true, beq_iff_eq, ge_iff_le, decide_eq_true_eq, and_assoc, ite_not,
        Option.ite_none_right_eq_some, Option.ite_none_left_eq_some, not_or, Decidable.not_not, Bool.not_eq_false,
        not_and, ite_eq_right_iff, reduceCtorEq, imp_false, true_and]
    · simp only [Option.ite_none_left_eq_some, Option.some.injEq, hp, and_false, false_and]

/-- The server's resumption gate, stated outright.  A ticket is accepted exactly when tickets are enabled, its
    bytes are those the server issued (MAC), it is sealed under a key that is still configured (`old`: not the
    current one), its session has the connection's version, a suite the client offers and the configuration
    lists and can serve, and the client-certificate policy is compatible with the certificates stored in the
    session.  The accepted state is the one sealed in the ticket. -/
theorem gate_iff (m : Mode) (s : Server) (hello : List Suite) (t : Ticket) (st : Sess) (old : Bool) :
    checkForResumption m s hello t = some (st, old) ↔
      s.disabled = false ∧ t.intact = true ∧ (∃ i, s.keys.idxOf? t.key = some i ∧ old = decide (i > 0)) ∧
      st = t.sess ∧ vers m s = st.vers ∧ st.suite ∈ hello ∧ st.suite ∈ resumeSupported s ∧
      servable m s st.suite = true ∧ ¬ ((s.auth = 2 ∨ s.auth = 4) ∧ st.ccerts = 0) ∧ ¬ (st.ccerts ≠ 0 ∧ s.auth = 0) ∧
      ¬ (st.ccerts ≠ 0 ∧ s.auth ≥ 3 ∧ st.ctrust = false) := by
  rw [gate_eq_some, decryptTicket_eq_some]
  simp only [and_assoc]

theorem never_resumes {m : Mode} {s : Server} {hello : List Suite} {t : Ticket}
    (h : ∀ st old, checkForResumption m s hello t ≠ some (st, old)) : checkForResumption m s hello t = none :=
  Option.eq_none_iff_forall_ne_some.mpr fun (st, old) => h st old

theorem altered_ticket_never_resumes (m : Mode) (s : Server) (hello : List Suite) (t : Ticket) (h : t.intact = false) :
    checkForResumption m s hello t = none :=
  never_resumes fun st old hc => Bool.false_ne_true (h.symm.trans ((gate_iff m s hello t st old).mp hc).2.1)

/-- never resumes a ticket sealed under a key that is no longer configured -/
theorem retired_key_never_resumes (m : Mode) (s : Server) (hello : List Suite) (t : Ticket) (h : t.key ∉ s.keys) :
    checkForResumption m s hello t = none :=
  never_resumes fun st old hc => by
    obtain ⟨i, hi, _⟩ := ((gate_iff m s hello t st old).mp hc).2.2.1
    rw [List.idxOf?_eq_none_iff.mpr h] at hi
    cases hi

theorem disabled_never_resumes (m : Mode) (s : Server) (hello : List Suite) (t : Ticket) (h : s.disabled = true) :
    checkForResumption m s hello t = none :=
  never_resumes fun st old hc => Bool.false_ne_true (((gate_iff m s hello t st old).mp hc).1.symm.trans h)

/-- (repaired gate) a ticket whose stored client certificates do not chain to
    the client CAs is not resumed once the policy verifies certificates — the server falls back to a full
    handshake instead of aborting while resuming. -/
theorem unacceptable_certs_never_resume (m : Mode) (s : Server) (hello : List Suite) (t : Ticket)
    (h1 : t.sess.ccerts ≠ 0) (h2 : s.auth ≥ 3) (h3 : t.sess.ctrust = false) : checkForResumption m s hello t = none :=
  never_resumes fun st old hc => by
    obtain ⟨_, _, _, rfl, _, _, _, _, _, _, hn⟩ := (gate_iff m s hello t st old).mp hc
    exact hn ⟨h1, h2, h3⟩

theorem gm_not_in_tls_defaults : ∀ s ∈ gmAll, s ∉ tlsDefaults := by decide

/-- the GMSSL default: without an explicit `CipherSuites` the gate consults the TLS default list, so a GMSSL
    session is never resumed (it silently falls back to a full handshake) — the reason the property speaks of
    "a configuration that explicitly lists the session's suite" -/
theorem gm_default_never_resumes (s : Server) (hello : List Suite) (t : Ticket) (h : s.suites = none)
    (hg : t.sess.suite ∈ gmAll) : checkForResumption .gm s hello t = none :=
  never_resumes fun st old hc => by
    obtain ⟨_, _, _, rfl, _, _, hl, _⟩ := (gate_iff .gm s hello t st old).mp hc
    rw [resumeSupported, h, Option.getD_none] at hl
    exact gm_not_in_tls_defaults _ hg hl

theorem filter_key_length (c : Cache) (k : Nat) (x : Nat × CSess) (hx : x ∈ c) (hk : (x.1 == k) = true) :
    (c.filter (·.1 != k)).length < c.length :=
  List.length_filter_lt_length_iff_exists.mpr ⟨x, hx, by simpa using hk⟩

theorem get_snd_mem (c : Cache) (k : Nat) (e : Nat × CSess) (h : e ∈ (Cache.get c k).2) : e ∈ c := by
  unfold Cache.get at h
  split at h
  · rename_i e' hf
    rcases List.mem_cons.mp h with rfl | h
    · exact List.mem_of_find?_eq_some hf
    · exact (List.mem_filter.mp h).1
  · exact h

theorem get_fst_mem (c : Cache) (k : Nat) (cs : CSess) (h : (Cache.get c k).1 = some cs) : (k, cs) ∈ c := by
  unfold Cache.get at h
  split at h
  · rename_i e hf
    obtain rfl : e.1 = k := by simpa using List.find?_some hf
    obtain rfl : e.2 = cs := Option.some.inj h
    exact List.mem_of_find?_eq_some hf
  · cases h

theorem get_length (c : Cache) (k : Nat) : (Cache.get c k).2.length ≤ c.length := by
  unfold Cache.get
  split
  · rename_i e hf
    have hk : (e.1 == k) = true := by simpa using List.find?_some hf
    exact filter_key_length c k e (List.mem_of_find?_eq_some hf) hk
  · exact Nat.le_refl _

theorem put_mem (c : Cache) (cap k : Nat) (v : CSess) (e : Nat × CSess) (h : e ∈ Cache.put c cap k v) :
    e = (k, v) ∨ e ∈ c := by
  unfold Cache.put at h
  split at h
  · exact (List.mem_cons.mp h).imp_right fun h => (List.mem_filter.mp h).1
  · split at h
    · exact List.mem_cons.mp h
    · exact (List.mem_cons.mp h).imp_right (List.dropLast_subset _ ·)

theorem put_length (c : Cache) (cap k : Nat) (v : CSess) (hc : 1 ≤ cap) (h : c.length ≤ cap) :
    (Cache.put c cap k v).length ≤ cap := by
  unfold Cache.put
  split
  · rename_i ha
    obtain ⟨x, hx, hxk⟩ := List.any_eq_true.mp ha
    exact Nat.le_trans (filter_key_length c k x hx hxk) h
  · split
    · assumption
    · simp only [List.length_cons, List.length_dropLast]; omega

/-- a cached session is sound: its ticket is untouched, seals exactly the parameters the client remembers,
    and those are the parameters of a full handshake that happened -/
def Good (issued : List Sess) (cs : CSess) : Prop :=
  cs.ticket.intact = true ∧ cs.ticket.sess = cs.sess ∧ cs.sess ∈ issued

structure Inv (w : World) : Prop where
  cache : ∀ e ∈ w.cache, Good w.issued e.2
  sids : ∀ s ∈ w.issued, 1 ≤ s.sid ∧ s.sid ≤ w.n
  cap : 1 ≤ w.cap
  len : w.cache.length ≤ w.cap

theorem resumeDecision_eq_some (m : Mode) (w : World) (r : ConnReq) (st : Sess) (old : Bool) :
    resumeDecision m w r = some (st, old) ↔
      w.clientOff = false ∧ r.tampered = false ∧ ∃ cs, (w.cache.get r.srv).1 = some cs ∧
        cs.sess.suite ∈ helloSuites m r.csuites ∧
        checkForResumption m (w.srv r.srv) (helloSuites m r.csuites) cs.ticket = some (st, old) := by
  rw [resumeDecision, Option.bind_eq_some_iff]
  constructor
  · rintro ⟨cs, ho, hc⟩
    unfold offered at ho
    split at ho
    · cases ho
    · next hoff =>
      obtain ⟨hg, hs⟩ := Option.filter_eq_some_iff.mp ho
      cases ht : r.tampered
      · rw [presented, ht, if_neg Bool.false_ne_true] at hc
        exact ⟨Bool.eq_false_iff.mpr hoff, rfl, cs, hg, by simpa using hs, hc⟩
      · rw [altered_ticket_never_resumes _ _ _ _ (by simp [presented, ht])] at hc
        cases hc
  · rintro ⟨hoff, ht, cs, hg, hs, hc⟩
    refine ⟨cs, ?_, ?_⟩
    · rw [offered, hoff, if_neg Bool.false_ne_true, hg]
      exact Option.filter_eq_some_iff.mpr ⟨rfl, by simpa using hs⟩
    · rwa [presented, ht, if_neg Bool.false_ne_true]

theorem conn_resumed_iff (m : Mode) (w : World) (r : ConnReq) (sid : Nat) :
    (conn m w r).2 = .resumed sid ↔ ∃ st old, resumeDecision m w r = some (st, old) ∧ st.sid = sid := by
  unfold conn
  cases resumeDecision m w r with
  | some p => obtain ⟨st, old⟩ := p; simp
  | none => cases fullOutcome m w r <;> simp

theorem conn_resumed (m : Mode) (w : World) (r : ConnReq) (sid : Nat) (h : (conn m w r).2 = .resumed sid) :
    w.clientOff = false ∧ r.tampered = false ∧
    ∃ cs old, (r.srv, cs) ∈ w.cache ∧ cs.sess.suite ∈ helloSuites m r.csuites ∧
      checkForResumption m (w.srv r.srv) (helloSuites m r.csuites) cs.ticket = some (cs.ticket.sess, old) ∧
      cs.ticket.sess.sid = sid := by
  obtain ⟨st, old, hd, rfl⟩ := (conn_resumed_iff m w r sid).mp h
  obtain ⟨hoff, ht, cs, hg, hs, hc⟩ := (resumeDecision_eq_some m w r st old).mp hd
  obtain rfl := ((gate_iff _ _ _ _ _ _).mp hc).2.2.2.1
  exact ⟨hoff, ht, cs, old, get_fst_mem _ _ _ hg, hs, hc, rfl⟩

/-- In any world satisfying the invariant (every reachable one, `inv_reach`), a connection that reports
    resumption resumed a session created by an earlier full handshake of this history: same master secret
    (`sid`), version and cipher suite. -/
theorem resumed_is_original (m : Mode) (w : World) (hI : Inv w) (r : ConnReq) (sid : Nat)
    (h : (conn m w r).2 = .resumed sid) :
    ∃ st ∈ w.issued, st.sid = sid ∧ 1 ≤ sid ∧ sid ≤ w.n ∧ st.vers = vers m (w.srv r.srv) ∧ st.suite ∈ helloSuites m r.csuites ∧
      st.suite ∈ resumeSupported (w.srv r.srv) ∧ (w.srv r.srv).disabled = false ∧ r.tampered = false := by
  obtain ⟨_, ht, cs, old, hmem, _, hc, rfl⟩ := conn_resumed m w r sid h
  obtain ⟨_, hsame, hiss⟩ := hI.cache _ hmem
  rw [← hsame] at hiss
  obtain ⟨hen, _, _, _, hv, hoff, hl, _⟩ := (gate_iff _ _ _ _ _ _).mp hc
  exact ⟨_, hiss, rfl, (hI.sids _ hiss).1, (hI.sids _ hiss).2, hv.symm, hoff, hl, hen, ht⟩

/-- A client whose cached session for this server is sound, sealed under a key
    the server still holds, whose suite the client still offers and the server's configuration lists
    explicitly and can serve, with the connection's version and a compatible client-certificate policy,
    is resumed — with exactly that session. -/
theorem valid_ticket_resumes (m : Mode) (w : World) (r : ConnReq) (cs : CSess) (l : List Suite)
    (hoff : w.clientOff = false) (hget : (w.cache.get r.srv).1 = some cs) (hgood : cs.ticket.intact = true)
    (hsame : cs.ticket.sess = cs.sess) (hnt : r.tampered = false)
    (hen : (w.srv r.srv).disabled = false) (hkey : cs.ticket.key ∈ (w.srv r.srv).keys)
    (hl : (w.srv r.srv).suites = some l) (hlist : cs.sess.suite ∈ l) (hserv : servable m (w.srv r.srv) cs.sess.suite = true)
    (hoffer : cs.sess.suite ∈ helloSuites m r.csuites) (hv : cs.sess.vers = vers m (w.srv r.srv))
    (hp1 : ¬ (((w.srv r.srv).auth = 2 ∨ (w.srv r.srv).auth = 4) ∧ cs.sess.ccerts = 0))
    (hp2 : ¬ (cs.sess.ccerts ≠ 0 ∧ (w.srv r.srv).auth = 0))
    (hp3 : ¬ (cs.sess.ccerts ≠ 0 ∧ (w.srv r.srv).auth ≥ 3 ∧ cs.sess.ctrust = false)) :
    (conn m w r).2 = .resumed cs.sess.sid := by
  obtain ⟨i, hi⟩ := Option.isSome_iff_exists.mp (List.isSome_idxOf?.mpr hkey)
  refine (conn_resumed_iff m w r _).mpr ⟨cs.sess, decide (i > 0), ?_, rfl⟩
  refine (resumeDecision_eq_some m w r _ _).mpr ⟨hoff, hnt, cs, hget, hoffer, (gate_iff _ _ _ _ _ _).mpr ?_⟩
  exact ⟨hen, hgood, ⟨i, hi, rfl⟩, hsame.symm, hv.symm, hoffer, by rw [resumeSupported, hl]; exact hlist, hserv, hp1, hp2, hp3⟩

theorem store_good (w : World) (r : ConnReq) (c : Cache) (st : Sess) (b : Bool) (iss : List Sess)
    (hc : ∀ e ∈ c, Good iss e.2) (hst : st ∈ iss) : ∀ e ∈ store w r c st b, Good iss e.2 := by
  intro e he
  unfold store at he
  split at he
  · rcases put_mem _ _ _ _ _ he with rfl | h
    · exact ⟨rfl, rfl, hst⟩
    · exact hc _ h
  · exact hc _ he

theorem store_length (w : World) (r : ConnReq) (c : Cache) (st : Sess) (b : Bool) (h1 : 1 ≤ w.cap)
    (h : c.length ≤ w.cap) : (store w r c st b).length ≤ w.cap := by
  unfold store
  split
  · exact put_length _ _ _ _ h1 h
  · exact h

theorem afterGet_mem (w : World) (r : ConnReq) (e : Nat × CSess) (h : e ∈ cacheAfterGet w r) : e ∈ w.cache := by
  unfold cacheAfterGet at h
  split at h
  · exact h
  · exact get_snd_mem _ _ _ h

theorem afterGet_length (w : World) (r : ConnReq) : (cacheAfterGet w r).length ≤ w.cache.length := by
  unfold cacheAfterGet
  split
  · exact Nat.le_refl _
  · exact get_length _ _

/-- `sent`: the client presented a certificate and the server had asked for one -/
theorem fullOutcome_eq_some (m : Mode) (w : World) (r : ConnReq) (st : Sess) (h : fullOutcome m w r = some st) :
    ∃ suite sent, sent = (decide ((w.srv r.srv).auth ≥ 1) && r.ccert != 0) ∧
      st = ⟨w.n + 1, vers m (w.srv r.srv), suite, if sent then 1 else 0, r.ccert == 1⟩ ∧
      ¬ (((w.srv r.srv).auth = 2 ∨ (w.srv r.srv).auth = 4) ∧ sent = false) ∧
      ¬ (sent = true ∧ (w.srv r.srv).auth ≥ 3 ∧ r.ccert ≠ 1) := by
  unfold fullOutcome at h
  dsimp only at h
  split at h
  · cases h
  · next suite _ =>
    simp only [Option.ite_none_left_eq_some, Option.some.injEq] at h
    obtain ⟨h1, h2, rfl⟩ := h
    refine ⟨suite, _, rfl, rfl, ?_, ?_⟩
    · simpa only [Bool.and_eq_true, Bool.or_eq_true, beq_iff_eq, Bool.not_eq_true'] using h1
    · simpa only [Bool.and_eq_true, decide_eq_true_eq, bne_iff_ne, and_assoc] using h2

theorem fullOutcome_sid (m : Mode) (w : World) (r : ConnReq) (st : Sess) (h : fullOutcome m w r = some st) :
    st.sid = w.n + 1 ∧ st.vers = vers m (w.srv r.srv) := by
  obtain ⟨_, _, _, rfl, _⟩ := fullOutcome_eq_some m w r st h
  exact ⟨rfl, rfl⟩

theorem inv_conn (m : Mode) (w : World) (hI : Inv w) (r : ConnReq) : Inv (conn m w r).1 := by
  have hc1 : ∀ e ∈ cacheAfterGet w r, Good w.issued e.2 := fun e he => hI.cache e (afterGet_mem w r e he)
  have hl1 : (cacheAfterGet w r).length ≤ w.cap := Nat.le_trans (afterGet_length w r) hI.len
  have hsids : ∀ s ∈ w.issued, 1 ≤ s.sid ∧ s.sid ≤ w.n + 1 := fun s hs =>
    ⟨(hI.sids s hs).1, Nat.le_succ_of_le (hI.sids s hs).2⟩
  unfold conn
  split
  · rename_i st old hd
    -- the resumed state is the one a sound cached session remembers
    obtain ⟨_, _, cs, hg, _, hc⟩ := (resumeDecision_eq_some m w r st old).mp hd
    obtain rfl := ((gate_iff _ _ _ _ _ _).mp hc).2.2.2.1
    obtain ⟨_, hsame, hiss⟩ := hI.cache _ (get_fst_mem _ _ _ hg)
    exact ⟨store_good w r _ _ old _ hc1 (hsame ▸ hiss), hsids, hI.cap, store_length w r _ _ old hI.cap hl1⟩
  · split
    · exact ⟨hc1, hsids, hI.cap, hl1⟩
    · rename_i st hf
      refine ⟨store_good w r _ st _ _ (fun e he => ?_) List.mem_cons_self, ?_, hI.cap, store_length w r _ st _ hI.cap hl1⟩
      · obtain ⟨h1, h2, h3⟩ := hc1 e he
        exact ⟨h1, h2, List.mem_cons_of_mem _ h3⟩
      · intro s hs
        rcases List.mem_cons.mp hs with rfl | hs
        · rw [(fullOutcome_sid m w r s hf).1]; exact ⟨Nat.le_add_left _ _, Nat.le_refl _⟩
        · exact hsids s hs

/-! ### the entry point's `ensureTicketKeys` touches nothing but the key list of the server connected to -/

theorem ensureKeys_disabled (s : Server) (k : Nat) : (ensureKeys s k).disabled = s.disabled := by
  unfold ensureKeys; split <;> rfl

theorem ensureKeys_suites (s : Server) (k : Nat) : (ensureKeys s k).suites = s.suites := by
  unfold ensureKeys; split <;> rfl

theorem ensureKeys_auth (s : Server) (k : Nat) : (ensureKeys s k).auth = s.auth := by
  unfold ensureKeys; split <;> rfl

theorem ensureKeys_maxVers (s : Server) (k : Nat) : (ensureKeys s k).maxVers = s.maxVers := by
  unfold ensureKeys; split <;> rfl

theorem vers_ensureKeys (m : Mode) (s : Server) (k : Nat) : vers m (ensureKeys s k) = vers m s := by
  cases m <;> simp only [vers, ensureKeys_maxVers]

theorem prep_srv_self (w : World) (r : ConnReq) :
    (prep w r).srv r.srv = ensureKeys (w.srv r.srv) (autoKey (w.n + 1)) := by
  simp [prep, setSrv]

theorem inv_prep (w : World) (hI : Inv w) (r : ConnReq) : Inv (prep w r) :=
  ⟨hI.cache, hI.sids, hI.cap, hI.len⟩

/-- only a connection touches the cache, the log and the counter -/
theorem inv_step (m : Mode) (w : World) (hI : Inv w) (s : Step) : Inv (step m w s).1 := by
  cases s with
  | conn r => exact inv_conn m (prep w r) (inv_prep w hI r) r
  | _ => exact ⟨hI.cache, hI.sids, hI.cap, hI.len⟩

/-- the world after a history -/
def reach (m : Mode) : World → List Step → World
  | w, [] => w
  | w, s :: ss => reach m (step m w s).1 ss

theorem inv_init (cap : Nat) : Inv (initWorld cap) := by
  refine ⟨by simp [initWorld], by simp [initWorld], ?_, by simp [initWorld]⟩
  simp only [initWorld]; split <;> omega

theorem inv_reach_from (m : Mode) (w : World) (hw : Inv w) (h : List Step) : Inv (reach m w h) := by
  induction h generalizing w with
  | nil => exact hw
  | cons s ss ih => exact ih _ (inv_step m w hw s)

/-- For every history of connections, ticket-key rotations, suite-list and client-auth
    changes, ticket switches and every cache capacity, the client cache only ever holds untouched tickets
    that seal exactly the parameters of an earlier full handshake of the history, and never more than its
    capacity. -/
theorem inv_reach (m : Mode) (cap : Nat) (h : List Step) : Inv (reach m (initWorld cap) h) :=
  inv_reach_from m _ (inv_init cap) h

/-- the statement below for the handshake proper (`conn`, without the entry point's `ensureTicketKeys`) -/
theorem history_resumption_sound_handshake (m : Mode) (cap : Nat) (h : List Step) (r : ConnReq) (sid : Nat)
    (hr : (conn m (reach m (initWorld cap) h) r).2 = .resumed sid) :
    ∃ st ∈ (reach m (initWorld cap) h).issued, st.sid = sid ∧ sid ≤ (reach m (initWorld cap) h).n ∧
      st.vers = vers m ((reach m (initWorld cap) h).srv r.srv) ∧ st.suite ∈ helloSuites m r.csuites ∧ r.tampered = false ∧
      ((reach m (initWorld cap) h).srv r.srv).disabled = false := by
  obtain ⟨st, hin, h1, _, h3, h4, h5, _, h7, h8⟩ := resumed_is_original m _ (inv_reach m cap h) r sid hr
  exact ⟨st, hin, h1, h3, h4, h5, h8, h7⟩

/-- After ANY history (connections, key rotations, configuration changes,
    ticket switches, new `Config`s without a ticket key), a connection (`serve`: entry point and handshake)
    that both ends report as resumed carries the master secret, version, suite of a full handshake earlier
    in that history, was made with an unaltered ticket while tickets were enabled, and the suite is one the
    client offers now and the server's configuration lists now. -/
theorem history_resumption_sound (m : Mode) (cap : Nat) (h : List Step) (r : ConnReq) (sid : Nat)
    (hr : (serve m (reach m (initWorld cap) h) r).2 = .resumed sid) :
    ∃ st ∈ (reach m (initWorld cap) h).issued, st.sid = sid ∧ sid ≤ (reach m (initWorld cap) h).n ∧
      st.vers = vers m ((reach m (initWorld cap) h).srv r.srv) ∧ st.suite ∈ helloSuites m r.csuites ∧ r.tampered = false ∧
      ((reach m (initWorld cap) h).srv r.srv).disabled = false := by
  obtain ⟨st, hin, h1, _, h3, h4, h5, _, h7, h8⟩ :=
    resumed_is_original m _ (inv_prep _ (inv_reach m cap h) r) r sid hr
  rw [prep_srv_self, vers_ensureKeys] at h4
  rw [prep_srv_self, ensureKeys_disabled] at h7
  exact ⟨st, hin, h1, h3, h4, h5, h8, h7⟩

/-- Non-vacuity (tests): a full handshake, a resumption, a rotation that retires the key, a fallback. -/
example : run .gm (initWorld 2) [.suites 0 (some [0xe013]), .conn ⟨0, some [0xe013], 0, false⟩,
    .conn ⟨0, some [0xe013], 0, false⟩, .keys 0 [7, 100], .conn ⟨0, some [0xe013], 0, false⟩,
    .keys 0 [8], .conn ⟨0, some [0xe013], 0, false⟩, .conn ⟨0, some [0xe013], 0, true⟩]
    = [.full 1, .resumed 1, .resumed 1, .full 4, .full 5] := by decide

end Props.C16
