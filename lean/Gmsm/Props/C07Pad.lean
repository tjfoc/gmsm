/-
C07 (record layer), padding check: the constant-time `extractPadding` of gmtls/conn.go, transcribed bit
for bit in `Model.ExtractPadding.extractPaddingGo` (uint = BitVec 64, int32 conversion + arithmetic
shift, byte masks, the `for` loop as a fold, the "AND the bits together and replicate" tail), computes
exactly the predicate-level `Model.Record.extractPadding` that the record-layer theorems
(`Props/C07*.lean`) are stated over:

  toRemove = paddingLen + 1,
  good = 255  iff  paddingLen + 1 ≤ len(payload) and the last paddingLen + 1 bytes all equal paddingLen,
  good = 0    otherwise,

for every payload shorter than 2^31 bytes (record bodies are at most 16384 + 2048 bytes).  The bound is
needed: the code looks at bit 31 of the 64-bit difference `uint(len-1) - uint(paddingLen)`, which is the
sign of the difference only while `len - 1 < 2^31` (see `msbMask_needs_bound`).
-/
import Gmsm.Model.ExtractPadding
import Gmsm.Model.Record
namespace Props.C07Pad
open Gmsm Model.ExtractPadding

theorem sshift31 (x : BitVec 32) :
    x.sshiftRight 31 = if x.getLsbD 31 then BitVec.allOnes 32 else 0 := by
  apply BitVec.eq_of_getLsbD_eq
  intro i hi
  rw [BitVec.getLsbD_sshiftRight, BitVec.msb_eq_getLsbD_last]
  have h1 : ¬ (32 ≤ i) := by omega
  have h2 : (31 + i < 32) ↔ i = 0 := by omega
  have h3 : (BitVec.allOnes 32).getLsbD i = true := by rw [BitVec.getLsbD_allOnes]; simpa using hi
  by_cases hz : i = 0
  · subst hz
    cases h : x.getLsbD 31 <;> simp [-BitVec.getLsbD_eq_getElem]
  · cases h : x.getLsbD 31
    · simp [-BitVec.getLsbD_eq_getElem, h1, h2, hz]
    · simp only [if_true, h3]; simp [-BitVec.getLsbD_eq_getElem, h1, h2, hz]

/-- `byte(int32(^t) >> 31)`: only bit 31 of `t` matters (every 64-bit `t`, no range assumption). -/
theorem msbMask_bit (t : BitVec 64) :
    msbMask t = if t.getLsbD 31 then 0x00#8 else 0xFF#8 := by
  unfold msbMask
  rw [sshift31]
  have : (BitVec.setWidth 32 (~~~t)).getLsbD 31 = !t.getLsbD 31 := by
    simp
  rw [this]
  cases t.getLsbD 31 <;> decide

/-- The comment in the Go code ("then the MSB of t is zero"), as an equivalence. -/
theorem msbMask_eq_ff_iff (t : BitVec 64) : msbMask t = 0xFF#8 ↔ t.getLsbD 31 = false := by
  rw [msbMask_bit]; cases t.getLsbD 31 <;> decide

theorem sub_bit31 (x y : Nat) (hx : x < 2 ^ 31) (hy : y < 2 ^ 31) :
    (BitVec.ofNat 64 x - BitVec.ofNat 64 y).getLsbD 31 = decide (x < y) := by
  rw [← BitVec.testBit_toNat, Nat.testBit_eq_decide_div_mod_eq, BitVec.toNat_sub]
  simp only [BitVec.toNat_ofNat]
  have e31 : (2:Nat) ^ 31 = 2147483648 := by decide
  have e64 : (2:Nat) ^ 64 = 18446744073709551616 := by decide
  rw [e31] at hx hy ⊢
  rw [e64]
  by_cases h : x < y
  · simp only [h, decide_true, decide_eq_true_eq]; omega
  · simp only [h, decide_false, decide_eq_false_iff_not]; omega

/-- `t := uint(x) - uint(y); mask := byte(int32(^t) >> 31)` is the constant-time `y ≤ x` for `x, y < 2^31`. -/
theorem msbMask_sub (x y : Nat) (hx : x < 2 ^ 31) (hy : y < 2 ^ 31) :
    msbMask (BitVec.ofNat 64 x - BitVec.ofNat 64 y) = if y ≤ x then 0xFF#8 else 0x00#8 := by
  rw [msbMask_bit, sub_bit31 x y hx hy]
  by_cases h : x < y
  · have : ¬ y ≤ x := by omega
    simp [h, this]
  · have : y ≤ x := by omega
    simp [h, this]

/-- The bound is necessary: with `len(payload) - 1 = 2^31` and `paddingLen = 0` the difference is
    `2^31`, bit 31 is set and the mask says "too short" although `0 ≤ 2^31`. -/
theorem msbMask_needs_bound :
    msbMask (BitVec.ofNat 64 (2 ^ 31) - BitVec.ofNat 64 0) = 0x00#8 := by
  rw [msbMask_bit]; decide

/-- `good &= good<<4; good &= good<<2; good &= good<<1; good = uint8(int8(good)>>7)`. -/
theorem andBits_spec : ∀ g : BitVec 8, andBits g = if g = 0xFF#8 then 0xFF#8 else 0x00#8 := by
  decide

/-- `uint(paddingLen)` -/
theorem setWidth64_byte (p : BitVec 8) : p.setWidth 64 = BitVec.ofNat 64 p.toNat := by
  apply BitVec.eq_of_toNat_eq
  simp

theorem loopBody_eq (payload : Bytes) (p g : BitVec 8) (i : Nat) (hi : i < 2 ^ 31) :
    loopBody payload p g i =
      if i ≤ p.toNat then g &&& ~~~(p ^^^ payload.getD (payload.length - 1 - i) 0) else g := by
  unfold loopBody
  have hp : p.toNat < 2 ^ 31 := Nat.lt_trans p.isLt (by decide)
  simp only [setWidth64_byte, msbMask_sub p.toNat i hp hi]
  by_cases h : i ≤ p.toNat
  · rw [if_pos h, if_pos h]
    have e : (255#8) = BitVec.allOnes 8 := rfl
    rw [e, BitVec.allOnes_and, BitVec.allOnes_and]
  · rw [if_neg h, if_neg h, BitVec.zero_and, BitVec.zero_and, BitVec.xor_self]
    exact BitVec.and_allOnes

/-- Bits are only ever cleared: all bits survive a step iff they were all set and the byte matched. -/
theorem and_not_xor_eq_ff (g p b : BitVec 8) :
    g &&& ~~~(p ^^^ b) = 0xFF#8 ↔ g = 0xFF#8 ∧ b = p := by
  have e : (0xFF#8) = BitVec.allOnes 8 := rfl
  rw [e, BitVec.and_eq_allOnes_iff, BitVec.not_eq_comm]
  have : ~~~(BitVec.allOnes 8) = 0#8 := by decide
  rw [this, BitVec.xor_eq_zero_iff]
  constructor
  · rintro ⟨a, b⟩; exact ⟨a, b.symm⟩
  · rintro ⟨a, b⟩; exact ⟨a, b.symm⟩

theorem loop_inv (payload : Bytes) (p g : BitVec 8) (n : Nat) (hn : n ≤ 2 ^ 31) :
    (List.range n).foldl (loopBody payload p) g = 0xFF#8 ↔
      g = 0xFF#8 ∧ ∀ i, i < n → i ≤ p.toNat → payload.getD (payload.length - 1 - i) 0 = p := by
  induction n with
  | zero => simp
  | succ n ih =>
    rw [List.range_succ, List.foldl_append]
    simp only [List.foldl_cons, List.foldl_nil]
    rw [loopBody_eq _ _ _ _ (by omega)]
    have ih := ih (by omega)
    by_cases h : n ≤ p.toNat
    · simp only [h, if_true, and_not_xor_eq_ff, ih]
      constructor
      · rintro ⟨⟨hg, hall⟩, hb⟩
        refine ⟨hg, fun i hi hip => ?_⟩
        by_cases e : i = n
        · subst e; exact hb
        · exact hall i (by omega) hip
      · rintro ⟨hg, hall⟩
        exact ⟨⟨hg, fun i hi hip => hall i (by omega) hip⟩, hall n (by omega) h⟩
    · simp only [h, if_false, ih]
      constructor
      · rintro ⟨hg, hall⟩
        refine ⟨hg, fun i hi hip => hall i (by omega) hip⟩
      · rintro ⟨hg, hall⟩
        exact ⟨hg, fun i hi hip => hall i (by omega) hip⟩

theorem all_drop_iff (l : Bytes) (n : Nat) (b : Byte) :
    (l.drop n).all (· == b) = true ↔ ∀ k, n ≤ k → k < l.length → l.getD k 0 = b := by
  rw [List.all_eq_true]
  constructor
  · intro h k hk hkl
    rw [List.getD_eq_getElem?_getD, List.getElem?_eq_getElem hkl]
    exact eq_of_beq (h _ (List.mem_drop_iff_getElem.mpr ⟨k - n, by omega, by congr 1; omega⟩))
  · intro h x hx
    obtain ⟨j, hj, rfl⟩ := List.mem_drop_iff_getElem.mp hx
    have := h (n + j) (by omega) (by omega)
    rw [List.getD_eq_getElem?_getD, List.getElem?_eq_getElem (by omega)] at this
    exact beq_iff_eq.mpr this

/-- The condition the loop establishes (indices counted from the end, cut off at `toCheck`) is the
    condition of the predicate model (the last `p+1` bytes as a sublist). -/
theorem pad_iff (payload : Bytes) (last : BitVec 8) (hlen : 1 ≤ payload.length) :
    (last.toNat ≤ payload.length - 1 ∧
      ∀ i, i < toCheck payload → i ≤ last.toNat → payload.getD (payload.length - 1 - i) 0 = last) ↔
    (last.toNat + 1 ≤ payload.length ∧
      (payload.drop (payload.length - (last.toNat + 1))).all (· == last) = true) := by
  have hp : last.toNat < 256 := last.isLt
  rw [all_drop_iff]
  constructor
  · rintro ⟨h1, h2⟩
    refine ⟨by omega, fun k hk hkl => ?_⟩
    have := h2 (payload.length - 1 - k) (by unfold toCheck; split <;> omega) (by omega)
    rwa [Nat.sub_sub_self (by omega)] at this
  · rintro ⟨h1, h2⟩
    exact ⟨by omega, fun i _ hip => h2 _ (by omega) (by omega)⟩

/-- **`extractPadding` (conn.go) computes the padding predicate.**  For every payload of fewer than
    2^31 bytes the bit-level function returns `toRemove = paddingLen + 1` (0 for the empty payload) and
    `good = 0xFF` exactly when `paddingLen + 1 ≤ len(payload)` and the last `paddingLen + 1` bytes all
    equal `paddingLen`; `good = 0x00` in every other case. -/
theorem extractPaddingGo_spec (payload : Bytes) (hlen : payload.length < 2 ^ 31) :
    extractPaddingGo payload =
      ((Model.Record.extractPadding payload).1,
       if (Model.Record.extractPadding payload).2 then 0xFF#8 else 0x00#8) := by
  by_cases h0 : payload.length < 1
  · have : payload = [] := List.eq_nil_of_length_eq_zero (by omega)
    subst this
    rfl
  · have h1 : 1 ≤ payload.length := by omega
    have hl : payload.getLast? = some (payload.getD (payload.length - 1) 0) := by
      rw [List.getLast?_eq_getElem?, List.getD_eq_getElem?_getD, List.getElem?_eq_getElem (by omega)]
      rfl
    generalize hlast : payload.getD (payload.length - 1) 0 = last at hl
    have hp : last.toNat < 256 := last.isLt
    unfold extractPaddingGo Model.Record.extractPadding
    simp only [h0, if_false, hl, hlast, andBits_spec]
    have hc : toCheck payload ≤ 2 ^ 31 := by unfold toCheck; split <;> omega
    have key := loop_inv payload last
      (msbMask (BitVec.ofNat 64 (payload.length - 1) - last.setWidth 64)) (toCheck payload) hc
    rw [setWidth64_byte, msbMask_sub _ _ (by omega) (by omega)] at key ⊢
    have hm : (if last.toNat ≤ payload.length - 1 then 0xFF#8 else 0x00#8) = 0xFF#8 ↔
        last.toNat ≤ payload.length - 1 := by
      split <;> simp [*]
    rw [hm, pad_iff payload last h1] at key
    by_cases hg : (last.toNat + 1 ≤ payload.length ∧
      (payload.drop (payload.length - (last.toNat + 1))).all (· == last) = true)
    · simp only [key.mpr hg, if_true, hg, decide_true, and_self]
    · have := mt key.mp hg
      simp only [this, if_false, hg, decide_false]
      simp

/-- No length bound.  The caller's `macAndPaddingGood := subtle.ConstantTimeCompare(..) & int(paddingGood)` ...
    `!= 1` test is sound. -/
theorem extractPaddingGo_good_cases (payload : Bytes) :
    (extractPaddingGo payload).2 = 0x00#8 ∨ (extractPaddingGo payload).2 = 0xFF#8 := by
  unfold extractPaddingGo
  split
  · exact Or.inl rfl
  · simp only [andBits_spec]
    split
    · exact Or.inr rfl
    · exact Or.inl rfl

/-- No length bound. -/
theorem extractPaddingGo_toRemove_le (payload : Bytes) : (extractPaddingGo payload).1 ≤ 256 := by
  unfold extractPaddingGo
  split
  · exact Nat.zero_le _
  · have := (payload.getD (payload.length - 1) 0).isLt
    simp only; omega

theorem extractPaddingGo_good_iff (payload : Bytes) (hlen : payload.length < 2 ^ 31) :
    (extractPaddingGo payload).2 = 0xFF#8 ↔ (Model.Record.extractPadding payload).2 = true := by
  rw [extractPaddingGo_spec payload hlen]
  cases (Model.Record.extractPadding payload).2 <;> simp

/-- The acceptance condition spelled out without reference to the predicate model. -/
theorem extractPaddingGo_good_iff_explicit (payload : Bytes) (hlen : payload.length < 2 ^ 31) :
    (extractPaddingGo payload).2 = 0xFF#8 ↔
      ∃ last, payload.getLast? = some last ∧ last.toNat + 1 ≤ payload.length ∧
        ∀ x ∈ payload.drop (payload.length - (last.toNat + 1)), x = last := by
  rw [extractPaddingGo_good_iff payload hlen]
  unfold Model.Record.extractPadding
  cases h : payload.getLast? with
  | none => simp
  | some last => simp [List.all_eq_true]

/-- The caller's `n := len(payload) - macSize - paddingLen` removes bytes that exist. -/
theorem extractPaddingGo_toRemove_le_length (payload : Bytes) (hlen : payload.length < 2 ^ 31)
    (hgood : (extractPaddingGo payload).2 = 0xFF#8) : (extractPaddingGo payload).1 ≤ payload.length := by
  have h2 := (extractPaddingGo_good_iff payload hlen).mp hgood
  rw [extractPaddingGo_spec payload hlen]
  revert h2
  unfold Model.Record.extractPadding
  cases payload.getLast? with
  | none => simp
  | some last => simp only [decide_eq_true_eq]; exact fun h => h.1

example : extractPaddingGo [0xaa, 0xbb, 3, 3, 3, 3] = (4, 0xFF#8) := by decide
-- wrong byte deep in the pad
example : extractPaddingGo [0xaa, 0xbb, 3, 2, 3, 3] = (4, 0x00#8) := by decide
-- a single differing bit is enough (good is cleared bitwise: 3 ^ 0x83 = 0x80)
example : extractPaddingGo [0xaa, 0xbb, 0x83, 3, 3, 3] = (4, 0x00#8) := by decide
-- pad longer than the payload
example : extractPaddingGo [9, 9] = (10, 0x00#8) := by decide
-- pad exactly as long as the payload
example : extractPaddingGo [1, 1] = (2, 0xFF#8) := by decide
example : extractPaddingGo [0x17, 0] = (1, 0xFF#8) := by decide
example : extractPaddingGo [] = (0, 0x00#8) := by decide
-- bytes before the pad are not looked at
example : extractPaddingGo [7, 7, 7, 1, 1] = (2, 0xFF#8) := by decide
example : (Model.Record.extractPadding [0xaa, 0xbb, 3, 3, 3, 3]).2 = true := by decide
example : (Model.Record.extractPadding [0xaa, 0xbb, 3, 2, 3, 3]).2 = false := by decide
example : msbMask (BitVec.ofNat 64 5 - BitVec.ofNat 64 5) = 0xFF#8 := by decide
example : msbMask (BitVec.ofNat 64 5 - BitVec.ofNat 64 6) = 0x00#8 := by decide

end Props.C07Pad
