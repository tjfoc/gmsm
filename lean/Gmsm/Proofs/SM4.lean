/-
For C05: the Go model of SM4 (T-tables, in-place quad rounds) equals the GM/T 0002 spec,
and the generic Feistel inversion argument.
-/
import Gmsm.Model.SM4
import Gmsm.Proofs.Bits
namespace Proofs.SM4
open Gmsm Spec.SM4

-- tables regenerated from the Go source versus the standard: the same literals
theorem sbox_eq_std : Gen.SM4.sbox = Spec.SM4.Sbox := rfl
theorem fk_eq_std : Gen.SM4.fk = Spec.SM4.FK := rfl
theorem ck_eq_std : ∀ i : Fin 32, Gen.SM4.ck[i] = Spec.SM4.CK i := by decide +kernel

/-- Two tables agree entry by entry when their lists of entries do.  The kernel compares two 256-entry
    lists in one pass, whereas each indexed access `t[i]` walks the list from its head. -/
theorem getElem_of_toList_eq_map {α β : Type} {n : Nat} {t : Vector β n} {s : Vector α n} {f : α → β}
    (h : t.toList = s.toList.map f) (i : Nat) (hi : i < n) : t[i] = f s[i] := by
  have : t = s.map f := Vector.toList_inj.mp (by rw [h, Vector.toList_map])
  rw [this, Vector.getElem_map]

theorem t0 : Gen.SM4.sbox0.toList = Sbox.toList.map fun b => L (zext8 b) := by decide +kernel
theorem t1 : Gen.SM4.sbox1.toList = Sbox.toList.map fun b => L (zext8 b <<< 8) := by decide +kernel
theorem t2 : Gen.SM4.sbox2.toList = Sbox.toList.map fun b => L (zext8 b <<< 16) := by decide +kernel
theorem t3 : Gen.SM4.sbox3.toList = Sbox.toList.map fun b => L (zext8 b <<< 24) := by decide +kernel

/-- `distinct l m`: the numbers in `l` are pairwise different and none of them is the position of a bit
    set in `m`, the set of the numbers already seen.  One pass over `l`. -/
def distinct : List Nat → Nat → Bool
  | [], _ => true
  | a :: l, m => !m.testBit a && distinct l (m ||| 1 <<< a)

theorem nodup_of_distinct : ∀ (l : List Nat) (m : Nat), distinct l m = true →
    l.Nodup ∧ ∀ a ∈ l, m.testBit a = false
  | [], _, _ => ⟨List.nodup_nil, fun _ h => nomatch h⟩
  | a :: l, m, h => by
    rw [distinct, Bool.and_eq_true, Bool.not_eq_true'] at h
    have ⟨hn, hm⟩ := nodup_of_distinct l _ h.2
    have hb : ∀ b ∈ l, m.testBit b = false ∧ b ≠ a := fun b hb => by
      have := hm b hb
      rw [Nat.testBit_or, Bool.or_eq_false_iff, Nat.one_shiftLeft, Nat.testBit_two_pow] at this
      exact ⟨this.1, fun e => by simp [e] at this⟩
    refine ⟨List.nodup_cons.mpr ⟨fun ha => (hb a ha).2 rfl, hn⟩, fun b hb' => ?_⟩
    rcases List.mem_cons.mp hb' with rfl | hb'
    · exact h.1
    · exact (hb b hb').1

theorem sbox_nodup : Sbox.toList.Nodup :=
  List.Pairwise.of_map BitVec.toNat (fun _ _ h e => h (congrArg _ e))
    (nodup_of_distinct _ 0 (by decide +kernel)).1

/-- the S-box is a bijection on bytes -/
theorem sbox_injective : ∀ i j : Fin 256, Sbox[i] = Sbox[j] → i = j := fun i j h =>
  Fin.ext ((List.getElem_inj (h₀ := by simp) (h₁ := by simp) sbox_nodup).mp (by simpa using h))

theorem L_xor (a b : W32) : L (a ^^^ b) = L a ^^^ L b := by
  unfold L; simp only [rotl_xor]; ac_rfl

/-- Go's index `(x >> k) & 0xff` selects the S-box entry of byte `k/8` of `x` -/
theorem sb_eq (x : W32) (k : Nat) :
    Sbox[((x >>> k) &&& 0xff).toNat]'(and_ff_lt _) = sb (x.extractLsb' k 8) := by
  unfold sb; congr 1; exact shr_and_ff_toNat x k

theorem sb_eq0 (x : W32) :
    Sbox[(x &&& 0xff).toNat]'(and_ff_lt _) = sb (x.extractLsb' 0 8) := sb_eq x 0

theorem tab_eq {t : Vector W32 256} {f : Byte → W32} (h : t.toList = Sbox.toList.map f) (x : W32) (k : Nat) :
    Model.SM4.tab t (x >>> k) = f (sb (x.extractLsb' k 8)) := by
  unfold Model.SM4.tab
  rw [getElem_of_toList_eq_map h, sb_eq]

/-- The four-table lookup of `cryptBlock` is the standard's `T = L ∘ τ`, for every word. -/
theorem tt_eq_T (x : W32) : Model.SM4.tt x = T x := by
  unfold Model.SM4.tt T tau
  rw [show Model.SM4.tab Gen.SM4.sbox0 x = _ from tab_eq t0 x 0, tab_eq t1, tab_eq t2, tab_eq t3,
    be32_xor, L_xor, L_xor, L_xor]
  ac_rfl

/-- `p` (byte-wise S-box of the key schedule) is τ -/
theorem p_eq_tau (a : W32) : Model.SM4.p a = tau a := by
  unfold Model.SM4.p tau Model.SM4.sboxAt
  rw [be32_xor]
  simp only [sbox_eq_std]
  rw [sb_eq a 24, sb_eq a 16, sb_eq a 8, sb_eq0 a]
  rfl

theorem rl_eq (x : W32) (i : Nat) : Model.SM4.rl x i = x.rotateLeft (i % 32) := goRotl_eq x i

theorem l0_eq (b : W32) : Model.SM4.l0 b = L' b := by
  unfold Model.SM4.l0 L'; rw [rl_eq, rl_eq]

theorem feistel0_eq (x0 x1 x2 x3 rk : W32) :
    Model.SM4.feistel0 x0 x1 x2 x3 rk = x0 ^^^ T' (x1 ^^^ x2 ^^^ x3 ^^^ rk) := by
  unfold Model.SM4.feistel0 T'; rw [p_eq_tau, l0_eq]

theorem ck_getD (i : Nat) (h : i < 32) : Gen.SM4.ck.getD i 0 = CK i := by
  have := ck_eq_std ⟨i, h⟩
  simp only [Fin.getElem_fin] at this
  rw [← this]
  simp [Vector.getD, h]

theorem genKeysAux_eq (n i : Nat) (s : St) (h : i + n ≤ 32) :
    Model.SM4.genKeysAux n i s = expandAux n i s := by
  induction n generalizing i s with
  | zero => rfl
  | succ n ih =>
    unfold Model.SM4.genKeysAux expandAux
    simp only [feistel0_eq, ck_getD i (by omega), kround]
    rw [ih (i+1) _ (by omega)]

theorem generateSubKeys_eq (key : Bytes) :
    Model.SM4.generateSubKeys key = expandKey (ofBytes key) := by
  unfold Model.SM4.generateSubKeys expandKey Model.SM4.permuteInitialBlock
  simp only [fk_eq_std]
  exact genKeysAux_eq 32 0 _ (by omega)

theorem expandAux_length (n i : Nat) (s : St) : (expandAux n i s).length = n := by
  induction n generalizing i s with
  | zero => rfl
  | succ n ih => simp [expandAux, ih]

theorem expandKey_length (mk : St) : (expandKey mk).length = 32 := expandAux_length _ _ _

theorem xor_rotate (a b c d : W32) : a ^^^ b ^^^ c ^^^ d = b ^^^ c ^^^ a ^^^ d := by ac_rfl

/-- The in-place loop body keeps each new word where the old one was, so it xors the same three words
    as the standard's shifting state, in a rotated order. -/
theorem quad_eq (b : St) (s0 s1 s2 s3 : W32) :
    Model.SM4.quad b s0 s1 s2 s3 = round (round (round (round b s0) s1) s2) s3 := by
  unfold Model.SM4.quad round
  simp only [tt_eq_T]
  generalize b.x0 ^^^ T (b.x1 ^^^ b.x2 ^^^ b.x3 ^^^ s0) = b0
  rw [xor_rotate b0 b.x2 b.x3 s1]
  generalize b.x1 ^^^ T (b.x2 ^^^ b.x3 ^^^ b0 ^^^ s1) = b1
  rw [← xor_rotate b.x3 b0 b1 s2]
  generalize b.x2 ^^^ T (b.x3 ^^^ b0 ^^^ b1 ^^^ s2) = b2
  rw [← xor_rotate b0 b1 b2 s3]

theorem encLoop_eq (n : Nat) (ks : List W32) (h : ks.length = 4 * n) (b : St) :
    Model.SM4.encLoop ks b = rounds ks b := by
  induction n generalizing ks b with
  | zero =>
    have : ks = [] := List.eq_nil_of_length_eq_zero (by omega)
    subst this; rfl
  | succ n ih =>
    match ks, h with
    | s0 :: s1 :: s2 :: s3 :: rest, h =>
      unfold Model.SM4.encLoop
      rw [ih rest (by simp at h; omega), quad_eq]
      simp [rounds, List.foldl]

theorem round_rev_round (s : St) (rk : W32) : round (rev (round s rk)) rk = rev s := by
  unfold round rev
  cases s with
  | mk x0 x1 x2 x3 =>
    simp only
    congr 1
    have e : x3 ^^^ x2 ^^^ x1 ^^^ rk = x1 ^^^ x2 ^^^ x3 ^^^ rk := by ac_rfl
    rw [e]
    rw [BitVec.xor_assoc, BitVec.xor_self, BitVec.xor_zero]

theorem rev_rev (s : St) : rev (rev s) = s := by cases s; rfl

theorem rounds_append (a b : List W32) (s : St) : rounds (a ++ b) s = rounds b (rounds a s) := by
  simp [rounds, List.foldl_append]

theorem rounds_reverse (ks : List W32) (s : St) :
    rounds ks.reverse (rev (rounds ks s)) = rev s := by
  induction ks generalizing s with
  | nil => rfl
  | cons k ks ih =>
    have h1 : rounds (k :: ks) s = rounds ks (round s k) := rfl
    rw [h1, List.reverse_cons, rounds_append, ih]
    show round (rev (round s k)) k = rev s
    exact round_rev_round s k

theorem decryptSt_encryptSt (mk x : St) : decryptSt mk (encryptSt mk x) = x := by
  unfold decryptSt encryptSt
  rw [rounds_reverse, rev_rev]

theorem encryptSt_decryptSt (mk y : St) : encryptSt mk (decryptSt mk y) = y := by
  unfold decryptSt encryptSt
  have := rounds_reverse (expandKey mk).reverse y
  rw [List.reverse_reverse] at this
  rw [this, rev_rev]

theorem ofBytes_toBytes (s : St) : ofBytes (toBytes s) = s := by
  cases s with
  | mk x0 x1 x2 x3 =>
    simp only [toBytes, w32bytes, ofBytes, List.cons_append, List.nil_append, List.getD_cons_zero,
      List.getD_cons_succ, be32_w32bytes]

theorem toBytes_length (s : St) : (toBytes s).length = 16 := by simp [toBytes, w32bytes]

theorem toBytes_ofBytes (b : Bytes) (h : b.length = 16) : toBytes (ofBytes b) = b := by
  match b, h with
  | [b0,b1,b2,b3,b4,b5,b6,b7,b8,b9,b10,b11,b12,b13,b14,b15], _ =>
    simp only [toBytes, ofBytes, List.getD_cons_zero, List.getD_cons_succ, w32bytes_be32, List.cons_append,
      List.nil_append]

end Proofs.SM4
