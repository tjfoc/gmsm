/-
Facts shared by the proofs about the byte-level codecs (Props.C15Codec, C15Strict, C16Codec, C16Cap): the
big-endian number fields of `Model.TLSMessages` and `Model.SessionState` read back what was written and
conversely, a byte string of known minimal length is that many cons cells, the lengths of the written lists, and
what the parsers of the two hello messages share: the fixed fields (`helloHead`) and the loop over the extension
block (`extLoop`, `extBlock`).
-/
import Gmsm.Model.TLSMessages
import Gmsm.Model.SessionState
import Gmsm.Proofs.BytesNat
import Gmsm.Proofs.ListLemmas
namespace Proofs.TLSBytes
open Gmsm

theorem ofNat_toNat8 (a : Byte) : BitVec.ofNat 8 a.toNat = a := by
  apply BitVec.eq_of_toNat_eq; simp

theorem ofNat8_mul_add (q : Nat) (b : Byte) : BitVec.ofNat 8 (q * 256 + b.toNat) = b := by
  have hb := b.isLt
  apply BitVec.eq_of_toNat_eq; simp only [BitVec.toNat_ofNat]; omega

theorem split1 (d : Bytes) (h : 1 ≤ d.length) : ∃ a r, d = a :: r := by
  rcases d with _ | ⟨a, r⟩
  · simp at h
  · exact ⟨a, r, rfl⟩

theorem split2 (d : Bytes) (h : 2 ≤ d.length) : ∃ a b r, d = a :: b :: r := by
  obtain ⟨a, r, rfl⟩ := split1 d (by omega)
  obtain ⟨b, r, rfl⟩ := split1 r (by simp only [List.length_cons] at h; omega)
  exact ⟨a, b, r, rfl⟩

theorem split3 (d : Bytes) (h : 3 ≤ d.length) : ∃ a b c r, d = a :: b :: c :: r := by
  obtain ⟨a, r, rfl⟩ := split1 d (by omega)
  obtain ⟨b, c, r, rfl⟩ := split2 r (by simp only [List.length_cons] at h; omega)
  exact ⟨a, b, c, r, rfl⟩

theorem split4 (d : Bytes) (h : 4 ≤ d.length) : ∃ a b c e r, d = a :: b :: c :: e :: r := by
  obtain ⟨a, b, r, rfl⟩ := split2 d (by omega)
  obtain ⟨c, e, r, rfl⟩ := split2 r (by simp only [List.length_cons] at h; omega)
  exact ⟨a, b, c, e, r, rfl⟩

theorem len4 (h : Bytes) (h4 : h.length = 4) : ∃ a b c d, h = [a, b, c, d] := by
  obtain ⟨a, b, c, d, r, rfl⟩ := split4 h (by omega)
  simp only [List.length_cons] at h4
  have : r = [] := List.eq_nil_of_length_eq_zero (by omega)
  subst this
  exact ⟨a, b, c, d, rfl⟩

theorem drop_le (d : Bytes) (k : Nat) : (d.drop k).length ≤ d.length := by
  rw [List.length_drop]; omega

theorem drop_at (P Q : Bytes) (k j : Nat) (hP : P.length = k) : (P ++ Q).drop (k + j) = Q.drop j := by
  rw [← List.drop_drop, List.drop_left' hP]

theorem getD_at (P Q : Bytes) (k : Nat) (hP : P.length = k) : (P ++ Q).getD k 0 = Q.getD 0 0 := by
  subst hP
  simp only [List.getD_eq_getElem?_getD, List.getElem?_append_right (Nat.le_refl _), Nat.sub_self]

/-- evaluates `getD`, `drop`, `take`, `length` and `++` on explicit cons cells in the goal (`bsimp at h`, the same at a
    hypothesis, is declared in Props.C15Codec.Simple) -/
macro "bsimp" : tactic => `(tactic| simp only [List.getD_eq_getElem?_getD,
  List.getElem?_cons_zero, List.getElem?_cons_succ, Option.getD_some, List.drop_succ_cons, List.drop_zero,
  List.length_cons, List.cons_append, List.nil_append, List.take_succ_cons, List.take_zero, List.length_nil])

theorem header_iff (k : Nat) (b body : Bytes) :
    (¬ b.length < k ∧ b.drop k = body) ↔ ∃ h : Bytes, h.length = k ∧ b = h ++ body := by
  constructor
  · rintro ⟨hk, rfl⟩
    exact ⟨b.take k, List.length_take_of_le (by omega), (List.take_append_drop k b).symm⟩
  · rintro ⟨h, hk, rfl⟩
    exact ⟨by simp only [List.length_append]; omega, List.drop_left' hk⟩

namespace SessionState
open Model.SessionState

theorem put16_get16 (a b : Byte) : put16 (get16 a b) = [a, b] := by
  have hb := b.isLt
  unfold put16 get16
  rw [ofNat8_mul_add, show (a.toNat * 256 + b.toNat) / 256 = a.toNat by omega, ofNat_toNat8]

theorem get16_put16 (n : Nat) (h : n < 65536) : get16 (BitVec.ofNat 8 (n / 256)) (BitVec.ofNat 8 n) = n := by
  unfold get16; simp only [BitVec.toNat_ofNat]; omega

theorem get16_lt (a b : Byte) : get16 a b < 65536 := by
  have ha := a.isLt
  have hb := b.isLt
  unfold get16; omega

theorem put32_get32 (a b c d : Byte) : put32 (get32 a b c d) = [a, b, c, d] := by
  have hb := b.isLt
  have hc := c.isLt
  have hd := d.isLt
  unfold put32 get32
  rw [show a.toNat * 16777216 + b.toNat * 65536 + c.toNat * 256 + d.toNat =
      (a.toNat * 65536 + b.toNat * 256 + c.toNat) * 256 + d.toNat by omega, ofNat8_mul_add,
    show ((a.toNat * 65536 + b.toNat * 256 + c.toNat) * 256 + d.toNat) / 256 =
      (a.toNat * 256 + b.toNat) * 256 + c.toNat by omega, ofNat8_mul_add,
    show ((a.toNat * 65536 + b.toNat * 256 + c.toNat) * 256 + d.toNat) / 65536 = a.toNat * 256 + b.toNat by omega,
    ofNat8_mul_add,
    show ((a.toNat * 65536 + b.toNat * 256 + c.toNat) * 256 + d.toNat) / 16777216 = a.toNat by omega, ofNat_toNat8]

theorem get32_put32 (n : Nat) (h : n < 4294967296) :
    get32 (BitVec.ofNat 8 (n / 16777216)) (BitVec.ofNat 8 (n / 65536)) (BitVec.ofNat 8 (n / 256)) (BitVec.ofNat 8 n) = n := by
  unfold get32; simp only [BitVec.toNat_ofNat]; omega

theorem get32_lt (a b c d : Byte) : get32 a b c d < 4294967296 := by
  have ha := a.isLt
  have hb := b.isLt
  have hc := c.isLt
  have hd := d.isLt
  unfold get32; omega

end SessionState

open Model.TLSMessages

theorem put8_toNat (a : Byte) : put8 a.toNat = [a] := by
  unfold put8; rw [ofNat_toNat8]

theorem put16_get16 (a b : Byte) : put16 (get16 a b) = [a, b] := SessionState.put16_get16 a b

theorem get16_put16 (n : Nat) (h : n < 65536) : get16 (BitVec.ofNat 8 (n / 256)) (BitVec.ofNat 8 n) = n :=
  SessionState.get16_put16 n h

theorem get16_lt (a b : Byte) : get16 a b < 65536 := SessionState.get16_lt a b

theorem put16_inj (a b : Nat) (ha : a < 65536) (hb : b < 65536) (h : put16 a = put16 b) : a = b := by
  simp only [put16, List.cons.injEq, and_true] at h
  rw [← get16_put16 a ha, h.1, h.2, get16_put16 b hb]

theorem put16_small (n : Nat) (h : n < 256) : put16 n = [0] ++ put8 n := by
  unfold put16 put8; rw [show n / 256 = 0 by omega]; rfl

theorem put24_get24 (a b c : Byte) : put24 (get24 a b c) = [a, b, c] := by
  have hb := b.isLt
  have hc := c.isLt
  unfold put24 get24
  rw [show a.toNat * 65536 + b.toNat * 256 + c.toNat = (a.toNat * 256 + b.toNat) * 256 + c.toNat by omega,
    ofNat8_mul_add, show ((a.toNat * 256 + b.toNat) * 256 + c.toNat) / 256 = a.toNat * 256 + b.toNat by omega,
    ofNat8_mul_add, show ((a.toNat * 256 + b.toNat) * 256 + c.toNat) / 65536 = a.toNat by omega, ofNat_toNat8]

theorem get24_put24 (n : Nat) (h : n < 16777216) :
    get24 (BitVec.ofNat 8 (n / 65536)) (BitVec.ofNat 8 (n / 256)) (BitVec.ofNat 8 n) = n := by
  unfold get24; simp only [BitVec.toNat_ofNat]; omega

theorem get24_lt (a b c : Byte) : get24 a b c < 16777216 := by
  have ha := a.isLt
  have hb := b.isLt
  have hc := c.isLt
  unfold get24; omega

/-- the 24-bit length in the header of a handshake message says how many bytes follow it: with anything appended
    to the message it is wrong -/
theorem hdr24_trailing (b t : Bytes) (h4 : 4 ≤ b.length)
    (hl : b.length - 4 = get24 (b.getD 1 0) (b.getD 2 0) (b.getD 3 0)) (ht : t ≠ []) :
    (b ++ t).length - 4 ≠ get24 ((b ++ t).getD 1 0) ((b ++ t).getD 2 0) ((b ++ t).getD 3 0) := by
  have : t.length ≠ 0 := by simpa using ht
  rw [getD_append_left _ _ _ (by omega), getD_append_left _ _ _ (by omega), getD_append_left _ _ _ (by omega), ← hl,
    List.length_append]
  omega

theorem writeU16s_length (xs : List Nat) : (writeU16s xs).length = 2 * xs.length := by
  induction xs with
  | nil => rfl
  | cons x xs ih => simp only [writeU16s, put16, List.length_append, List.length_cons, List.length_nil, ih]; omega

theorem readU16s_length (n : Nat) (d : Bytes) : (readU16s n d).length = n := by
  induction n generalizing d with
  | zero => rfl
  | succ n ih => simp only [readU16s, List.length_cons, ih]

theorem readU16s_writeU16s (xs : List Nat) (rest : Bytes) (h : ∀ x ∈ xs, x < 65536) :
    readU16s xs.length (writeU16s xs ++ rest) = xs := by
  induction xs with
  | nil => rfl
  | cons x xs ih =>
    have hx : x < 65536 := h x (by simp)
    have ih := ih (fun y hy => h y (by simp [hy]))
    simp only [List.length_cons, readU16s, writeU16s, put16]
    bsimp
    rw [get16_put16 _ hx, ih]

theorem protoEntries_length (l : List Bytes) : (protoEntries l).length = totalLen l + l.length := by
  induction l with
  | nil => rfl
  | cons c cs ih => simp only [protoEntries, put8, totalLen, List.length_append, List.length_cons, List.length_nil, ih]; omega

theorem opt_length (c : Prop) [Decidable c] (x : Bytes) :
    (if c then [x] else ([] : List Bytes)).flatten.length = if c then x.length else 0 := by
  split <;> simp

variable {α : Type}

/-- the loop `for len(data) != 0 { … }` over the extensions of both hello messages, with the `switch` as a parameter
    (`chExtLoop = extLoop chExtension`, `shExtLoop = extLoop shExtension`) -/
def extLoop (ext : α → Nat → Nat → Bytes → Option α) : Nat → Bytes → α → Option α
  | 0, _, _ => none
  | fuel + 1, data, m =>
    if data.length ≠ 0 then
      if data.length < 4 then none else
      let e := get16 (data.getD 0 0) (data.getD 1 0)
      let length := get16 (data.getD 2 0) (data.getD 3 0)
      let data := data.drop 4
      if data.length < length then none else
      match ext m e length data with
      | none => none
      | some m => extLoop ext fuel (data.drop length) m
    else some m

theorem chExtLoop_eq (fuel : Nat) (data : Bytes) (m : ClientHelloMsg) :
    chExtLoop fuel data m = extLoop chExtension fuel data m := by
  induction fuel generalizing data m with
  | zero => rfl
  | succ fuel ih =>
    unfold chExtLoop extLoop
    simp only [ih]
    generalize chExtension m _ _ _ = o
    cases o <;> rfl

theorem shExtLoop_eq (fuel : Nat) (data : Bytes) (m : ServerHelloMsg) :
    shExtLoop fuel data m = extLoop shExtension fuel data m := by
  induction fuel generalizing data m with
  | zero => rfl
  | succ fuel ih =>
    unfold shExtLoop extLoop
    simp only [ih]
    generalize shExtension m _ _ _ = o
    cases o <;> rfl

/-- the fuel is never exhausted: every iteration removes at least the four header bytes -/
theorem extLoop_fuel (ext : α → Nat → Nat → Bytes → Option α) (f1 f2 : Nat) (data : Bytes) (m : α)
    (h1 : data.length < f1) (h2 : data.length < f2) : extLoop ext f1 data m = extLoop ext f2 data m := by
  induction f1 generalizing f2 data m with
  | zero => omega
  | succ f1 ih =>
    cases f2 with
    | zero => omega
    | succ f2 =>
      unfold extLoop
      by_cases hz : data.length ≠ 0
      · rw [if_pos hz, if_pos hz]
        by_cases h4 : data.length < 4
        · rw [if_pos h4, if_pos h4]
        · rw [if_neg h4, if_neg h4]
          dsimp only
          by_cases hl : (List.drop 4 data).length < get16 (data.getD 2 0) (data.getD 3 0)
          · rw [if_pos hl, if_pos hl]
          · rw [if_neg hl, if_neg hl]
            cases ext m (get16 (data.getD 0 0) (data.getD 1 0)) (get16 (data.getD 2 0) (data.getD 3 0)) (List.drop 4 data) with
            | none => rfl
            | some m2 =>
              have := drop_le (List.drop 4 data) (get16 (data.getD 2 0) (data.getD 3 0))
              have : (List.drop 4 data).length = data.length - 4 := List.length_drop
              exact ih _ _ _ (by omega) (by omega)
      · rw [if_neg hz, if_neg hz]

theorem extLoop_inv (ext : α → Nat → Nat → Bytes → Option α) (P : α → Prop) (n : Nat)
    (hext : ∀ m e l d m2, d.length ≤ n → l ≤ d.length → P m → ext m e l d = some m2 → P m2)
    (fuel : Nat) (data : Bytes) (m m2 : α) (hd : data.length ≤ n) (hm : P m)
    (h : extLoop ext fuel data m = some m2) : P m2 := by
  induction fuel generalizing data m with
  | zero => simp [extLoop] at h
  | succ fuel ih =>
    unfold extLoop at h
    split at h
    · simp only [Option.ite_none_left_eq_some] at h
      obtain ⟨_, hl, h⟩ := h
      have d4 := drop_le data 4
      split at h
      · simp at h
      · rename_i m1 hx
        exact ih _ _ (by have := drop_le (List.drop 4 data) (get16 (data.getD 2 0) (data.getD 3 0)); omega)
          (hext _ _ _ _ _ (by omega) (by omega) hm hx) h
    · cases h; exact hm

theorem extLoop_step (ext : α → Nat → Nat → Bytes → Option α) (f e n : Nat) (body rest : Bytes) (m : α)
    (he : e < 65536) (hn : body.length = n) (hb : n < 65536)
    (hf : (put16 e ++ (put16 n ++ (body ++ rest))).length < f) :
    extLoop ext f (put16 e ++ (put16 n ++ (body ++ rest))) m =
      match ext m e n (body ++ rest) with
      | none => none
      | some m2 => extLoop ext (rest.length + 1) rest m2 := by
  subst hn
  cases f with
  | zero => omega
  | succ f =>
    simp only [put16, List.length_append, List.length_cons, List.length_nil] at hf
    rw [extLoop]
    simp only [put16]
    bsimp
    rw [get16_put16 _ he, get16_put16 _ hb, if_pos (by omega), if_neg (by omega),
      if_neg (by simp only [List.length_append]; omega), List.drop_left]
    cases ext m e body.length (body ++ rest) with
    | none => rfl
    | some m2 => exact extLoop_fuel _ _ _ _ _ (by omega) (by omega)

/-- an extension that `marshal` writes only under the condition `c`, followed by the rest of the block: the loop
    goes from `ma` to `mb`, where the two agree when nothing is written -/
theorem extLoop_opt (ext : α → Nat → Nat → Bytes → Option α) (c : Prop) [Decidable c] (e n : Nat) (body rest : Bytes)
    (ma mb : α) (he : e < 65536) (hn : c → body.length = n ∧ n < 65536)
    (hx : c → ext ma e n (body ++ rest) = some mb) (hf : ¬c → ma = mb) :
    extLoop ext (((if c then [put16 e ++ (put16 n ++ body)] else []).flatten ++ rest).length + 1)
      ((if c then [put16 e ++ (put16 n ++ body)] else []).flatten ++ rest) ma = extLoop ext (rest.length + 1) rest mb := by
  by_cases hc : c
  · simp only [if_pos hc, List.flatten_cons, List.flatten_nil, List.append_nil, List.append_assoc]
    rw [extLoop_step ext _ e n body rest ma he (hn hc).1 (hn hc).2 (Nat.lt_succ_self _), hx hc]
  · simp only [if_neg hc, List.flatten_nil, List.nil_append]
    rw [hf hc]

/-- `extLoop_opt` inside a block shorter than 2^16 bytes: the length of the extension fits its 16-bit field, and what
    follows it is again such a block -/
theorem extLoop_opt_lt {α : Type} (ext : α → Nat → Nat → Bytes → Option α) {c : Prop} [Decidable c] (e n : Nat)
    (body : Bytes) {rest : Bytes} {ma : α} (mb : α) {r : Option α}
    (hn : c → body.length = n) (hx : c → n < 65536 → ext ma e n (body ++ rest) = some mb) (hf : ¬c → ma = mb)
    (hr : rest.length < 65536 → extLoop ext (rest.length + 1) rest mb = r) (he : e < 65536 := by decide) :
    ((if c then [put16 e ++ (put16 n ++ body)] else []).flatten ++ rest).length < 65536 →
    extLoop ext (((if c then [put16 e ++ (put16 n ++ body)] else []).flatten ++ rest).length + 1)
      ((if c then [put16 e ++ (put16 n ++ body)] else []).flatten ++ rest) ma = r := by
  intro hl
  rw [List.length_append, opt_length] at hl
  have hb : c → n < 65536 := fun hc => by
    rw [if_pos hc, List.length_append, List.length_append, hn hc] at hl
    omega
  rw [extLoop_opt ext c e n body rest ma mb he (fun hc => ⟨hn hc, hb hc⟩) (fun hc => hx hc (hb hc)) hf]
  exact hr (by omega)

/-- what both hello parsers do with the bytes after the fixed fields -/
def extBlock (ext : α → Nat → Nat → Bytes → Option α) (data : Bytes) (m : α) : Option α :=
  if data.length = 0 then some m else
  if data.length < 2 then none else
  if get16 (data.getD 0 0) (data.getD 1 0) ≠ (data.drop 2).length then none else
  extLoop ext ((data.drop 2).length + 1) (data.drop 2) m

theorem extBlock_nil (ext : α → Nat → Nat → Bytes → Option α) (m : α) : extBlock ext [] m = some m := rfl

theorem extBlock_put16 (ext : α → Nat → Nat → Bytes → Option α) (E : Bytes) (m : α) (h : E.length < 65536) :
    extBlock ext (put16 E.length ++ E) m = extLoop ext (E.length + 1) E m := by
  unfold extBlock
  simp only [put16]
  bsimp
  rw [get16_put16 _ h, if_neg (by omega), if_neg (by omega), if_neg (by omega)]

theorem extBlock_inv (ext : α → Nat → Nat → Bytes → Option α) (P : α → Prop) (n : Nat)
    (hext : ∀ m e l d m2, d.length ≤ n → l ≤ d.length → P m → ext m e l d = some m2 → P m2)
    (data : Bytes) (m m2 : α) (hd : data.length ≤ n) (hm : P m) (h : extBlock ext data m = some m2) : P m2 := by
  unfold extBlock at h
  split at h
  · cases h; exact hm
  · simp only [Option.ite_none_left_eq_some] at h
    exact extLoop_inv ext P n hext _ _ _ _ (by have := drop_le data 2; omega) hm h.2.2

/-- what both hello parsers do first (header, version, random, session id); `k` is what they do with these and the
    rest -/
def helloHead {β : Type} (k : Nat → Bytes → Bytes → Bytes → Option β) (data : Bytes) : Option β :=
  if data.length < 42 then none else
  if (data.getD 38 0).toNat > 32 ∨ data.length < 39 + (data.getD 38 0).toNat then none else
  k (get16 (data.getD 4 0) (data.getD 5 0)) ((data.drop 6).take 32) ((data.drop 39).take (data.getD 38 0).toNat)
    (data.drop (39 + (data.getD 38 0).toNat))

theorem helloHead_fields {β : Type} (k : Nat → Bytes → Bytes → Bytes → Option β) (hd random sid rest : Bytes) (vers : Nat)
    (h4 : hd.length = 4) (hr : random.length = 32) (hs : sid.length ≤ 32) (hv : vers < 65536) (h3 : 3 ≤ rest.length) :
    helloHead k (hd ++ (put16 vers ++ (random ++ (put8 sid.length ++ (sid ++ rest))))) = k vers random sid rest := by
  obtain ⟨a, b, c, d, rfl⟩ := len4 hd h4
  have e38 : (a :: b :: c :: d :: BitVec.ofNat 8 (vers / 256) :: BitVec.ofNat 8 vers :: random).length = 38 := by
    simp only [List.length_cons, hr]
  have hdata : [a, b, c, d] ++ (put16 vers ++ (random ++ (put8 sid.length ++ (sid ++ rest)))) =
      (a :: b :: c :: d :: BitVec.ofNat 8 (vers / 256) :: BitVec.ofNat 8 vers :: random) ++
        (BitVec.ofNat 8 sid.length :: (sid ++ rest)) := by
    simp only [put16, put8, List.cons_append, List.nil_append]
  have hlen : ([a, b, c, d] ++ (put16 vers ++ (random ++ (put8 sid.length ++ (sid ++ rest))))).length =
      39 + sid.length + rest.length := by
    simp only [put16, put8, List.length_append, List.length_cons, List.length_nil, hr]; omega
  have g38 : ([a, b, c, d] ++ (put16 vers ++ (random ++ (put8 sid.length ++ (sid ++ rest))))).getD 38 0 =
      BitVec.ofNat 8 sid.length := by
    rw [hdata, getD_at _ _ 38 e38]; rfl
  have d6 : ([a, b, c, d] ++ (put16 vers ++ (random ++ (put8 sid.length ++ (sid ++ rest))))).drop 6 =
      random ++ (put8 sid.length ++ (sid ++ rest)) := rfl
  have d39 : ([a, b, c, d] ++ (put16 vers ++ (random ++ (put8 sid.length ++ (sid ++ rest))))).drop 39 =
      sid ++ rest := by
    rw [hdata, drop_at _ _ 38 1 e38]; rfl
  have d39n : ([a, b, c, d] ++ (put16 vers ++ (random ++ (put8 sid.length ++ (sid ++ rest))))).drop (39 + sid.length) =
      rest := by
    rw [show 39 + sid.length = 39 + sid.length + 0 by omega, ← List.drop_drop, ← List.drop_drop, d39, List.drop_left]; rfl
  unfold helloHead
  rw [hlen, g38, d6, d39, toNat_ofNat8 _ (by omega), d39n, if_neg (by omega), if_neg (by omega),
    List.take_left' hr, List.take_left]
  exact congrArg (fun x => k x random sid rest) (get16_put16 _ hv)

theorem helloHead_some {β : Type} (k : Nat → Bytes → Bytes → Bytes → Option β) (data : Bytes) (m : β)
    (h : helloHead k data = some m) :
    ∃ vers random sid rest, random.length ≤ data.length ∧ sid.length ≤ data.length ∧ rest.length ≤ data.length ∧
      k vers random sid rest = some m := by
  simp only [helloHead, Option.ite_none_left_eq_some] at h
  exact ⟨_, _, _, _, Nat.le_trans (List.length_take_le' _ _) (drop_le _ _),
    Nat.le_trans (List.length_take_le' _ _) (drop_le _ _), drop_le _ _, h.2.2⟩

end Proofs.TLSBytes
