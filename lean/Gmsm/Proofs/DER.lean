/-
Lemmas about `Spec.DER`: the lengths of the encodings; decoding inverts encoding at every level (length
octets, TLV, INTEGER contents, signature; lengths below 2^32); and canonicity - what is accepted is the
encoder's output - for length octets, TLV and the contents of a non-negative INTEGER (`decLen_canonical`,
`decTLV_canonical`, `decIntContent_canonical` with `0 ≤ v`).  The same for `decSig` is
`Props.C14Codec.der_canonical_iff`.
-/
import Gmsm.Spec.DER
import Gmsm.Proofs.BytesNat
namespace Spec.DER
open Gmsm

theorem natBytes_length_le4 (n : Nat) (h : n < 2 ^ 32) : (natBytes n).length ≤ 4 :=
  natBytes_length_le n 4 (Nat.lt_of_lt_of_le h (by decide))

theorem encLen_length_short (n : Nat) (h : n < 128) : (encLen n).length = 1 := by
  unfold encLen; rw [if_pos h]; rfl

theorem encLen_length_pos (n : Nat) : 0 < (encLen n).length := by
  unfold encLen; split <;> exact Nat.succ_pos _

theorem encLen_length_le (n : Nat) (h : n < 2 ^ 32) : (encLen n).length ≤ 5 := by
  unfold encLen
  split
  · exact Nat.le_of_ble_eq_true rfl
  · exact Nat.succ_le_succ (natBytes_length_le4 n h)

theorem tlv_length (tag : Byte) (c : Bytes) : (tlv tag c).length = 1 + (encLen c.length).length + c.length := by
  unfold tlv; rw [List.length_cons, List.length_append]; omega

theorem tlv_length_short (tag : Byte) (c : Bytes) (h : c.length < 128) : (tlv tag c).length = c.length + 2 := by
  rw [tlv_length, encLen_length_short _ h]; omega

theorem tlv_length_le (tag : Byte) (c : Bytes) (h : c.length < 2 ^ 32) : (tlv tag c).length ≤ c.length + 6 := by
  have := encLen_length_le _ h
  rw [tlv_length]; omega

theorem length_lt_tlv (tag : Byte) (c : Bytes) : c.length < (tlv tag c).length := by
  have := encLen_length_pos c.length
  rw [tlv_length]; omega

theorem intContent_zero : intContent 0 = [0] := by
  simp only [intContent, natBytes_zero]

theorem intContent_of_natBytes {v : Nat} {b : Byte} {t : Bytes} (h : natBytes v = b :: t) :
    intContent v = if b.toNat ≥ 128 then 0 :: b :: t else b :: t := by
  simp only [intContent, h]

/-- the contents of a non-negative INTEGER in DER: not empty, the top bit of the first byte clear, and a
    leading 00 only in front of a byte with the top bit set -/
def IsIntContent : Bytes → Prop
  | [] => False
  | [x] => x.toNat < 128
  | x :: y :: _ => x.toNat < 128 ∧ (x.toNat = 0 → 128 ≤ y.toNat)

theorem isIntContent_intContent (v : Nat) : IsIntContent (intContent v) := by
  by_cases hv : v = 0
  · rw [hv, intContent_zero]; exact (by decide : (0 : Byte).toNat < 128)
  · obtain ⟨b, t, hb, hb0⟩ := natBytes_head v hv
    rw [intContent_of_natBytes hb]
    split
    · next hhi => exact ⟨by decide, fun _ => hhi⟩
    · next hhi =>
      cases t with
      | nil => exact Nat.not_le.mp hhi
      | cons y t => exact ⟨Nat.not_le.mp hhi, fun h0 => absurd h0 hb0⟩

theorem os2ip_intContent (v : Nat) : os2ip (intContent v) = v := by
  by_cases hv : v = 0
  · rw [hv, intContent_zero]; rfl
  · obtain ⟨b, t, hb, _⟩ := natBytes_head v hv
    have hval := os2ip_natBytes v
    rw [hb] at hval
    rw [intContent_of_natBytes hb]
    split
    · rw [os2ip_cons, hval, show (0 : Byte).toNat = 0 from rfl, Nat.zero_mul, Nat.zero_add]
    · exact hval

theorem intContent_length (v : Nat) (h : v < 256 ^ 32) : (intContent v).length ≤ 33 := by
  by_cases hv : v = 0
  · rw [hv, intContent_zero]; exact Nat.le_of_ble_eq_true rfl
  · obtain ⟨b, t, hb, _⟩ := natBytes_head v hv
    have := natBytes_length_le v 32 h
    rw [hb] at this
    rw [intContent_of_natBytes hb]
    split
    · exact Nat.succ_le_succ this
    · exact Nat.le_succ_of_le this

theorem encInt_length_le (v : Nat) (h : v < 256 ^ 32) : (encInt v).length ≤ 35 := by
  have := intContent_length v h
  unfold encInt
  rw [tlv_length_short _ _ (by omega)]; omega

theorem encSig_length_le (r s : Nat) (hr : r < 256 ^ 32) (hs : s < 256 ^ 32) : (encSig r s).length ≤ 72 := by
  have := encInt_length_le r hr
  have := encInt_length_le s hs
  unfold encSig encSeq
  simp only [List.flatten_cons, List.flatten_nil, List.append_nil]
  rw [tlv_length_short _ _ (by rw [List.length_append]; omega), List.length_append]; omega

theorem decIntContent_two (x y : Byte) (rest : Bytes) :
    decIntContent (x :: y :: rest) =
      if x.toNat = 0 ∧ y.toNat < 128 then none
      else if x.toNat = 255 ∧ y.toNat ≥ 128 then none
      else some (if x.toNat ≥ 128 then ((os2ip (x :: y :: rest) : Nat) : Int) - (256 : Int) ^ (rest.length + 2)
        else ((os2ip (x :: y :: rest) : Nat) : Int)) := rfl

theorem decIntContent_of_isIntContent {c : Bytes} (h : IsIntContent c) : decIntContent c = some (os2ip c : Int) := by
  match c, h with
  | [x], h =>
    show some (if x.toNat ≥ 128 then (x.toNat : Int) - 256 else (x.toNat : Int)) = _
    rw [if_neg (Nat.not_le.mpr h), os2ip_singleton]
  | x :: y :: rest, ⟨hx, hz⟩ =>
    rw [decIntContent_two, if_neg (fun hc => Nat.not_le.mpr hc.2 (hz hc.1)), if_neg (by omega),
      if_neg (Nat.not_le.mpr hx)]

theorem decIntContent_intContent (v : Nat) : decIntContent (intContent v) = some (v : Int) := by
  rw [decIntContent_of_isIntContent (isIntContent_intContent v), os2ip_intContent]

theorem isIntContent_of_decIntContent {c : Bytes} {v : Int} (h : decIntContent c = some v) (hv : 0 ≤ v) :
    IsIntContent c := by
  match c, h with
  | [], h => cases h
  | [x], h =>
    have h : some (if x.toNat ≥ 128 then (x.toNat : Int) - 256 else (x.toNat : Int)) = some v := h
    have hx := x.isLt
    show x.toNat < 128
    apply Nat.lt_of_not_le
    intro hhi
    rw [if_pos hhi] at h
    have := Option.some.inj h
    omega
  | x :: y :: rest, h =>
    rw [decIntContent_two] at h
    by_cases c1 : x.toNat = 0 ∧ y.toNat < 128
    · rw [if_pos c1] at h; cases h
    · rw [if_neg c1, if_neg (by
        intro c2; rw [if_pos c2] at h; cases h)] at h
      have hx : x.toNat < 128 := by
        apply Nat.lt_of_not_le
        intro hhi
        rw [if_pos hhi] at h
        -- a set top bit makes the value negative: os2ip < 256 ^ length
        have hlt : ((os2ip (x :: y :: rest) : Nat) : Int) < (256 : Int) ^ (rest.length + 2) := by
          have := Int.ofNat_lt.mpr (os2ip_lt (x :: y :: rest))
          rw [Int.natCast_pow] at this
          exact this
        have := Option.some.inj h
        omega
      exact ⟨hx, fun h0 => Nat.le_of_not_lt fun hy => c1 ⟨h0, hy⟩⟩

theorem byte_eq_zero {x : Byte} (h : x.toNat = 0) : x = 0 := BitVec.eq_of_toNat_eq h

theorem intContent_os2ip {c : Bytes} (h : IsIntContent c) : intContent (os2ip c) = c := by
  match c, h with
  | [x], h =>
    by_cases hz : x.toNat = 0
    · rw [os2ip_singleton, hz, intContent_zero, byte_eq_zero hz]
    · rw [intContent_of_natBytes (natBytes_os2ip [x] (by intro b t hbt; cases hbt; exact hz)),
        if_neg (Nat.not_le.mpr h)]
  | x :: y :: rest, ⟨hx, hz⟩ =>
    by_cases h0 : x.toNat = 0
    · have e : os2ip (x :: y :: rest) = os2ip (y :: rest) := by
        rw [os2ip_cons, h0, Nat.zero_mul, Nat.zero_add]
      have hy := hz h0
      rw [e, intContent_of_natBytes (natBytes_os2ip (y :: rest) (by intro b t hbt; cases hbt; omega)),
        if_pos hy, byte_eq_zero h0]
    · rw [intContent_of_natBytes (natBytes_os2ip (x :: y :: rest) (by intro b t hbt; cases hbt; exact h0)),
        if_neg (Nat.not_le.mpr hx)]

theorem decIntContent_canonical (c : Bytes) (v : Int) (h : decIntContent c = some v) (hv : 0 ≤ v) :
    c = intContent v.toNat := by
  have hc := isIntContent_of_decIntContent h hv
  have := decIntContent_of_isIntContent hc
  rw [h] at this
  rw [Option.some.inj this, Int.toNat_natCast, intContent_os2ip hc]

/-- the long form, for any digit string `ds` with the properties of `natBytes n`, 128 ≤ n < 2^32 -/
theorem decLen_long (ds rest : Bytes) (hl : ds.length ≤ 4) (hd : ∀ b t, ds = b :: t → b.toNat ≠ 0)
    (hv : 128 ≤ os2ip ds) : decLen (BitVec.ofNat 8 (0x80 + ds.length) :: (ds ++ rest)) = some (os2ip ds, rest) := by
  have hpos : 0 < ds.length := by
    cases ds with
    | nil => rw [os2ip_nil] at hv; omega
    | cons b t => exact Nat.succ_pos _
  have hhead : ¬ (ds.head?.map (·.toNat) = some 0) := by
    cases ds with
    | nil => intro hc; cases hc
    | cons b t => intro hc; exact hd b t rfl (Option.some.inj hc)
  unfold decLen
  simp only [toNat_ofNat8 (0x80 + ds.length) (by omega)]
  have e : 128 + ds.length - 128 = ds.length := by omega
  rw [if_neg (by omega), e, if_neg (by rw [List.length_append]; omega), List.take_left' rfl, List.drop_left' rfl,
    if_neg hhead, if_neg (by omega)]

theorem decLen_encLen (n : Nat) (h : n < 2 ^ 32) (rest : Bytes) : decLen (encLen n ++ rest) = some (n, rest) := by
  unfold encLen
  by_cases h0 : n < 128
  · rw [if_pos h0, List.singleton_append]
    unfold decLen
    simp only [toNat_ofNat8 n (by omega)]
    rw [if_pos h0]
  · rw [if_neg h0]
    have := decLen_long (natBytes n) rest (natBytes_length_le4 n h) (natBytes_head_ne_zero n)
      (by rw [os2ip_natBytes]; omega)
    rw [os2ip_natBytes] at this
    exact this

theorem decTLV_tlv (tag : Byte) (c rest : Bytes) (h : c.length < 2 ^ 32) :
    decTLV tag (tlv tag c ++ rest) = some (c, rest) := by
  unfold tlv decTLV
  simp only [List.cons_append, List.append_assoc, ne_eq, not_true_eq_false, if_false]
  rw [decLen_encLen _ h]
  simp

theorem decLen_canonical (bs rest : Bytes) (n : Nat) (h : decLen bs = some (n, rest)) : bs = encLen n ++ rest := by
  revert h
  fun_cases decLen bs <;> intro h
  case case2 l rest0 h0 =>
    obtain ⟨hn, hr⟩ := Prod.mk.inj (Option.some.inj h)
    unfold encLen
    rw [← hn, if_pos h0, ← hr, BitVec.ofNat_toNat, BitVec.setWidth_eq]
    rfl
  case case6 l rest0 h0 k h1 lb v h2 h3 =>
    obtain ⟨hn, hr⟩ := Prod.mk.inj (Option.some.inj h)
    -- the digits have no leading zero, so they are the minimal digits of their value
    have hnb : natBytes v = lb := by
      apply natBytes_os2ip
      intro b t hbt hb0
      apply h2
      rw [hbt]; simp [hb0]
    have hlen : lb.length = k := by
      rw [List.length_take]; omega
    have hl : BitVec.ofNat 8 (0x80 + k) = l := by
      apply BitVec.eq_of_toNat_eq
      simp only [BitVec.toNat_ofNat]
      have := l.isLt
      omega
    unfold encLen
    rw [← hn, if_neg h3]
    simp only [hnb, hlen]
    rw [hl, ← hr, List.cons_append, List.take_append_drop]
  all_goals cases h
theorem decTLV_canonical (tag : Byte) (bs c rest : Bytes) (h : decTLV tag bs = some (c, rest)) :
    bs = tlv tag c ++ rest := by
  revert h
  fun_cases decTLV tag bs <;> intro h
  case case5 t rest0 ht n r hd h1 =>
    obtain ⟨hc, hr⟩ := Prod.mk.inj (Option.some.inj h)
    have hcl : c.length = n := by rw [← hc, List.length_take]; omega
    unfold tlv
    rw [Classical.not_not.mp ht, decLen_canonical _ _ _ hd, hcl, ← hc, ← hr, List.cons_append, List.append_assoc,
      List.take_append_drop]
  all_goals cases h

theorem decSig_some {b : Bytes} {r s : Int} (h : decSig b = some (r, s)) :
    ∃ body rc rest sc, decTLV 0x30 b = some (body, []) ∧ decTLV 0x02 body = some (rc, rest) ∧
      decTLV 0x02 rest = some (sc, []) ∧ decIntContent rc = some r ∧ decIntContent sc = some s := by
  revert h
  fun_cases decSig b <;> intro h
  case case1 =>
    cases h
    exact ⟨_, _, _, _, ‹_›, ‹_›, ‹_›, ‹_›, ‹_›⟩
  all_goals cases h

theorem decSig_encSig_append (r s : Nat) (rest : Bytes) (hl : (encSig r s).length < 2 ^ 32) :
    decSig (encSig r s ++ rest) = if rest = [] then some ((r : Int), (s : Int)) else none := by
  unfold encSig encSeq at hl ⊢
  simp only [List.flatten_cons, List.flatten_nil, List.append_nil] at hl ⊢
  have hbody := Nat.lt_trans (length_lt_tlv 0x30 (encInt r ++ encInt s)) hl
  rw [List.length_append] at hbody
  have hr := length_lt_tlv 0x02 (intContent r)
  have hs := length_lt_tlv 0x02 (intContent s)
  unfold decSig
  rw [decTLV_tlv 0x30 _ rest (by rw [List.length_append]; exact hbody)]
  cases rest with
  | cons x xs => simp only [reduceCtorEq, if_false]
  | nil =>
    have h2 := decTLV_tlv 0x02 (intContent s) [] (by unfold encInt at hbody; omega)
    rw [List.append_nil] at h2
    simp only [if_true]
    unfold encInt
    rw [decTLV_tlv 0x02 (intContent r) _ (by unfold encInt at hbody; omega)]
    simp only [h2, decIntContent_intContent]

theorem decSig_encSig (r s : Nat) (hl : (encSig r s).length < 2 ^ 32) :
    decSig (encSig r s) = some ((r : Int), (s : Int)) := by
  have := decSig_encSig_append r s [] hl
  rwa [List.append_nil, if_pos rfl] at this

end Spec.DER
