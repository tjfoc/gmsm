/-
Lemmas on `Spec.Modes`: xor on byte strings; cutting a string into blocks and putting them together again, for any
block size (`Model.P7Block.blocksN`; `Spec.Modes.blocks` is the case 16); the SP 800-38A chains over any block
function pair with `D (E x) = x` on whole blocks invert each other.
-/
import Gmsm.Model.P7Block
namespace Proofs.Modes
open Gmsm Spec.Modes
open Model.P7Block (blocksN blocksN_all)

theorem xorBytes_length (a b : Bytes) : (xorBytes a b).length = min a.length b.length := by
  induction a generalizing b with
  | nil => simp [xorBytes]
  | cons x xs ih =>
    cases b with
    | nil => simp [xorBytes]
    | cons y ys => simp [xorBytes, ih, Nat.succ_min_succ]

theorem xor_cancel_right (a b : Bytes) (h : a.length ≤ b.length) : xorBytes (xorBytes a b) b = a := by
  induction a generalizing b with
  | nil => simp [xorBytes]
  | cons x xs ih =>
    cases b with
    | nil => simp at h
    | cons y ys =>
      simp only [xorBytes, List.cons.injEq]
      constructor
      · rw [BitVec.xor_assoc, BitVec.xor_self, BitVec.xor_zero]
      · exact ih ys (by simpa using h)

theorem xor_cancel_left (k p : Bytes) (h : p.length ≤ k.length) : xorBytes k (xorBytes k p) = p := by
  induction p generalizing k with
  | nil => cases k <;> simp [xorBytes]
  | cons x xs ih =>
    cases k with
    | nil => simp at h
    | cons y ys =>
      simp only [xorBytes, List.cons.injEq]
      constructor
      · rw [← BitVec.xor_assoc, BitVec.xor_self, BitVec.zero_xor]
      · exact ih ys (by simpa using h)

theorem xorBytes_comm (a b : Bytes) : xorBytes a b = xorBytes b a := by
  induction a generalizing b with
  | nil => cases b <;> simp [xorBytes]
  | cons x xs ih =>
    cases b with
    | nil => simp [xorBytes]
    | cons y ys => simp only [xorBytes]; rw [ih ys, BitVec.xor_comm]

theorem xorBytes_take_right (a b : Bytes) : xorBytes a (b.take a.length) = xorBytes a b := by
  induction a generalizing b with
  | nil => cases b <;> simp [xorBytes]
  | cons x xs ih =>
    cases b with
    | nil => simp [xorBytes]
    | cons y ys => simp only [List.length_cons, List.take_succ_cons, xorBytes]; rw [ih ys]

def AllN (n : Nat) (bs : List Bytes) : Prop := ∀ b ∈ bs, b.length = n

abbrev AllBlk := AllN 16

theorem allN_nil {n : Nat} : AllN n [] := nofun

theorem allN_cons {n : Nat} {b : Bytes} {bs : List Bytes} : AllN n (b :: bs) ↔ b.length = n ∧ AllN n bs :=
  List.forall_mem_cons

theorem flatten_length {n : Nat} (bs : List Bytes) (h : AllN n bs) : bs.flatten.length = n * bs.length := by
  induction bs with
  | nil => rfl
  | cons b bs ih =>
    obtain ⟨hb, hbs⟩ := allN_cons.mp h
    rw [List.flatten_cons, List.length_append, List.length_cons, ih hbs, hb, Nat.mul_succ, Nat.add_comm]

theorem blocksN_length (n k : Nat) (b : Bytes) : (blocksN n k b).length = k := by
  induction k generalizing b with
  | zero => rfl
  | succ k ih => rw [blocksN, List.length_cons, ih]

theorem blocksN_flatten (n k : Nat) (b : Bytes) (h : b.length = n * k) : (blocksN n k b).flatten = b := by
  induction k generalizing b with
  | zero => exact (List.eq_nil_of_length_eq_zero h).symm
  | succ k ih =>
    rw [blocksN, List.flatten_cons, ih _ (by rw [List.length_drop, h, Nat.mul_succ, Nat.add_sub_cancel]),
      List.take_append_drop]

theorem blocksN_div_flatten {n : Nat} (b : Bytes) (h : b.length % n = 0) : (blocksN n (b.length / n) b).flatten = b :=
  blocksN_flatten n _ b (Nat.mul_div_cancel' (Nat.dvd_of_mod_eq_zero h)).symm

theorem blocksN_of_flatten {n : Nat} (bs : List Bytes) (h : AllN n bs) (rest : Bytes) :
    blocksN n bs.length (bs.flatten ++ rest) = bs := by
  induction bs with
  | nil => rfl
  | cons b bs ih =>
    obtain ⟨hb, hbs⟩ := allN_cons.mp h
    rw [List.length_cons, blocksN, List.flatten_cons, List.append_assoc, List.take_left' hb, List.drop_left' hb, ih hbs]

theorem blocksN_append (n k l : Nat) (a b : Bytes) (ha : a.length = n * k) :
    blocksN n (k + l) (a ++ b) = blocksN n k a ++ blocksN n l b := by
  induction k generalizing a with
  | zero => rw [List.eq_nil_of_length_eq_zero ha, Nat.zero_add]; rfl
  | succ k ih =>
    have h1 : n ≤ a.length := ha ▸ Nat.le_add_left ..
    rw [Nat.succ_add, blocksN, blocksN, List.take_append_of_le_length h1, List.drop_append_of_le_length h1,
      ih _ (by rw [List.length_drop, ha, Nat.mul_succ, Nat.add_sub_cancel]), List.cons_append]

theorem blocksN_16 (k : Nat) (b : Bytes) : blocksN 16 k b = blocks k b := by
  induction k generalizing b with
  | zero => rfl
  | succ k ih => rw [blocksN, blocks, ih]

theorem blocks_flatten (bs : List Bytes) (h : AllBlk bs) (rest : Bytes) :
    blocks bs.length (bs.flatten ++ rest) = bs :=
  (blocksN_16 ..).symm.trans (blocksN_of_flatten bs h rest)

theorem blocks_all (n : Nat) (b : Bytes) (h : 16 * n ≤ b.length) : AllBlk (blocks n b) :=
  blocksN_16 n b ▸ blocksN_all 16 n b h

theorem blocks_length (n : Nat) (b : Bytes) : (blocks n b).length = n :=
  blocksN_16 n b ▸ blocksN_length 16 n b

theorem flatten_blocks (n : Nat) (b : Bytes) (h : b.length = 16 * n) : (blocks n b).flatten = b :=
  blocksN_16 n b ▸ blocksN_flatten 16 n b h

theorem cbcEnc_all {n : Nat} (E : Bytes → Bytes) (hE : ∀ x, (E x).length = n) (iv : Bytes) (bs : List Bytes) :
    AllN n (cbcEnc E iv bs) := by
  induction bs generalizing iv with
  | nil => exact allN_nil
  | cons p ps ih => exact allN_cons.mpr ⟨hE _, ih _⟩

theorem cbcEnc_length (E : Bytes → Bytes) (iv : Bytes) (bs : List Bytes) : (cbcEnc E iv bs).length = bs.length := by
  induction bs generalizing iv with
  | nil => rfl
  | cons p ps ih => rw [cbcEnc, List.length_cons, ih, List.length_cons]

theorem cbcDec_all {n : Nat} (D : Bytes → Bytes) (hD : ∀ x, (D x).length = n) (iv : Bytes) (hiv : iv.length = n)
    (cs : List Bytes) (h : AllN n cs) : AllN n (cbcDec D iv cs) := by
  induction cs generalizing iv with
  | nil => exact allN_nil
  | cons c cs ih =>
    obtain ⟨hc, hcs⟩ := allN_cons.mp h
    exact allN_cons.mpr ⟨by rw [xorBytes_length, hD, hiv, Nat.min_self], ih c hc hcs⟩

theorem cbcDec_length (D : Bytes → Bytes) (iv : Bytes) (cs : List Bytes) : (cbcDec D iv cs).length = cs.length := by
  induction cs generalizing iv with
  | nil => rfl
  | cons c cs ih => rw [cbcDec, List.length_cons, ih, List.length_cons]

theorem cbcEnc_append (E : Bytes → Bytes) (iv : Bytes) (xs ys : List Bytes) :
    cbcEnc E iv (xs ++ ys) = cbcEnc E iv xs ++ cbcEnc E ((cbcEnc E iv xs).getLastD iv) ys := by
  induction xs generalizing iv with
  | nil => rfl
  | cons p ps ih => rw [List.cons_append, cbcEnc, cbcEnc, List.getLastD_cons, ih]; rfl

theorem cbcDec_append (D : Bytes → Bytes) (iv : Bytes) (xs ys : List Bytes) :
    cbcDec D iv (xs ++ ys) = cbcDec D iv xs ++ cbcDec D (xs.getLastD iv) ys := by
  induction xs generalizing iv with
  | nil => rfl
  | cons p ps ih => rw [List.cons_append, cbcDec, cbcDec, List.getLastD_cons, ih]; rfl

theorem cbc_inv {n : Nat} (E D : Bytes → Bytes) (hDE : ∀ x, x.length = n → D (E x) = x) (iv : Bytes)
    (hiv : iv.length = n) (bs : List Bytes) (h : AllN n bs) (hE : ∀ x, (E x).length = n) :
    cbcDec D iv (cbcEnc E iv bs) = bs := by
  induction bs generalizing iv with
  | nil => rfl
  | cons p ps ih =>
    obtain ⟨hp, hps⟩ := allN_cons.mp h
    rw [cbcEnc, cbcDec, hDE _ (by rw [xorBytes_length, hp, hiv, Nat.min_self]),
      xor_cancel_right _ _ (Nat.le_of_eq (hp.trans hiv.symm)), ih _ (hE _) hps]

/-- CBC decryption undoes CBC encryption of whole blocks under the same IV, both run over byte strings that they cut
    into blocks themselves (`CryptBlocks` of `cipher.NewCBCDecrypter` after that of `NewCBCEncrypter`) -/
theorem cbc_flatten_inv {n : Nat} (hn : 0 < n) (E D : Bytes → Bytes) (hE : ∀ x, (E x).length = n)
    (hDE : ∀ x, x.length = n → D (E x) = x) (iv : Bytes) (hiv : iv.length = n) (p : Bytes)
    (hp : p.length % n = 0) :
    (cbcDec D iv (blocksN n ((cbcEnc E iv (blocksN n (p.length / n) p)).flatten.length / n)
      (cbcEnc E iv (blocksN n (p.length / n) p)).flatten)).flatten = p := by
  have hca := cbcEnc_all E hE iv (blocksN n (p.length / n) p)
  have hb := blocksN_of_flatten _ hca []
  rw [List.append_nil] at hb
  rw [flatten_length _ hca, Nat.mul_div_cancel_left _ hn, hb,
    cbc_inv E D hDE iv hiv _ (blocksN_all n _ p (Nat.mul_div_le _ _)) hE, blocksN_div_flatten p hp]

theorem cbc_flatten_inv16 (E D : Bytes → Bytes) (hE : ∀ x, (E x).length = 16)
    (hDE : ∀ x, x.length = 16 → D (E x) = x) (iv : Bytes) (hiv : iv.length = 16) (p : Bytes) (hp : p.length % 16 = 0) :
    (cbcDec D iv (blocks ((cbcEnc E iv (blocks (p.length / 16) p)).flatten.length / 16)
      (cbcEnc E iv (blocks (p.length / 16) p)).flatten)).flatten = p := by
  simp only [← blocksN_16]
  exact cbc_flatten_inv (by decide) E D hE hDE iv hiv p hp

theorem ecb_inv {n : Nat} (E D : Bytes → Bytes) (bs : List Bytes) (h : AllN n bs)
    (hDE : ∀ x, x.length = n → D (E x) = x) : ecb D (ecb E bs) = bs := by
  induction bs with
  | nil => rfl
  | cons p ps ih =>
    obtain ⟨hp, hps⟩ := allN_cons.mp h
    simp only [ecb, List.map_cons, List.map_map] at ih ⊢
    rw [hDE p hp, ih hps]

theorem ecb_all {n : Nat} (F : Bytes → Bytes) (hF : ∀ x, (F x).length = n) (bs : List Bytes) : AllN n (ecb F bs) := by
  intro x hx
  obtain ⟨y, _, rfl⟩ := List.mem_map.mp hx
  exact hF y

theorem cfbEnc_all {n : Nat} (E : Bytes → Bytes) (iv : Bytes) (bs : List Bytes) (h : AllN n bs)
    (hE : ∀ x, (E x).length = n) : AllN n (cfbEnc E iv bs) := by
  induction bs generalizing iv with
  | nil => exact allN_nil
  | cons p ps ih =>
    obtain ⟨hp, hps⟩ := allN_cons.mp h
    exact allN_cons.mpr ⟨by rw [xorBytes_length, hE, hp, Nat.min_self], ih _ hps⟩

theorem cfbEnc_length (E : Bytes → Bytes) (iv : Bytes) (bs : List Bytes) : (cfbEnc E iv bs).length = bs.length := by
  induction bs generalizing iv with
  | nil => rfl
  | cons p ps ih => rw [cfbEnc, List.length_cons, ih, List.length_cons]

theorem cfb_inv {n : Nat} (E : Bytes → Bytes) (iv : Bytes) (bs : List Bytes) (h : AllN n bs)
    (hE : ∀ x, (E x).length = n) : cfbDec E iv (cfbEnc E iv bs) = bs := by
  induction bs generalizing iv with
  | nil => rfl
  | cons p ps ih =>
    obtain ⟨hp, hps⟩ := allN_cons.mp h
    rw [cfbEnc, cfbDec, xor_cancel_left _ _ (by rw [hE, hp]; exact Nat.le_refl _), ih _ hps]

theorem ofb_all {n : Nat} (E : Bytes → Bytes) (iv : Bytes) (bs : List Bytes) (h : AllN n bs)
    (hE : ∀ x, (E x).length = n) : AllN n (ofb E iv bs) := by
  induction bs generalizing iv with
  | nil => exact allN_nil
  | cons p ps ih =>
    obtain ⟨hp, hps⟩ := allN_cons.mp h
    exact allN_cons.mpr ⟨by rw [xorBytes_length, hE, hp, Nat.min_self], ih _ hps⟩

theorem ofb_length (E : Bytes → Bytes) (iv : Bytes) (bs : List Bytes) : (ofb E iv bs).length = bs.length := by
  induction bs generalizing iv with
  | nil => rfl
  | cons p ps ih => rw [ofb, List.length_cons, ih, List.length_cons]

theorem ofb_inv {n : Nat} (E : Bytes → Bytes) (iv : Bytes) (bs : List Bytes) (h : AllN n bs)
    (hE : ∀ x, (E x).length = n) : ofb E iv (ofb E iv bs) = bs := by
  induction bs generalizing iv with
  | nil => rfl
  | cons p ps ih =>
    obtain ⟨hp, hps⟩ := allN_cons.mp h
    rw [ofb, ofb, xor_cancel_left _ _ (by rw [hE, hp]; exact Nat.le_refl _), ih _ hps]

theorem pad16_length (p : Bytes) : (pad16 p).length = 16 * (p.length / 16 + 1) := by
  simp [pad16]; omega

end Proofs.Modes
