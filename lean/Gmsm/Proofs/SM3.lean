/-
The streaming SM3 object of `Model.SM3` refines "hash of the bytes written so far": the abstraction relation
`Inv`, its preservation by `write`, and what `finish` / `sum` return in a state that satisfies it.  For C04 and
for the code that drives the object (C04HMAC, C13Glue).  At the end, two facts those clients share: the bytes
of a 32-bit counter as Go writes them, and the length of a run of equal-sized blocks.
-/
import Gmsm.Model.SM3
import Gmsm.Proofs.Bits
namespace Proofs.SM3
open Gmsm Spec.SM3 Model.SM3

theorem leftRotate_eq : leftRotate = rotl := by
  funext x i
  exact goRotl_eq x i

theorem update1_eq_CF : update1 = CF := by
  unfold update1 CF
  rw [leftRotate_eq]

theorem updateN_eq_iter (n : Nat) (v : Reg) (m : Bytes) : updateN n v m = iter n v m := by
  induction n generalizing v m with
  | zero => rfl
  | succ n ih => simp only [updateN, iter, update1_eq_CF, ih]

theorem iter_append (k n : Nat) (v : Reg) (a b : Bytes) (h : a.length = 64 * k) :
    iter (k + n) v (a ++ b) = iter n (iter k v a) b := by
  induction k generalizing v a with
  | zero =>
    have : a = [] := List.eq_nil_of_length_eq_zero (by omega)
    subst this
    simp [iter]
  | succ k ih =>
    have hlen : 64 ≤ a.length := by omega
    rw [show k + 1 + n = (k + n) + 1 by omega, iter, iter, List.take_append_of_le_length hlen,
      List.drop_append_of_le_length hlen]
    exact ih _ _ (by rw [List.length_drop]; omega)

theorem iter_take (k : Nat) (v : Reg) (m : Bytes) (h : 64 * k ≤ m.length) :
    iter k v m = iter k v (m.take (64 * k)) := by
  have := iter_append k 0 v (m.take (64*k)) (m.drop (64*k)) (by rw [List.length_take]; omega)
  simp only [Nat.add_zero, List.take_append_drop, iter] at this
  exact this

/-- the abstraction relation: state `s` represents the bytes `M` written since the last reset -/
structure Inv (s : State) (M : Bytes) : Prop where
  digest : s.digest = iter (M.length / 64) IV M
  tail : s.tail = M.drop (64 * (M.length / 64))
  length : s.length = BitVec.ofNat 64 (8 * M.length)

theorem inv_init : Inv init [] := ⟨rfl, rfl, rfl⟩

theorem tail_length {s : State} {M : Bytes} (h : Inv s M) : s.tail.length = M.length % 64 := by
  rw [h.tail, List.length_drop]; omega

/-- `M ‖ t` is the whole blocks `a` of `M`, which the state has absorbed, followed by `tail ‖ t` -/
theorem split_at_tail {s : State} {M : Bytes} (h : Inv s M) (t : Bytes) :
    ∃ a : Bytes, a.length = 64 * (M.length / 64) ∧ M ++ t = a ++ (s.tail ++ t) ∧
      (M ++ t).length / 64 = M.length / 64 + (s.tail ++ t).length / 64 ∧
      s.digest = iter (M.length / 64) IV a := by
  have hk : 64 * (M.length / 64) ≤ M.length := Nat.mul_div_le _ _
  refine ⟨M.take (64 * (M.length / 64)), by rw [List.length_take]; omega, ?_, ?_, ?_⟩
  · rw [h.tail, ← List.append_assoc, List.take_append_drop]
  · rw [List.length_append, List.length_append, tail_length h]; omega
  · rw [h.digest, iter_take _ IV M hk]

theorem iter_resume {s : State} {M : Bytes} (h : Inv s M) (t : Bytes) :
    iter ((M ++ t).length / 64) IV (M ++ t) = iter ((s.tail ++ t).length / 64) s.digest (s.tail ++ t) := by
  obtain ⟨a, ha, e, hlen, hd⟩ := split_at_tail h t
  rw [hlen, e, iter_append _ _ IV a _ ha, hd]

theorem inv_write {s : State} {M : Bytes} (h : Inv s M) (p : Bytes) : Inv (write s p) (M ++ p) := by
  constructor
  · show updateN ((s.tail ++ p).length / 64) s.digest (s.tail ++ p) = _
    rw [updateN_eq_iter, iter_resume h p]
  · show (s.tail ++ p).drop ((s.tail ++ p).length / 64 * 64) = _
    obtain ⟨a, ha, e, hlen, _⟩ := split_at_tail h p
    rw [hlen, e, Nat.mul_add, ← ha, Nat.mul_comm 64 (_ / 64), List.drop_length_add_append]
  · show s.length + BitVec.ofNat 64 (p.length * 8) = _
    rw [h.length, List.length_append, ← BitVec.ofNat_add]
    congr 1; omega

theorem inv_init_write (p : Bytes) : Inv (write init p) p := inv_write inv_init p

theorem inv_foldl_write (cs : List Bytes) {s : State} {M : Bytes} (h : Inv s M) :
    Inv (cs.foldl write s) (M ++ cs.flatten) := by
  induction cs generalizing s M with
  | nil => rw [List.flatten_nil, List.append_nil]; exact h
  | cons c cs ih => rw [List.flatten_cons, ← List.append_assoc]; exact ih (inv_write h c)

theorem pad_eq {s : State} {M : Bytes} (h : Inv s M) : pad s = s.tail ++ padding M.length := by
  unfold pad padding
  rw [tail_length h, h.length]
  simp

theorem finish_eq_hash {s : State} {M : Bytes} (h : Inv s M) : finish s = Spec.SM3.hash M := by
  unfold finish Spec.SM3.hash
  simp only [pad_eq h, updateN_eq_iter, iter_resume h]

theorem finish_foldl_write (cs : List Bytes) : finish (cs.foldl write init) = Spec.SM3.hash cs.flatten := by
  have := inv_foldl_write cs inv_init
  rw [List.nil_append] at this
  exact finish_eq_hash this

theorem sum_nil (s : State) : sum s [] = (s, finish s) := by rw [sum, List.nil_append]

/-- the padded message is a whole number of blocks (the Go code panics otherwise) -/
theorem padded_length (l : Nat) : (l + (padding l).length) % 64 = 0 := by
  unfold padding
  simp [w64bytes]
  omega

theorem extractLsb'_ofNat32 (i s : Nat) (hs : s + 8 ≤ 32) :
    (BitVec.ofNat 32 i).extractLsb' s 8 = BitVec.ofNat 8 (i >>> s) := by
  apply BitVec.eq_of_toNat_eq
  rw [BitVec.extractLsb'_toNat, BitVec.toNat_ofNat, BitVec.toNat_ofNat, Nat.shiftRight_eq_div_pow,
    Nat.shiftRight_eq_div_pow, show 2 ^ 32 = 2 ^ s * 2 ^ (32 - s) by rw [← Nat.pow_add]; congr 1; omega,
    Nat.mod_mul_right_div_self, Nat.mod_mod_of_dvd _ (Nat.pow_dvd_pow 2 (by omega))]

/-- the big-endian bytes of a 32-bit counter, as Go writes them (`byte(i>>24), byte(i>>16), byte(i>>8), byte(i)`) -/
theorem w32bytes_ofNat (i : Nat) : w32bytes (BitVec.ofNat 32 i) =
    [BitVec.ofNat 8 (i >>> 24), BitVec.ofNat 8 (i >>> 16), BitVec.ofNat 8 (i >>> 8), BitVec.ofNat 8 i] := by
  rw [w32bytes, extractLsb'_ofNat32 i 24 (by decide), extractLsb'_ofNat32 i 16 (by decide),
    extractLsb'_ofNat32 i 8 (by decide), extractLsb'_ofNat32 i 0 (by decide), Nat.shiftRight_zero]

theorem length_flatMap_range (f : Nat → Bytes) (h : Nat) (hf : ∀ i, (f i).length = h) (n : Nat) :
    ((List.range n).flatMap f).length = n * h := by
  induction n with
  | zero => rw [Nat.zero_mul]; rfl
  | succ n ih => rw [List.range_succ, List.flatMap_append, List.length_append, ih, Nat.succ_mul]; simp [hf]

end Proofs.SM3
