/-
Framing lemmas for `Model.X509Names` (core Lean only): what `Spec.DER.tlv` / `encLen` write, the model of
`parseTagAndLength` reads back (every length below 2^31, the limit of encoding/asn1); the base-128 codec of OID
subidentifiers (`appendBase128Int` / `parseBase128Int`): what is written for n < 2^70 is read back when
n ≤ MaxInt32 and refused above (`decSubids_encBase128`, `oid_subid_roundtrip`); OBJECT IDENTIFIER contents; SEQUENCE OF.
The theorems live in `Props.C09Names` (continued in `Gmsm/Props/C09Names.lean`).
-/
import Gmsm.Model.X509Names
import Gmsm.Proofs.BytesNat
import Gmsm.Proofs.ByteSweep
namespace Props.C09Names
open Gmsm Model.X509Names

theorem byte_mask_facts (b : Byte) :
    (b &&& 0x7f).toNat = b.toNat % 128 ∧ (b &&& 0x80 = 0 ↔ b.toNat < 128) ∧ (b >>> 6).toNat = b.toNat / 64 ∧
    (b &&& 0x20 = 0x20 ↔ b.toNat / 32 % 2 = 1) ∧ (b &&& 0x1f).toNat = b.toNat % 32 ∧ (b = 0x80 ↔ b.toNat = 128) := by
  revert b
  apply byte_forall
  decide +kernel

theorem readLenLoop_bytes (bs : Bytes) (acc : Nat) (rest : Bytes)
    (h0 : acc ≠ 0 ∨ ∃ b t, bs = b :: t ∧ b.toNat ≠ 0)
    (hv : acc * 256 ^ bs.length + os2ip bs < 2 ^ 31) :
    readLenLoop bs.length acc (bs ++ rest) = some (acc * 256 ^ bs.length + os2ip bs, rest) := by
  induction bs generalizing acc with
  | nil => simp [readLenLoop, os2ip_nil]
  | cons b t ih =>
    simp only [List.length_cons, List.cons_append, readLenLoop]
    rw [os2ip_cons, List.length_cons, Nat.pow_succ] at hv
    have hpos : 0 < 256 ^ t.length := Nat.pow_pos (by decide)
    have hacc : acc < 2 ^ 23 := by
      have := Nat.mul_le_mul_left acc (Nat.le_mul_of_pos_left 256 hpos)
      omega
    rw [if_neg (by omega)]
    have hne : acc * 256 + b.toNat ≠ 0 := by
      rcases h0 with h | ⟨b', t', he, hb⟩
      · omega
      · cases he; omega
    simp only [hne, if_false]
    have key : (acc * 256 + b.toNat) * 256 ^ t.length = acc * (256 ^ t.length * 256) + b.toNat * 256 ^ t.length := by
      rw [Nat.add_mul, Nat.mul_assoc acc, Nat.mul_comm 256 (256 ^ t.length)]
    rw [ih (acc * 256 + b.toNat) (Or.inl hne) (by rw [key]; omega)]
    rw [os2ip_cons, Nat.pow_succ, key, Nat.add_assoc]

theorem der_len_roundtrip (n : Nat) (h : n < 2 ^ 31) (rest : Bytes) :
    readLength (Spec.DER.encLen n ++ rest) = some (n, rest) := by
  unfold Spec.DER.encLen
  by_cases h0 : n < 128
  · rw [if_pos h0]
    simp only [List.cons_append, List.nil_append, readLength, toNat_ofNat8 n (by omega), if_pos h0]
  · rw [if_neg h0]
    have hlen : (natBytes n).length ≤ 4 := natBytes_length_le n 4 (by
      have : (256 : Nat) ^ 4 = 2 ^ 32 := by decide
      omega)
    obtain ⟨b, t, hb, hb0⟩ := natBytes_head n (by omega)
    have hpos : 0 < (natBytes n).length := by rw [hb]; simp
    simp only [List.cons_append, readLength, toNat_ofNat8 (0x80 + (natBytes n).length) (by omega)]
    rw [if_neg (by omega), if_neg (by omega), Nat.add_sub_cancel_left, readLenLoop_bytes (natBytes n) 0 rest (Or.inr ⟨b, t, hb, hb0⟩) (by rw [os2ip_natBytes]; omega)]
    simp only [Nat.zero_mul, Nat.zero_add, os2ip_natBytes]
    rw [if_neg h0]

/-- the header `parseTagAndLength` reports for identifier octet `t` (low tag number form) and length `n` -/
def hdrOf (t : Byte) (n : Nat) : Hdr := ⟨t.toNat / 64, decide (t.toNat / 32 % 2 = 1), t.toNat % 32, n⟩

@[simp] theorem hdrOf_len (t : Byte) (n : Nat) : (hdrOf t n).len = n := rfl
@[simp] theorem hdrOf_tag (t : Byte) (n : Nat) : (hdrOf t n).tag = t.toNat % 32 := rfl

theorem tlv_cons (t : Byte) (c rest : Bytes) : tlv t c ++ rest = t :: (Spec.DER.encLen c.length ++ (c ++ rest)) := by
  simp [tlv, Spec.DER.tlv]

theorem tlv_length (t : Byte) (c : Bytes) : c.length + 2 ≤ (tlv t c).length := by
  simp only [tlv, Spec.DER.tlv, Spec.DER.encLen, List.length_cons, List.length_append]
  split <;> simp <;> omega

theorem readHeader_tlv (t : Byte) (c rest : Bytes) (ht : t.toNat % 32 ≠ 31) (hc : c.length < 2 ^ 31) :
    readHeader (tlv t c ++ rest) = some (hdrOf t c.length, c ++ rest) := by
  rw [tlv_cons]
  simp only [readHeader, readTag, if_neg ht, der_len_roundtrip _ hc, hdrOf]

/-- What `appendTagAndLength` + content writes for a low tag number and a content shorter than
    2^31 bytes, `asn1.Unmarshal` into a RawValue reads back: same class / constructed bit / number, the content,
    and the bytes that follow are left over. -/
theorem tlv_roundtrip (t : Byte) (c rest : Bytes) (ht : t.toNat % 32 ≠ 31) (hc : c.length < 2 ^ 31) :
    readRaw (tlv t c ++ rest) = some (hdrOf t c.length, c, rest) := by
  simp only [readRaw, readHeader_tlv t c rest ht hc, hdrOf, List.length_append]
  rw [if_neg (by omega)]
  simp

theorem b128Aux_acc (f m : Nat) (acc : Bytes) : b128Aux f m acc = b128Aux f m [] ++ acc := by
  induction f generalizing m acc with
  | zero => simp [b128Aux]
  | succ f ih =>
    unfold b128Aux
    split
    · simp
    · rw [ih (m / 128) (_ :: acc), ih (m / 128) [_]]; simp

theorem b128Aux_succ (f m : Nat) (h : m ≠ 0) :
    b128Aux (f + 1) m [] = b128Aux f (m / 128) [] ++ [BitVec.ofNat 8 (128 + m % 128)] := by
  rw [b128Aux, if_neg h, b128Aux_acc]

theorem b128Aux_length_zero (f m : Nat) (h : m < 128 ^ f) (h0 : (b128Aux f m []).length = 0) : m = 0 := by
  cases f with
  | zero => simpa using h
  | succ f =>
    refine Classical.byContradiction fun hm => ?_
    rw [b128Aux_succ f m hm] at h0
    simp at h0

/-- one continuation octet per base-128 digit -/
theorem b128Aux_length_le (f m k : Nat) (h : m < 128 ^ k) : (b128Aux f m []).length ≤ k := by
  induction f generalizing m k with
  | zero => simp [b128Aux]
  | succ f ih =>
    by_cases hm : m = 0
    · simp [b128Aux, hm]
    · cases k with
      | zero => simp at h; omega
      | succ k =>
        have := ih (m / 128) k (by rw [Nat.pow_succ] at h; omega)
        rw [b128Aux_succ f m hm, List.length_append]
        simpa using this

theorem decSubids_cons (s r : Nat) (b : Byte) (bs : Bytes) :
    decSubids s r (b :: bs) =
      if s = 5 then none
      else if s = 0 ∧ b.toNat = 128 then none
      else if b.toNat < 128 then
        (if r * 128 + b.toNat % 128 > maxInt32 then none
         else match decSubids 0 0 bs with | none => none | some l => some ((r * 128 + b.toNat % 128) :: l))
      else decSubids (s + 1) (r * 128 + b.toNat % 128) bs := by
  cases s <;> (simp only [decSubids]; rfl)

theorem readBase128_cons (s r : Nat) (b : Byte) (bs : Bytes) :
    readBase128 s r (b :: bs) =
      if s = 5 then none
      else if s = 0 ∧ b.toNat = 128 then none
      else if b.toNat < 128 then (if r * 128 + b.toNat % 128 > maxInt32 then none else some (r * 128 + b.toNat % 128, bs))
      else readBase128 (s + 1) (r * 128 + b.toNat % 128) bs := by
  rw [readBase128]

theorem decSubids_five (r : Nat) (t : Bytes) : decSubids 5 r t = none := by
  cases t <;> simp [decSubids]

/-- from a fresh integer the continuation octets of `m` take `parseBase128Int` to counter = their number and
    accumulator = `m`; a counter that reaches 5 is refused whatever follows -/
theorem decSubids_hi (f m : Nat) (tail : Bytes) (hm : m < 128 ^ f) :
    decSubids 0 0 (b128Aux f m [] ++ tail) =
      if (b128Aux f m []).length < 5 then decSubids (b128Aux f m []).length m tail else none := by
  induction f generalizing m tail with
  | zero =>
    obtain rfl : m = 0 := by simpa using hm
    rfl
  | succ f ih =>
    by_cases h0 : m = 0
    · subst h0; rfl
    · have hq : m / 128 < 128 ^ f := by rw [Nat.pow_succ] at hm; omega
      rw [b128Aux_succ f m h0, List.append_assoc, ih (m / 128) _ hq, List.length_append, List.length_singleton]
      by_cases h5 : (b128Aux f (m / 128) []).length < 5
      · -- the first octet is not 0x80: no octets before this one means `m < 128`, and `m ≠ 0`
        have h00 : ¬ ((b128Aux f (m / 128) []).length = 0 ∧ 128 + m % 128 = 128) := fun hc => by
          have := b128Aux_length_zero f (m / 128) hq hc.1
          omega
        rw [if_pos h5, List.cons_append, List.nil_append, decSubids_cons, toNat_ofNat8 _ (by omega),
          if_neg (by omega), if_neg h00, if_neg (by omega),
          show m / 128 * 128 + (128 + m % 128) % 128 = m by omega]
        split
        · rfl
        · rw [show (b128Aux f (m / 128) []).length + 1 = 5 by omega, decSubids_five]
      · rw [if_neg h5, if_neg (by omega)]

theorem encBase128_eq (n : Nat) : encBase128 n = b128Aux 9 (n / 128) [] ++ [BitVec.ofNat 8 (n % 128)] := by
  unfold encBase128; rw [b128Aux_acc]

/-- what `parseObjectIdentifier` makes of a subidentifier written by `appendBase128Int` (an int64; nine
    continuation octets cover n < 2^70): at most MaxInt32 is read back and the loop goes on with a fresh integer,
    anything larger is refused — by the counter from 2^35 on, by the comparison with MaxInt32 below that -/
theorem decSubids_encBase128 (n : Nat) (h : n < 2 ^ 70) (tail : Bytes) :
    decSubids 0 0 (encBase128 n ++ tail) =
      if n > maxInt32 then none else match decSubids 0 0 tail with | none => none | some l => some (n :: l) := by
  rw [encBase128_eq, List.append_assoc, decSubids_hi 9 (n / 128) _ (by omega)]
  by_cases h5 : (b128Aux 9 (n / 128) []).length < 5
  · rw [if_pos h5, List.cons_append, List.nil_append, decSubids_cons, toNat_ofNat8 _ (by omega),
      if_neg (by omega), if_neg (by omega), if_pos (by omega), show n / 128 * 128 + n % 128 % 128 = n by omega]
  · rw [if_neg h5, if_pos]
    refine Nat.lt_of_not_le fun hn => h5 ?_
    have := b128Aux_length_le 9 (n / 128) 4 (by unfold maxInt32 at hn; omega)
    omega

/-- For every subidentifier the parser can return (n ≤ MaxInt32), the octets `appendBase128Int` writes are read
    back by `parseBase128Int` as n, and the loop of `parseObjectIdentifier` continues with a fresh integer on what
    follows. -/
theorem oid_subid_roundtrip (n : Nat) (h : n ≤ maxInt32) (tail : Bytes) :
    decSubids 0 0 (encBase128 n ++ tail) =
      match decSubids 0 0 tail with | none => none | some l => some (n :: l) := by
  rw [decSubids_encBase128 n (by unfold maxInt32 at h; omega), if_neg (by omega)]

/-- Every larger subidentifier that `appendBase128Int` can be given (an int64; the model covers n < 2^70) is
    written and then refused by the parser ("base 128 integer too large"): the package cannot read back an OID
    with an arc above MaxInt32 that it wrote itself. -/
theorem oid_subid_too_large (n : Nat) (h : maxInt32 < n) (h2 : n < 2 ^ 70) (tail : Bytes) :
    decSubids 0 0 (encBase128 n ++ tail) = none := by
  rw [decSubids_encBase128 n h2, if_pos h]

theorem decSubids_list (l : List Nat) (h : ∀ n ∈ l, n ≤ maxInt32) (tail : Bytes) :
    decSubids 0 0 ((l.map encBase128).flatten ++ tail) = (decSubids 0 0 tail).map (l ++ ·) := by
  induction l with
  | nil => simp
  | cons n rest ih =>
    simp only [List.map_cons, List.flatten_cons, List.append_assoc]
    rw [oid_subid_roundtrip n (h n (by simp)), ih (fun x hx => h x (by simp [hx]))]
    cases decSubids 0 0 tail <;> rfl

/-- the OIDs that survive a round trip: at least two arcs, first ≤ 2, second < 40 under 0 and 1
    (`makeObjectIdentifier`), and 40·first + second as well as every later arc at most MaxInt32 (the parser) -/
def wfOID : OID → Bool
  | a :: b :: rest => decide (a ≤ 2) && (decide (a = 2) || decide (b < 40)) && decide (40 * a + b ≤ maxInt32) &&
      rest.all (fun n => decide (n ≤ maxInt32))
  | _ => false

theorem encOID_cons (a b : Nat) (rest : List Nat) (ha : a ≤ 2) (hb : a = 2 ∨ b < 40) (hv : 40 * a + b ≤ maxInt32) :
    encOID (a :: b :: rest) = some (encBase128 (40 * a + b) ++ (rest.map encBase128).flatten) := by
  simp only [encOID, encFirstSubid]
  rw [if_neg (by omega), if_pos (by unfold maxInt32 at hv; omega)]

theorem decOID_encBase128 (v : Nat) (hv : v ≤ maxInt32) (tail : Bytes) :
    decOID (encBase128 v ++ tail) =
      (decSubids 0 0 tail).map fun l => (if v < 80 then [v / 40, v % 40] else [2, v - 80]) ++ l := by
  have hne : encBase128 v ++ tail ≠ [] := by simp [encBase128_eq]
  unfold decOID
  split
  · contradiction
  · rw [oid_subid_roundtrip v hv]
    cases decSubids 0 0 tail <;> rfl

/-- arcs after a well-formed beginning are written whatever they are; reading gives the beginning back and
    then what the subidentifier loop makes of the rest -/
theorem decOID_encOID_append (a b : Nat) (pre post : List Nat) (h : wfOID (a :: b :: pre) = true) :
    ∃ c, encOID (a :: b :: (pre ++ post)) = some c ∧
      decOID c = (decSubids 0 0 (post.map encBase128).flatten).map (a :: b :: pre ++ ·) := by
  simp only [wfOID, Bool.and_eq_true, Bool.or_eq_true, decide_eq_true_eq, List.all_eq_true] at h
  obtain ⟨⟨⟨ha, hb⟩, hv⟩, hr⟩ := h
  refine ⟨_, encOID_cons a b _ ha hb hv, ?_⟩
  rw [decOID_encBase128 _ hv, List.map_append, List.flatten_append, decSubids_list pre hr, Option.map_map]
  by_cases h80 : 40 * a + b < 80
  · have hb : b < 40 := by omega
    rw [if_pos h80, Nat.mul_add_div (by decide), Nat.mul_add_mod, Nat.div_eq_of_lt hb, Nat.mod_eq_of_lt hb]
    rfl
  · obtain rfl : a = 2 := by omega
    rw [if_neg h80, show 40 * 2 + b - 80 = b by omega]
    rfl

/-- `parseObjectIdentifier` inverts `makeObjectIdentifier` + `oidEncoder` on these OIDs
    (incl. the first-octet corners 2.39 = 0x77, 2.40 = 0x78, 2.999 = 0x88 0x37). -/
theorem oid_roundtrip (oid : OID) (h : wfOID oid = true) : ∃ c, encOID oid = some c ∧ decOID c = some oid := by
  match oid, h with
  | a :: b :: rest, h =>
    simpa [decSubids] using decOID_encOID_append a b rest [] h

/-- a list of (identifier octet, content) written one after the other -/
def encItems (items : List (Byte × Bytes)) : Bytes := (items.map (fun p => tlv p.1 p.2)).flatten

def lowShort (p : Byte × Bytes) : Prop := p.1.toNat % 32 ≠ 31 ∧ p.2.length < 2 ^ 31

theorem encItems_cons (p : Byte × Bytes) (rest : List (Byte × Bytes)) :
    encItems (p :: rest) = tlv p.1 p.2 ++ encItems rest := by simp [encItems]

theorem encItems_append (a b : List (Byte × Bytes)) : encItems (a ++ b) = encItems a ++ encItems b := by
  simp [encItems]

theorem encItems_length (items : List (Byte × Bytes)) : 2 * items.length ≤ (encItems items).length := by
  induction items with
  | nil => simp [encItems]
  | cons p rest ih =>
    rw [encItems_cons, List.length_append, List.length_cons]
    have := tlv_length p.1 p.2
    omega

theorem elems_items (items : List (Byte × Bytes)) (f : Nat) (hf : items.length ≤ f) (hw : ∀ p ∈ items, lowShort p) :
    elems f (encItems items) = some (items.map (fun p => (hdrOf p.1 p.2.length, p.2))) := by
  induction items generalizing f with
  | nil => cases f <;> simp [encItems, elems]
  | cons p rest ih =>
    cases f with
    | zero => simp at hf
    | succ f =>
      have hp := hw p (by simp)
      rw [encItems_cons, tlv_cons]
      simp only [elems]
      rw [← tlv_cons, tlv_roundtrip p.1 p.2 _ hp.1 hp.2]
      simp only
      rw [ih f (by simp at hf; omega) (fun q hq => hw q (by simp [hq]))]
      simp

theorem seqOf_items (expected : Hdr → Bool) (items : List (Byte × Bytes)) (hw : ∀ p ∈ items, lowShort p)
    (he : ∀ p ∈ items, expected (hdrOf p.1 p.2.length) = true) :
    seqOf expected (encItems items) = some (items.map (·.2)) := by
  unfold seqOf
  rw [elems_items items _ (by have := encItems_length items; omega) hw]
  simp only [List.all_map, List.map_map]
  rw [if_pos (by exact List.all_eq_true.mpr he)]
  rfl

theorem topLevel_tlv (expected : Hdr → Bool) (t : Byte) (c : Bytes) (ht : t.toNat % 32 ≠ 31) (hc : c.length < 2 ^ 31)
    (he : expected (hdrOf t c.length) = true) : topLevel expected (tlv t c) = some c := by
  have h := readHeader_tlv t c [] ht hc
  rw [List.append_nil, List.append_nil] at h
  simp [topLevel, h, he]

theorem topLevel_trailing (expected : Hdr → Bool) (t : Byte) (c rest : Bytes) (ht : t.toNat % 32 ≠ 31) (hc : c.length < 2 ^ 31)
    (hr : rest ≠ []) : topLevel expected (tlv t c ++ rest) = none := by
  simp only [topLevel, readHeader_tlv t c rest ht hc]
  split
  · rfl
  · simp [hr]

theorem optField_nil (expected : Hdr → Bool) : optField expected [] = some (none, []) := rfl

theorem optField_tlv (expected : Hdr → Bool) (t : Byte) (c rest : Bytes) (ht : t.toNat % 32 ≠ 31) (hc : c.length < 2 ^ 31)
    (he : expected (hdrOf t c.length) = true) : optField expected (tlv t c ++ rest) = some (some c, rest) := by
  have h := readHeader_tlv t c rest ht hc
  rw [tlv_cons] at h ⊢
  simp [optField, h, he]

theorem optField_other (expected : Hdr → Bool) (t : Byte) (c rest : Bytes) (ht : t.toNat % 32 ≠ 31) (hc : c.length < 2 ^ 31)
    (he : expected (hdrOf t c.length) = false) : optField expected (tlv t c ++ rest) = some (none, tlv t c ++ rest) := by
  have h := readHeader_tlv t c rest ht hc
  rw [tlv_cons] at h ⊢
  simp [optField, h, he]

theorem optField_tlv_only (expected : Hdr → Bool) (t : Byte) (c : Bytes) (ht : t.toNat % 32 ≠ 31) (hc : c.length < 2 ^ 31)
    (he : expected (hdrOf t c.length) = true) : optField expected (tlv t c) = some (some c, []) := by
  have h := optField_tlv expected t c [] ht hc he
  rwa [List.append_nil] at h

theorem allSome_map_some {α β : Type} (f : α → Option β) (g : α → β) (l : List α) (h : ∀ a ∈ l, f a = some (g a)) :
    allSome (l.map f) = some (l.map g) := by
  induction l with
  | nil => rfl
  | cons a rest ih =>
    simp only [List.map_cons, allSome, h a (by simp)]
    rw [ih (fun x hx => h x (by simp [hx]))]

theorem encItems_mem_length (items : List (Byte × Bytes)) (p : Byte × Bytes) (hp : p ∈ items) :
    p.2.length + 2 ≤ (encItems items).length := by
  induction items with
  | nil => cases hp
  | cons q rest ih =>
    rw [encItems_cons, List.length_append]
    rcases List.mem_cons.mp hp with h | h
    · subst h; have := tlv_length p.1 p.2; omega
    · have := ih h; omega

theorem encItems_lowShort (items : List (Byte × Bytes)) (ht : ∀ p ∈ items, p.1.toNat % 32 ≠ 31)
    (hb : (encItems items).length < 2 ^ 31) : ∀ p ∈ items, lowShort p :=
  fun p hp => ⟨ht p hp, by have := encItems_mem_length items p hp; omega⟩

/-- a SEQUENCE OF written element by element under the identifier octet `t` is split into the contents again,
    and an element parser that inverts `content` on each of them gives the list back -/
theorem seqOf_map {α β : Type} (expected : Hdr → Bool) (t : Byte) (content : α → Bytes) (parse : Bytes → Option β)
    (g : α → β) (xs : List α) (ht : t.toNat % 32 ≠ 31) (he : ∀ n, expected (hdrOf t n) = true)
    (hb : (encItems (xs.map fun x => (t, content x))).length < 2 ^ 31)
    (hp : ∀ x ∈ xs, (content x).length < 2 ^ 31 → parse (content x) = some (g x)) :
    seqOf expected (encItems (xs.map fun x => (t, content x))) = some (xs.map content) ∧
      allSome ((xs.map content).map parse) = some (xs.map g) := by
  have hw := encItems_lowShort _ (by intro p hp; obtain ⟨x, _, rfl⟩ := List.mem_map.mp hp; exact ht) hb
  constructor
  · rw [seqOf_items expected _ hw (by intro p hp; obtain ⟨x, _, rfl⟩ := List.mem_map.mp hp; exact he _), List.map_map]
    rfl
  · rw [List.map_map]
    exact allSome_map_some _ g xs (fun x hx => hp x hx (hw _ (List.mem_map_of_mem hx)).2)

end Props.C09Names
