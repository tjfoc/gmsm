/-
The BER reader of `Model.BER` (x509/ber.go), one step at a time.  `readObject` and `readItems` are mutually
recursive on fuel; here one step of each is described once, and everything else about them is derived from that.
The namespace is `Props.C18`: this is the common ground of C18, C18Linear, C18Output, C17Idem and C18Empty.

`readObject (f + 1)` is the `header` at the offset (identifier and length octets, `Hdr`) followed by `body` (bounds
and depth checks, then the primitive, or the constructed object around the result of the item loop with fuel `f`):
`readObject_succ`.  `readItems (f + 1)` is `itemsK`: the `loopTest`, one member, the rest (`readItems_succ`).
Forwards, `body_prim` / `body_cons` / `body_tooDeep` and `readItems_stop` / `readItems_member` compute a step;
backwards, `readObject_ok_cases` / `readItems_ok_cases` invert a successful one, and `parse_induction` is the
induction over a successful parse they give.  No step but the recursive calls reports `fuel` (`body_ne_fuel`,
`itemsK_ne_fuel`), and a step whose recursive calls are `Stable` under more fuel is so itself (`body_stable`,
`itemsK_stable`).
-/
import Gmsm.Model.BER
namespace Props.C18
open Gmsm Model.BER

theorem getElem?_some_lt {ber : Bytes} {off : Nat} {b : Byte} (h : ber[off]? = some b) : off < ber.length :=
  (List.getElem?_eq_some_iff.mp h).1

theorem drop_of_getElem? {ber : Bytes} {off : Nat} {b : Byte} (h : ber[off]? = some b) :
    ber.drop off = b :: ber.drop (off + 1) := by
  rw [List.drop_eq_getElem_cons (getElem?_some_lt h)]
  congr 1
  exact Option.some.inj ((List.getElem?_eq_getElem _).symm.trans h)

/-- What the identifier and length octets of one object say: leading octet `b`, identifier octets
    `[off, tagEnd)`, content announced as `[o2, o2 + len)`, `ind` for the length octet `80`. -/
structure Hdr where
  b : Byte
  tagEnd : Nat
  len : Nat
  o2 : Nat
  ind : Bool

abbrev Hdr.cons (h : Hdr) : Prop := (h.b.toNat / 32) % 2 = 1

def Hdr.tag (h : Hdr) (ber : Bytes) (off : Nat) : Bytes := (ber.drop off).take (h.tagEnd - off)

/-- the part of `readObject` before the bounds checks: identifier octets, then length octets -/
def header (ber : Bytes) (off : Nat) : Except Err Hdr :=
  match ber[off]? with
  | none => .error .truncated
  | some b =>
    match (if b.toNat % 32 = 0x1F then readTag (ber.length + 1) ber (off + 1) else .ok (off + 1)) with
    | .error e => .error e
    | .ok tagEnd =>
      match ber[tagEnd]? with
      | none => .error .truncated
      | some l =>
        match readLength ber (tagEnd + 1) l with
        | .error e => .error e
        | .ok (len, o2, ind) => .ok ⟨b, tagEnd, len, o2, ind⟩

/-- the part of `readObject` after the header, `items` being the result of the item loop over the content -/
def body (ber : Bytes) (off d : Nat) (h : Hdr) (items : Except Err (List Obj × Nat)) : Except Err (Obj × Nat) :=
  if h.o2 + h.len > ber.length then .error .beyondData
  else if h.ind ∧ ¬ h.cons then .error .indefinitePrimitive
  else if ¬ h.cons then .ok (.prim (h.tag ber off) ((ber.drop h.o2).take h.len), h.o2 + h.len)
  else if d ≥ maxBERDepth then .error .tooDeep
  else items.bind fun (items, e1) => .ok (.cons (h.tag ber off) items, if h.ind then e1 + 2 else h.o2 + h.len)

theorem readObject_succ (f : Nat) (ber : Bytes) (off d : Nat) :
    readObject (f + 1) ber off d = (header ber off).bind fun h =>
      body ber off d h (readItems f ber h.o2 (h.o2 + h.len) h.ind (d + 1)) := by
  rw [readObject]; unfold header
  cases ber[off]? with
  | none => rfl
  | some b =>
    dsimp only
    cases (if b.toNat % 32 = 0x1F then readTag (ber.length + 1) ber (off + 1) else .ok (off + 1)) with
    | error e => rfl
    | ok tagEnd =>
      dsimp only
      cases ber[tagEnd]? with
      | none => rfl
      | some l =>
        dsimp only
        cases readLength ber (tagEnd + 1) l with
        | error e => rfl
        | ok r =>
          obtain ⟨len, o2, ind⟩ := r
          dsimp only [Except.bind, body, Hdr.tag]
          cases readItems f ber o2 (o2 + len) ind (d + 1) with
          | error e => rfl
          | ok r => rfl

/-- the loop test of `readItems` at `off`: `some r` when the loop ends there with `r`, `none` when a member follows -/
def loopTest (ber : Bytes) (off ce : Nat) (ind : Bool) : Option (Except Err (List Obj × Nat)) :=
  if ind then
    if ber.length - off < 2 then some (.error .invalid)
    else if ber.getD off 1 = 0 ∧ ber.getD (off + 1) 1 = 0 then some (.ok ([], off))
    else none
  else if ¬ (off < ce) then some (.ok ([], off))
  else none

/-- one iteration of the `readItems` loop, the two recursive calls abstracted -/
def itemsK (O : Nat → Except Err (Obj × Nat)) (I : Nat → Except Err (List Obj × Nat))
    (ber : Bytes) (off ce : Nat) (ind : Bool) : Except Err (List Obj × Nat) :=
  match loopTest ber off ce ind with
  | some r => r
  | none => (O off).bind fun (o, e1) =>
      if ind = false ∧ e1 > ce then .error .beyondParent
      else (I e1).bind fun (os, e) => .ok (o :: os, e)

theorem readItems_succ (f : Nat) (ber : Bytes) (off ce : Nat) (ind : Bool) (d : Nat) :
    readItems (f + 1) ber off ce ind d
      = itemsK (fun o => readObject f ber o d) (fun o => readItems f ber o ce ind d) ber off ce ind := by
  rw [readItems]; unfold itemsK loopTest
  cases ind with
  | true =>
    simp only [if_true]
    by_cases h1 : ber.length - off < 2
    · rw [if_pos h1, if_pos h1]
    · rw [if_neg h1, if_neg h1]
      by_cases h2 : ber.getD off 1 = 0 ∧ ber.getD (off + 1) 1 = 0
      · rw [if_pos h2, if_pos h2]
      · rw [if_neg h2, if_neg h2]
        cases readObject f ber off d with
        | error e => rfl
        | ok r =>
          obtain ⟨o, e1⟩ := r
          dsimp only [Except.bind]
          rw [if_neg (fun h => Bool.noConfusion h.1)]
          cases readItems f ber e1 ce true d <;> rfl
  | false =>
    simp only [Bool.false_eq_true, if_false]
    by_cases h1 : ¬ off < ce
    · rw [if_pos h1, if_pos h1]
    · rw [if_neg h1, if_neg h1]
      cases readObject f ber off d with
      | error e => rfl
      | ok r =>
        obtain ⟨o, e1⟩ := r
        dsimp only [Except.bind]
        by_cases h2 : e1 > ce
        · rw [if_pos h2, if_pos ⟨trivial, h2⟩]
        · rw [if_neg h2, if_neg (fun h => h2 h.2)]
          cases readItems f ber e1 ce false d <;> rfl

theorem readTag_bounds : ∀ (fuel : Nat) (ber : Bytes) (off e : Nat),
    readTag fuel ber off = .ok e → off + 1 ≤ e ∧ e ≤ ber.length := by
  intro fuel
  induction fuel with
  | zero => intro ber off e h; simp [readTag] at h
  | succ f ih =>
    intro ber off e h
    rw [readTag] at h
    split at h
    · cases h
    · rename_i b hb
      have hlt := getElem?_some_lt hb
      split at h
      · have := ih ber (off + 1) e h
        omega
      · injection h with h
        omega

theorem guard_eq_ok {α : Type} {c : Prop} [Decidable c] {e : Err} {x : Except Err α} {a : α} :
    (if c then .error e else x) = .ok a ↔ ¬ c ∧ x = .ok a := by
  by_cases h : c
  · rw [if_pos h]; exact ⟨nofun, fun h' => absurd h h'.1⟩
  · rw [if_neg h]; exact ⟨fun h' => ⟨h, h'⟩, fun h' => h'.2⟩

/-- The three ways `readLength` succeeds: the short form, the octet `80` (indefinite), and the long form of
    `l % 128 ≤ 4` octets inside the input, not negative as a Go `int32`-sized length, no leading zero octet. -/
theorem readLength_eq_ok {ber : Bytes} {off : Nat} {l : Byte} {r : Nat × Nat × Bool} :
    readLength ber off l = .ok r ↔
      (l.toNat < 0x80 ∧ r = (l.toNat, off, false)) ∨ (l.toNat = 0x80 ∧ r = (0, off, true)) ∨
      (0x80 < l.toNat ∧ l.toNat % 128 ≤ 4 ∧ off + l.toNat % 128 ≤ ber.length ∧
        ¬ (l.toNat % 128 = 4 ∧ 0x7F < (ber.getD off 0).toNat) ∧ (ber.getD off 0).toNat ≠ 0 ∧
        r = (os2ip ((ber.drop off).take (l.toNat % 128)), off + l.toNat % 128, false)) := by
  unfold readLength
  dsimp only
  by_cases h : l.toNat > 0x80
  · rw [if_pos h, guard_eq_ok, guard_eq_ok, guard_eq_ok, guard_eq_ok, Except.ok.injEq]
    constructor
    · rintro ⟨h1, h2, h3, h4, rfl⟩
      exact .inr (.inr ⟨h, Nat.le_of_not_gt h1, Nat.le_of_not_gt h2, h3, h4, rfl⟩)
    · rintro (⟨h', _⟩ | ⟨h', _⟩ | ⟨_, h1, h2, h3, h4, rfl⟩)
      · omega
      · omega
      · exact ⟨Nat.not_lt_of_le h1, Nat.not_lt_of_le h2, h3, h4, rfl⟩
  · rw [if_neg h]
    by_cases h' : l.toNat = 0x80
    · rw [if_pos h', Except.ok.injEq]
      constructor
      · rintro rfl; exact .inr (.inl ⟨h', rfl⟩)
      · rintro (⟨_, _⟩ | ⟨_, rfl⟩ | ⟨_, _⟩)
        · omega
        · rfl
        · omega
    · rw [if_neg h', Except.ok.injEq]
      constructor
      · rintro rfl; exact .inl ⟨by omega, rfl⟩
      · rintro (⟨_, rfl⟩ | ⟨_, _⟩ | ⟨_, _⟩)
        · rfl
        · omega
        · omega

theorem readLength_bounds {ber : Bytes} {off : Nat} {l : Byte} {len off2 : Nat} {ind : Bool}
    (h : readLength ber off l = .ok (len, off2, ind)) : off ≤ off2 := by
  rcases readLength_eq_ok.mp h with ⟨_, h⟩ | ⟨_, h⟩ | ⟨_, _, _, _, _, h⟩
  all_goals cases h
  · exact Nat.le_refl _
  · exact Nat.le_refl _
  · exact Nat.le_add_right _ _

theorem readLength_indef (ber : Bytes) (off : Nat) : readLength ber off 0x80 = .ok (0, off, true) :=
  readLength_eq_ok.mpr (.inr (.inl ⟨rfl, rfl⟩))

theorem getD_append_right (pre x : Bytes) (i : Nat) (dflt : Byte) :
    (pre ++ x).getD (pre.length + i) dflt = x.getD i dflt := by
  simp [List.getD_eq_getElem?_getD, List.getElem?_append_right]

theorem readLength_shift {b : Bytes} {off : Nat} {l : Byte} {n off2 : Nat} {ind : Bool} (pre : Bytes)
    (h : readLength b off l = .ok (n, off2, ind)) :
    readLength (pre ++ b) (pre.length + off) l = .ok (n, pre.length + off2, ind) := by
  rw [readLength_eq_ok] at h ⊢
  rw [getD_append_right, ← List.drop_drop, List.drop_left, List.length_append]
  rcases h with ⟨hl, h⟩ | ⟨hl, h⟩ | ⟨hl, h1, h2, h3, h4, h⟩
  all_goals cases h
  · exact .inl ⟨hl, rfl⟩
  · exact .inr (.inl ⟨hl, rfl⟩)
  · exact .inr (.inr ⟨hl, h1, by omega, h3, h4, by rw [Nat.add_assoc]⟩)

theorem header_eq_ok {ber : Bytes} {off : Nat} {hd : Hdr} : header ber off = .ok hd ↔
    ber[off]? = some hd.b ∧
    (if hd.b.toNat % 32 = 0x1F then readTag (ber.length + 1) ber (off + 1) else .ok (off + 1)) = .ok hd.tagEnd ∧
    ∃ l, ber[hd.tagEnd]? = some l ∧ readLength ber (hd.tagEnd + 1) l = .ok (hd.len, hd.o2, hd.ind) := by
  unfold header
  constructor
  · intro h
    split at h
    · cases h
    · rename_i hb
      split at h
      · cases h
      · rename_i ht
        split at h
        · cases h
        · rename_i l hl
          split at h
          · cases h
          · rename_i hlen
            cases h
            exact ⟨hb, ht, l, hl, hlen⟩
  · rintro ⟨hb, ht, l, hl, hlen⟩
    simp only [hb, ht, hl, hlen]

theorem header_bounds {ber : Bytes} {off : Nat} {hd : Hdr} (h : header ber off = .ok hd) :
    off + 1 ≤ hd.tagEnd ∧ hd.tagEnd < ber.length ∧ hd.tagEnd + 1 ≤ hd.o2 := by
  obtain ⟨_, ht, l, hl, hlen⟩ := header_eq_ok.mp h
  refine ⟨?_, getElem?_some_lt hl, readLength_bounds hlen⟩
  split at ht
  · have := readTag_bounds _ _ _ _ ht; omega
  · injection ht with ht; omega

theorem body_prim {ber : Bytes} {off d : Nat} {hd : Hdr} {x : Except Err (List Obj × Nat)}
    (hce : hd.o2 + hd.len ≤ ber.length) (hc : ¬ hd.cons) (hi : hd.ind = false) :
    body ber off d hd x = .ok (.prim (hd.tag ber off) ((ber.drop hd.o2).take hd.len), hd.o2 + hd.len) := by
  unfold body
  rw [if_neg (by omega), if_neg (by simp [hi]), if_pos hc]

theorem body_cons {ber : Bytes} {off d : Nat} {hd : Hdr} (x : Except Err (List Obj × Nat))
    (hce : hd.o2 + hd.len ≤ ber.length) (hc : hd.cons) (hd' : d < maxBERDepth) :
    body ber off d hd x
      = x.bind fun (items, e1) => .ok (.cons (hd.tag ber off) items, if hd.ind then e1 + 2 else hd.o2 + hd.len) := by
  unfold body
  rw [if_neg (by omega), if_neg (by simp [hc]), if_neg (by simp [hc]), if_neg (by omega)]

theorem body_tooDeep {ber : Bytes} {off d : Nat} {hd : Hdr} (x : Except Err (List Obj × Nat))
    (hce : hd.o2 + hd.len ≤ ber.length) (hc : hd.cons) (hd' : d ≥ maxBERDepth) :
    body ber off d hd x = .error .tooDeep := by
  unfold body
  rw [if_neg (by omega), if_neg (by simp [hc]), if_neg (by simp [hc]), if_pos hd']

theorem loopTest_def (ber : Bytes) (off ce : Nat) :
    loopTest ber off ce false = if off < ce then none else some (.ok ([], off)) := by
  unfold loopTest
  by_cases h : off < ce
  · rw [if_neg nofun, if_neg (not_not_intro h), if_pos h]
  · rw [if_neg nofun, if_pos h, if_neg h]

theorem loopTest_indef {ber : Bytes} {off : Nat} (ce : Nat) (h : off + 2 ≤ ber.length) :
    loopTest ber off ce true
      = if ber.getD off 1 = 0 ∧ ber.getD (off + 1) 1 = 0 then some (.ok ([], off)) else none := by
  unfold loopTest
  rw [if_pos rfl, if_neg (by omega)]

theorem loopTest_eoc (pre rest : Bytes) (ce : Nat) :
    loopTest (pre ++ 0 :: 0 :: rest) pre.length ce true = some (.ok ([], pre.length)) := by
  rw [loopTest_indef _ (by simp only [List.length_append, List.length_cons]; omega), if_pos]
  exact ⟨getD_append_right pre _ 0 1, getD_append_right pre _ 1 1⟩

theorem loopTest_member {pre tail : Bytes} (ce : Nat) (hlen : 2 ≤ tail.length)
    (h : ¬ (tail.getD 0 1 = 0 ∧ tail.getD 1 1 = 0)) : loopTest (pre ++ tail) pre.length ce true = none := by
  rw [loopTest_indef _ (by rw [List.length_append]; omega), if_neg]
  rw [← Nat.add_zero pre.length, getD_append_right, Nat.add_zero, getD_append_right]
  exact h

theorem readItems_stop {ber : Bytes} {off ce : Nat} {ind : Bool} {r : Except Err (List Obj × Nat)} (f d : Nat)
    (h : loopTest ber off ce ind = some r) : readItems (f + 1) ber off ce ind d = r := by
  rw [readItems_succ, itemsK, h]

theorem readItems_member {f : Nat} {ber : Bytes} {off ce : Nat} {ind : Bool} {d : Nat} {o : Obj} {e1 : Nat}
    {os : List Obj} {e : Nat} (h : loopTest ber off ce ind = none) (ho : readObject f ber off d = .ok (o, e1))
    (hp : ind = false → e1 ≤ ce) (hi : readItems f ber e1 ce ind d = .ok (os, e)) :
    readItems (f + 1) ber off ce ind d = .ok (o :: os, e) := by
  rw [readItems_succ, itemsK, h]
  dsimp only
  rw [ho]
  dsimp only [Except.bind]
  rw [if_neg fun hh => Nat.not_le_of_gt hh.2 (hp hh.1), hi]

theorem readItems_member_error {f : Nat} {ber : Bytes} {off ce : Nat} {ind : Bool} {d : Nat} {e : Err}
    (h : loopTest ber off ce ind = none) (ho : readObject f ber off d = .error e) :
    readItems (f + 1) ber off ce ind d = .error e := by
  rw [readItems_succ, itemsK, h]
  dsimp only
  rw [ho]
  rfl

theorem bind_eq_ok {α β : Type} {x : Except Err α} {k : α → Except Err β} {b : β} (h : x.bind k = .ok b) :
    ∃ a, x = .ok a ∧ k a = .ok b := by
  cases x with
  | error e => cases h
  | ok a => exact ⟨a, rfl, h⟩

theorem loopTest_cases (ber : Bytes) (off ce : Nat) (ind : Bool) :
    loopTest ber off ce ind = some (.error .invalid) ∨
    (loopTest ber off ce ind = some (.ok ([], off)) ∧
        (ind = true → off + 2 ≤ ber.length ∧ ber.getD off 1 = 0 ∧ ber.getD (off + 1) 1 = 0) ∧
        (ind = false → ¬ off < ce)) ∨
    (loopTest ber off ce ind = none ∧ (ind = false → off < ce) ∧
        (ind = true → off + 2 ≤ ber.length ∧ ¬ (ber.getD off 1 = 0 ∧ ber.getD (off + 1) 1 = 0))) := by
  cases ind with
  | true =>
    by_cases h1 : off + 2 ≤ ber.length
    · rw [loopTest_indef ce h1]
      by_cases h : ber.getD off 1 = 0 ∧ ber.getD (off + 1) 1 = 0
      · rw [if_pos h]; exact .inr (.inl ⟨rfl, fun _ => ⟨h1, h⟩, nofun⟩)
      · rw [if_neg h]; exact .inr (.inr ⟨rfl, nofun, fun _ => ⟨h1, h⟩⟩)
    · exact .inl (by unfold loopTest; rw [if_pos rfl, if_pos (by omega)])
  | false =>
    rw [loopTest_def]
    by_cases h : off < ce
    · rw [if_pos h]; exact .inr (.inr ⟨rfl, fun _ => h, nofun⟩)
    · rw [if_neg h]; exact .inr (.inl ⟨rfl, nofun, fun _ => h⟩)

/-- Inversion of one successful iteration of the item loop: the loop stops here (at `00 00`, or at `contentEnd`),
    or one member is read at `off` and the loop continues where it ends. -/
theorem readItems_ok_cases {f : Nat} {ber : Bytes} {off ce : Nat} {ind : Bool} {d : Nat} {os : List Obj} {e : Nat}
    (h : readItems (f + 1) ber off ce ind d = .ok (os, e)) :
    (os = [] ∧ e = off ∧
        (ind = true → off + 2 ≤ ber.length ∧ ber.getD off 1 = 0 ∧ ber.getD (off + 1) 1 = 0) ∧
        (ind = false → ¬ off < ce)) ∨
    (∃ o e1 os1, readObject f ber off d = .ok (o, e1) ∧ readItems f ber e1 ce ind d = .ok (os1, e) ∧
        os = o :: os1 ∧ (ind = false → off < ce ∧ e1 ≤ ce) ∧
        (ind = true → off + 2 ≤ ber.length ∧ ¬ (ber.getD off 1 = 0 ∧ ber.getD (off + 1) 1 = 0))) := by
  rw [readItems_succ] at h
  unfold itemsK at h
  rcases loopTest_cases ber off ce ind with ht | ⟨ht, h1, h2⟩ | ⟨ht, h1, h2⟩
  · rw [ht] at h; cases h
  · rw [ht] at h; cases h; exact .inl ⟨rfl, rfl, h1, h2⟩
  · rw [ht] at h
    obtain ⟨⟨o, e1⟩, ho, h⟩ := bind_eq_ok h
    dsimp only at h
    split at h
    · cases h
    · rename_i hp
      obtain ⟨⟨os1, e2⟩, hi, h⟩ := bind_eq_ok h
      cases h
      exact .inr ⟨o, e1, os1, ho, hi, rfl, fun hf => ⟨h1 hf, Nat.le_of_not_gt fun x => hp ⟨hf, x⟩⟩, h2⟩

/-- Inversion of one successful `readObject` call: the primitive cut out of the input or, below the depth limit,
    the constructed object around what the item loop returned. -/
theorem readObject_ok_cases {f : Nat} {ber : Bytes} {off d : Nat} {o : Obj} {e : Nat}
    (h : readObject (f + 1) ber off d = .ok (o, e)) :
    ∃ hd, header ber off = .ok hd ∧ hd.o2 + hd.len ≤ ber.length ∧
      ((¬ hd.cons ∧ hd.ind = false ∧ o = .prim (hd.tag ber off) ((ber.drop hd.o2).take hd.len) ∧ e = hd.o2 + hd.len) ∨
       (hd.cons ∧ d < maxBERDepth ∧ ∃ items e1,
          readItems f ber hd.o2 (hd.o2 + hd.len) hd.ind (d + 1) = .ok (items, e1) ∧
          o = .cons (hd.tag ber off) items ∧ e = if hd.ind then e1 + 2 else hd.o2 + hd.len)) := by
  rw [readObject_succ] at h
  obtain ⟨hd, hh, h⟩ := bind_eq_ok h
  refine ⟨hd, hh, ?_⟩
  unfold body at h
  rw [guard_eq_ok, guard_eq_ok] at h
  obtain ⟨h1, h2, h⟩ := h
  refine ⟨Nat.le_of_not_gt h1, ?_⟩
  by_cases hc : hd.cons
  · rw [if_neg (not_not_intro hc), guard_eq_ok] at h
    obtain ⟨⟨items, e1⟩, hi, h⟩ := bind_eq_ok h.2
    cases h
    exact .inr ⟨hc, Nat.lt_of_not_ge h.1, items, e1, hi, rfl, rfl⟩
  · rw [if_pos hc] at h
    cases h
    exact .inl ⟨hc, Bool.eq_false_iff.mpr fun hi => h2 ⟨hi, hc⟩, rfl, rfl⟩

/-- Induction over a successful parse: a property `PO off d o e` of the objects and `PI off ce ind d os e` of the
    member lists that `readObject` / `readItems` return holds of all of them as soon as it holds of primitives
    and of the empty list and is passed on by the two recursive steps. -/
theorem parse_induction (ber : Bytes) {PO : Nat → Nat → Obj → Nat → Prop}
    {PI : Nat → Nat → Bool → Nat → List Obj → Nat → Prop}
    (prim : ∀ {off d hd}, header ber off = .ok hd → hd.o2 + hd.len ≤ ber.length → ¬ hd.cons →
      PO off d (.prim (hd.tag ber off) ((ber.drop hd.o2).take hd.len)) (hd.o2 + hd.len))
    (cons : ∀ {f off d hd items e1}, header ber off = .ok hd → hd.o2 + hd.len ≤ ber.length → hd.cons → d < maxBERDepth →
      readItems f ber hd.o2 (hd.o2 + hd.len) hd.ind (d + 1) = .ok (items, e1) →
      PI hd.o2 (hd.o2 + hd.len) hd.ind (d + 1) items e1 →
      PO off d (.cons (hd.tag ber off) items) (if hd.ind then e1 + 2 else hd.o2 + hd.len))
    (nil : ∀ {off ce ind d}, (ind = true → off + 2 ≤ ber.length) → (ind = false → ¬ off < ce) → PI off ce ind d [] off)
    (step : ∀ {f off ce ind d o e1 os e}, readObject f ber off d = .ok (o, e1) →
      readItems f ber e1 ce ind d = .ok (os, e) → (ind = false → off < ce ∧ e1 ≤ ce) →
      PO off d o e1 → PI e1 ce ind d os e → PI off ce ind d (o :: os) e) :
    ∀ f, (∀ off d o e, readObject f ber off d = .ok (o, e) → PO off d o e) ∧
      (∀ off ce ind d os e, readItems f ber off ce ind d = .ok (os, e) → PI off ce ind d os e) := by
  intro f
  induction f with
  | zero => exact ⟨fun _ _ _ _ h => by simp [readObject] at h, fun _ _ _ _ _ _ h => by simp [readItems] at h⟩
  | succ f ih =>
    refine ⟨fun off d o e h => ?_, fun off ce ind d os e h => ?_⟩
    · obtain ⟨hd, hh, hce, ⟨hc, _, rfl, rfl⟩ | ⟨hc, hlt, items, e1, hi, rfl, rfl⟩⟩ := readObject_ok_cases h
      · exact prim hh hce hc
      · exact cons hh hce hc hlt hi (ih.2 _ _ _ _ _ _ hi)
    · rcases readItems_ok_cases h with ⟨rfl, rfl, hT, hF⟩ | ⟨o, e1, os1, ho, hi, rfl, hF, _⟩
      · exact nil (fun x => (hT x).1) hF
      · exact step ho hi hF (ih.1 _ _ _ _ ho) (ih.2 _ _ _ _ _ _ hi)

theorem ite_ne {α : Type} {c : Prop} [Decidable c] {t e x : α} (ht : t ≠ x) (he : e ≠ x) :
    (if c then t else e) ≠ x := by
  split <;> assumption

/-- the tag loop runs at most once per remaining input byte: with fuel `remaining + 1` it never gives up -/
theorem readTag_fuel : ∀ (fuel : Nat) (ber : Bytes) (off : Nat),
    ber.length - off + 1 ≤ fuel → readTag fuel ber off ≠ .error .fuel := by
  intro fuel
  induction fuel with
  | zero => intro ber off h; omega
  | succ f ih =>
    intro ber off h
    rw [readTag]
    split
    · simp
    · rename_i b hb
      have hlt := getElem?_some_lt hb
      split
      · apply ih; omega
      · simp

theorem readLength_fuel (ber : Bytes) (off : Nat) (l : Byte) : readLength ber off l ≠ .error .fuel :=
  ite_ne (ite_ne nofun (ite_ne nofun (ite_ne nofun (ite_ne nofun nofun)))) (ite_ne nofun nofun)

theorem header_ne_fuel (ber : Bytes) (off : Nat) : header ber off ≠ .error .fuel := by
  unfold header
  split
  · simp
  · rename_i b hb
    have := getElem?_some_lt hb
    split
    · rename_i e ht
      split at ht
      · intro h; injection h with h; subst h; exact readTag_fuel _ _ _ (by omega) ht
      · cases ht
    · split
      · simp
      · split
        · rename_i e hlen
          intro h; injection h with h; subst h; exact readLength_fuel _ _ _ hlen
        · simp

theorem bind_ne_fuel {α β : Type} {x : Except Err α} {k : α → Except Err β} (hx : x ≠ .error .fuel)
    (hk : ∀ a, x = .ok a → k a ≠ .error .fuel) : x.bind k ≠ .error .fuel := by
  cases x with
  | error e => intro h; injection h with h; subst h; exact hx rfl
  | ok a => exact hk a rfl

/-- `r'` is `r` computed with more fuel: the same, unless `r` ran out of fuel -/
def Stable {α : Type} (r r' : Except Err α) : Prop := r ≠ .error .fuel → r' = r

theorem Stable.bind {α β : Type} {x x' : Except Err α} {k k' : α → Except Err β} (hx : Stable x x')
    (hk : ∀ a, x = .ok a → Stable (k a) (k' a)) : Stable (x.bind k) (x'.bind k') := by
  intro h
  cases x with
  | error e => rw [hx fun h' => h (by injection h' with h'; rw [h']; rfl)]; rfl
  | ok a => rw [hx (by simp)]; exact hk a rfl h

theorem Stable.ite {α : Type} {c : Prop} [Decidable c] {t t' e e' : Except Err α} (ht : Stable t t')
    (he : Stable e e') : Stable (if c then t else e) (if c then t' else e') := by
  split
  · exact ht
  · exact he

theorem body_ne_fuel {ber : Bytes} {off d : Nat} {hd : Hdr} {items : Except Err (List Obj × Nat)}
    (h : items ≠ .error .fuel) : body ber off d hd items ≠ .error .fuel :=
  ite_ne nofun (ite_ne nofun (ite_ne nofun (ite_ne nofun (bind_ne_fuel h fun _ _ => nofun))))

theorem itemsK_ne_fuel {O : Nat → Except Err (Obj × Nat)} {I : Nat → Except Err (List Obj × Nat)} {ber : Bytes}
    {off ce : Nat} {ind : Bool} (hO : O off ≠ .error .fuel)
    (hI : ∀ o e1, O off = .ok (o, e1) → I e1 ≠ .error .fuel) : itemsK O I ber off ce ind ≠ .error .fuel := by
  unfold itemsK
  rcases loopTest_cases ber off ce ind with ht | ⟨ht, _⟩ | ⟨ht, _⟩
  · rw [ht]; nofun
  · rw [ht]; nofun
  · rw [ht]
    refine bind_ne_fuel hO fun ⟨o, e1⟩ ho => ?_
    dsimp only
    split
    · nofun
    · exact bind_ne_fuel (hI o e1 ho) (fun _ _ => nofun)

theorem body_stable {ber : Bytes} {off d : Nat} {hd : Hdr} {x x' : Except Err (List Obj × Nat)}
    (h : Stable x x') : Stable (body ber off d hd x) (body ber off d hd x') :=
  .ite (fun _ => rfl) (.ite (fun _ => rfl) (.ite (fun _ => rfl) (.ite (fun _ => rfl) (h.bind fun _ _ _ => rfl))))

theorem itemsK_stable {O O' : Nat → Except Err (Obj × Nat)} {I I' : Nat → Except Err (List Obj × Nat)}
    {ber : Bytes} {off ce : Nat} {ind : Bool} (hO : ∀ x, Stable (O x) (O' x)) (hI : ∀ x, Stable (I x) (I' x)) :
    Stable (itemsK O I ber off ce ind) (itemsK O' I' ber off ce ind) := by
  unfold itemsK
  split
  · exact fun _ => rfl
  · refine (hO off).bind fun ⟨o, e1⟩ _ => ?_
    dsimp only
    split
    · exact fun _ => rfl
    · exact (hI e1).bind fun _ _ _ => rfl

end Props.C18
