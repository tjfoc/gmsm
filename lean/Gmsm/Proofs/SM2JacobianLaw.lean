/-
The Jacobian-coordinate point operations of the SM2 curve model (`Gmsm.Model.SM2Curve`) interpreted in
Mathlib's group of points of the curve over `ZMod p`. First over the field: `jp : Jac (ZMod p) → W.Point`
(Z = 0 ↦ 0, else (X/Z², Y/Z³)), and the straight-line formulas `double`, `addGeneric`, `addMixed` compute
the group law in ALL cases in which the Go code uses them. Then for the model's `Fp` through `val`, a ring
homomorphism on the model's `+ - *` (`JValid`, `jpt`, `pointAdd_correct` for all pairs of inputs,
`addMixed_correct_J` for an accumulator neither at infinity nor equal to the affine point). Then the
conversion to and from affine coordinates and the API functions `Add`, `Double`, `IsOnCurve`.
`jmul`, `toAffine_eq_of_cross`, `enc_smul_eq_jmul` evaluate multiples of concrete points without inversions.
-/
import Gmsm.Model.SM2Curve
import Gmsm.Proofs.SM2Affine
import Gmsm.Proofs.ECFormulas

namespace Proofs.SM2Jacobian
open Spec.SM2 Model.SM2Curve Model.SM2Jac Proofs.SM2Affine
open WeierstrassCurve WeierstrassCurve.Affine
local notation "aff" => Proofs.ECFormulas.toAffine

/-- a Jacobian triple over `ZMod p` lies on the curve (no condition when Z = 0: the implementation's
    representation of the point at infinity carries arbitrary X, Y) -/
def JOn (Q : Jac F) : Prop := Q.z ≠ 0 → W.Nonsingular (aff Q).1 (aff Q).2

open Classical in
/-- the point of the Mathlib group represented by a Jacobian triple: Z = 0 ↦ 0, else (X/Z², Y/Z³) -/
noncomputable def jp (Q : Jac F) : W.Point :=
  if h : Q.z ≠ 0 ∧ W.Nonsingular (aff Q).1 (aff Q).2 then Point.some _ _ h.2 else 0

theorem jp_of_z0 {Q : Jac F} (h : Q.z = 0) : jp Q = 0 := by
  unfold jp; rw [dif_neg]; exact fun h' => h'.1 h

theorem jp_some {Q : Jac F} (hz : Q.z ≠ 0) (h : W.Nonsingular (aff Q).1 (aff Q).2) :
    jp Q = Point.some _ _ h := by
  unfold jp; rw [dif_pos ⟨hz, h⟩]

theorem JOn_of_z0 {Q : Jac F} (h : Q.z = 0) : JOn Q := fun h' => absurd h h'

theorem nonsingular_iff (x y : F) : W.Nonsingular x y ↔ W.Equation x y :=
  (equation_iff_nonsingular_of_Δ_ne_zero W_disc).symm

theorem JOn_iff (Q : Jac F) :
    JOn Q ↔ (Q.z ≠ 0 → Q.y ^ 2 = Q.x ^ 3 + (a : F) * Q.x * Q.z ^ 4 + (b : F) * Q.z ^ 6) := by
  unfold JOn
  refine imp_congr_right fun hz => ?_
  rw [nonsingular_iff, ECFormulas.equation_iff_onCurve W_short, ECFormulas.OnCurve]
  simp only [ECFormulas.toAffine]
  constructor
  · intro h; field_simp at h; linear_combination h
  · intro h; field_simp; linear_combination h

/-- doubling, all cases (Z = 0; Y = 0, a point of order 2; the tangent formula) -/
theorem double_F {Q : Jac F} (hQ : JOn Q) :
    JOn (double (a : F) Q) ∧ jp (double (a : F) Q) = jp Q + jp Q := by
  by_cases hz : Q.z = 0
  · have hz' : (double (a : F) Q).z = 0 := by rw [ECFormulas.double_z, hz, mul_zero]
    exact ⟨JOn_of_z0 hz', by rw [jp_of_z0 hz', jp_of_z0 hz, add_zero]⟩
  · have hN := hQ hz
    by_cases hy : Q.y = 0
    · have hz' : (double (a : F) Q).z = 0 := by rw [ECFormulas.double_z, hy, mul_zero, zero_mul]
      refine ⟨JOn_of_z0 hz', ?_⟩
      rw [jp_of_z0 hz', jp_some hz hN]
      symm
      apply Point.add_of_Y_eq rfl
      rw [ECFormulas.negY_eq W_short]
      simp [ECFormulas.toAffine, hy]
    · obtain ⟨hz', h', e⟩ := ECFormulas.double_point W_short two_ne_zero_F Q hz hy hN
      exact ⟨fun _ => h', by rw [jp_some hz' h', jp_some hz hN, e]⟩

/-- the generic addition formula, for two finite points that are not equal (opposite points give Z = 0) -/
theorem addGeneric_F {A B : Jac F} (hA : JOn A) (hB : JOn B) (hza : A.z ≠ 0) (hzb : B.z ≠ 0)
    (hne : ¬ (A.x * (B.z * B.z) = B.x * (A.z * A.z) ∧ A.y * (B.z * B.z * B.z) = B.y * (A.z * A.z * A.z))) :
    JOn (addGeneric A B) ∧ jp (addGeneric A B) = jp A + jp B := by
  have h1 := hA hza
  have h2 := hB hzb
  by_cases hx : B.x * A.z ^ 2 = A.x * B.z ^ 2
  · obtain ⟨hz', hor⟩ := ECFormulas.addGeneric_opposite_point A B hza hzb hx h1 h2
    refine ⟨JOn_of_z0 hz', ?_⟩
    rw [jp_of_z0 hz', jp_some hza h1, jp_some hzb h2]
    rcases hor with he | he
    · exfalso
      apply hne
      refine ⟨by linear_combination -hx, ?_⟩
      have hy := congrArg Prod.snd he
      simp only [ECFormulas.toAffine] at hy
      field_simp at hy
      linear_combination hy
    · exact he.symm
  · obtain ⟨hz', h', e⟩ := ECFormulas.addGeneric_point W_short A B hza hzb hx h1 h2
    exact ⟨fun _ => h', by rw [jp_some hz' h', jp_some hza h1, jp_some hzb h2, e]⟩

theorem jp_eq_of_cross {A B : Jac F} (hA : JOn A) (hB : JOn B) (hza : A.z ≠ 0) (hzb : B.z ≠ 0)
    (hx : A.x * (B.z * B.z) = B.x * (A.z * A.z))
    (hy : A.y * (B.z * B.z * B.z) = B.y * (A.z * A.z * A.z)) : jp A = jp B := by
  rw [jp_some hza (hA hza), jp_some hzb (hB hzb), Point.some.injEq]
  simp only [ECFormulas.toAffine]
  constructor
  · field_simp; linear_combination hx
  · field_simp; linear_combination hy

/-- mixed addition `(X1,Y1,Z1) + (x2,y2)`: correct when the accumulator is a finite point different
    from the affine point (the opposite point gives Z = 0) -/
theorem addMixed_F {A : Jac F} {x2 y2 : F} (hA : JOn A) (hza : A.z ≠ 0) (h2 : W.Nonsingular x2 y2)
    (hne : jp A ≠ Point.some x2 y2 h2) :
    JOn (addMixed A x2 y2) ∧ jp (addMixed A x2 y2) = jp A + Point.some x2 y2 h2 := by
  have h1 := hA hza
  by_cases hx : x2 * A.z ^ 2 = A.x
  · have hz' : (addMixed A x2 y2).z = 0 := by rw [ECFormulas.addMixed_z, hx, sub_self, mul_zero]
    refine ⟨JOn_of_z0 hz', ?_⟩
    rw [jp_of_z0 hz']
    rw [jp_some hza h1] at hne ⊢
    have hx' : (aff A).1 = x2 := by simp only [ECFormulas.toAffine]; rw [← hx]; field_simp
    rcases Y_eq_of_X_eq h1.left h2.left hx' with hy | hy
    · exact absurd (by rw [Point.some.injEq]; exact ⟨hx', hy⟩) hne
    · exact (Point.add_of_Y_eq hx' hy).symm
  · obtain ⟨hz', h', e⟩ := ECFormulas.addMixed_point W_short two_ne_zero_F A x2 y2 hza hx h1 h2
    exact ⟨fun _ => h', by rw [jp_some hz' h', jp_some hza h1, e]⟩


theorem neg_F {Q : Jac F} (hQ : JOn Q) :
    JOn ⟨Q.x, -Q.y, Q.z⟩ ∧ jp ⟨Q.x, -Q.y, Q.z⟩ = - jp Q := by
  by_cases hz : Q.z = 0
  · exact ⟨JOn_of_z0 hz, by rw [jp_of_z0 (Q := ⟨Q.x, -Q.y, Q.z⟩) hz, jp_of_z0 hz, neg_zero]⟩
  · have hN := hQ hz
    have e : aff ⟨Q.x, -Q.y, Q.z⟩ = ((aff Q).1, -(aff Q).2) := by
      simp only [ECFormulas.toAffine, neg_div]
    have hN' : W.Nonsingular (aff ⟨Q.x, -Q.y, Q.z⟩).1 (aff ⟨Q.x, -Q.y, Q.z⟩).2 := by
      rw [e, ← ECFormulas.negY_eq W_short (aff Q).1]
      exact (nonsingular_neg _ _).mpr hN
    refine ⟨fun _ => hN', ?_⟩
    rw [jp_some (Q := ⟨Q.x, -Q.y, Q.z⟩) hz hN', jp_some hz hN, Point.neg_some, Point.some.injEq,
      ECFormulas.negY_eq W_short, e]
    exact ⟨rfl, rfl⟩

def val (x : Fp) : F := (x.v : F)

def Red (x : Fp) : Prop := x.v < p

theorem val_add (x y : Fp) : val (x + y) = val x + val y := by
  show (((x.v + y.v) % p : Nat) : F) = (x.v : F) + (y.v : F)
  rw [ZMod.natCast_mod, Nat.cast_add]

theorem val_sub (x y : Fp) : val (x - y) = val x - val y := fsub_eq x.v y.v

theorem val_mul (x y : Fp) : val (x * y) = val x * val y := by
  show (((x.v * y.v) % p : Nat) : F) = (x.v : F) * (y.v : F)
  rw [ZMod.natCast_mod, Nat.cast_mul]

theorem val_neg (x : Fp) : val x.neg = - val x := by
  show (((p - x.v % p) % p : Nat) : F) = - (x.v : F)
  rw [ZMod.natCast_mod, Nat.cast_sub (Nat.le_of_lt (Nat.mod_lt _ p_pos)), ZMod.natCast_self,
    ZMod.natCast_mod, zero_sub]

theorem val_ofNat (n : Nat) : val (Fp.ofNat n) = (n : F) := by
  show ((n % p : Nat) : F) = _
  rw [ZMod.natCast_mod]

theorem val_mk (n : Nat) : val ⟨n⟩ = (n : F) := rfl
theorem val_fa : val fa = (a : F) := rfl
theorem val_one : val one = 1 := by show ((1 : Nat) : F) = 1; exact Nat.cast_one
theorem val_zero : val zero = 0 := by show ((0 : Nat) : F) = 0; exact Nat.cast_zero

theorem red_add (x y : Fp) : Red (x + y) := Nat.mod_lt _ p_pos
theorem red_sub (x y : Fp) : Red (x - y) := Nat.mod_lt _ p_pos
theorem red_mul (x y : Fp) : Red (x * y) := Nat.mod_lt _ p_pos
theorem red_neg (x : Fp) : Red x.neg := Nat.mod_lt _ p_pos
theorem red_ofNat (n : Nat) : Red (Fp.ofNat n) := Nat.mod_lt _ p_pos
theorem red_one : Red one := by show 1 < p; decide
theorem red_zero : Red zero := p_pos

theorem val_inj {x y : Fp} (hx : Red x) (hy : Red y) : val x = val y ↔ x = y := by
  constructor
  · intro h
    have := cast_inj hx hy h
    cases x; cases y; simp_all
  · intro h; rw [h]

theorem val_eq_zero {x : Fp} (hx : Red x) : val x = 0 ↔ x.v = 0 := by
  constructor
  · intro h
    exact cast_inj hx p_pos (by rw [Nat.cast_zero]; exact h)
  · intro h; show (x.v : F) = 0; rw [h, Nat.cast_zero]

def mapJ (A : J) : Jac F := ⟨val A.x, val A.y, val A.z⟩

theorem mapJ_double (A : J) : mapJ (double fa A) = double (a : F) (mapJ A) := by
  simp only [double, mapJ, dbl, tpl, quad, oct, val_add, val_sub, val_mul, val_fa]

theorem mapJ_addGeneric (A B : J) : mapJ (addGeneric A B) = addGeneric (mapJ A) (mapJ B) := by
  simp only [addGeneric, mapJ, dbl, val_add, val_sub, val_mul]

theorem mapJ_addMixed (A : J) (x2 y2 : Fp) :
    mapJ (addMixed A x2 y2) = addMixed (mapJ A) (val x2) (val y2) := by
  simp only [addMixed, mapJ, val_add, val_sub, val_mul]

def JRed (A : J) : Prop := Red A.x ∧ Red A.y ∧ Red A.z

theorem jred_double (A : J) : JRed (double fa A) := ⟨red_sub _ _, red_sub _ _, red_sub _ _⟩
theorem jred_addGeneric (A B : J) : JRed (addGeneric A B) := ⟨red_sub _ _, red_sub _ _, red_mul _ _⟩
theorem jred_addMixed (A : J) (x2 y2 : Fp) : JRed (addMixed A x2 y2) :=
  ⟨red_sub _ _, red_sub _ _, red_mul _ _⟩

/-- validity of a model point: reduced coordinates and, unless Z = 0 (the point at infinity, with
    arbitrary X and Y), the curve equation in Jacobian form Y² = X³ + a·X·Z⁴ + b·Z⁶ (mod p) -/
def JValid (A : J) : Prop :=
  JRed A ∧ (A.z.v ≠ 0 →
    (A.y.v ^ 2) % p = (A.x.v ^ 3 + a * A.x.v * A.z.v ^ 4 + b * A.z.v ^ 6) % p)

/-- the group element a model point stands for -/
noncomputable def jpt (A : J) : W.Point := jp (mapJ A)

theorem mapJ_z_ne {A : J} (hr : JRed A) : (mapJ A).z ≠ 0 ↔ A.z.v ≠ 0 := not_congr (val_eq_zero hr.2.2)

theorem jvalid_iff (A : J) : JValid A ↔ JRed A ∧ JOn (mapJ A) := by
  unfold JValid
  refine and_congr_right fun hr => ?_
  rw [JOn_iff]
  refine imp_congr (mapJ_z_ne hr).symm ?_
  rw [← ZMod.natCast_eq_natCast_iff']
  simp only [mapJ, val]
  push_cast
  rfl

theorem JValid.red {A : J} (h : JValid A) : JRed A := h.1
theorem JValid.on {A : J} (h : JValid A) : JOn (mapJ A) := ((jvalid_iff A).mp h).2
theorem jvalid_mk {A : J} (hr : JRed A) (ho : JOn (mapJ A)) : JValid A := (jvalid_iff A).mpr ⟨hr, ho⟩

theorem jpt_of_z0 {A : J} (h : A.z.v = 0) : jpt A = 0 :=
  jp_of_z0 (by show ((A.z.v : Nat) : F) = 0; rw [h, Nat.cast_zero])

theorem jvalid_of_z0 {A : J} (hr : JRed A) (h : A.z.v = 0) : JValid A :=
  ⟨hr, fun h' => absurd h h'⟩

theorem jvalid_inf : JValid inf := jvalid_of_z0 ⟨red_zero, red_zero, red_zero⟩ rfl
theorem jpt_inf : jpt inf = 0 := jpt_of_z0 rfl

/-- `sm2P256PointDouble`, every valid input (Z = 0 and points of order 2 included) -/
theorem double_correct_J {A : J} (hA : JValid A) :
    JValid (double fa A) ∧ jpt (double fa A) = jpt A + jpt A := by
  have h := double_F hA.on
  rw [← mapJ_double] at h
  exact ⟨jvalid_mk (jred_double A) h.1, h.2⟩

/-- `sm2P256PointAdd` (as repaired) computes `A + B` for ALL pairs of valid inputs: either input at
    infinity, equal inputs (↦ doubling), opposite inputs (↦ Z = 0), and the generic chord case -/
theorem pointAdd_correct {A B : J} (hA : JValid A) (hB : JValid B) :
    JValid (pointAdd A B) ∧ jpt (pointAdd A B) = jpt A + jpt B := by
  unfold pointAdd
  by_cases hza : A.z.v = 0
  · rw [if_pos hza]
    exact ⟨hB, by rw [jpt_of_z0 hza, zero_add]⟩
  rw [if_neg hza]
  by_cases hzb : B.z.v = 0
  · rw [if_pos hzb]
    exact ⟨hA, by rw [jpt_of_z0 hzb, add_zero]⟩
  rw [if_neg hzb]
  have hza' := (mapJ_z_ne hA.red).mpr hza
  have hzb' := (mapJ_z_ne hB.red).mpr hzb
  simp only
  have hu : A.x * (B.z * B.z) = B.x * (A.z * A.z) ↔
      (mapJ A).x * ((mapJ B).z * (mapJ B).z) = (mapJ B).x * ((mapJ A).z * (mapJ A).z) := by
    rw [← val_inj (red_mul _ _) (red_mul _ _)]; simp only [val_mul, mapJ]
  have hs : A.y * (B.z * B.z * B.z) = B.y * (A.z * A.z * A.z) ↔
      (mapJ A).y * ((mapJ B).z * (mapJ B).z * (mapJ B).z)
        = (mapJ B).y * ((mapJ A).z * (mapJ A).z * (mapJ A).z) := by
    rw [← val_inj (red_mul _ _) (red_mul _ _)]; simp only [val_mul, mapJ]
  by_cases he : A.x * (B.z * B.z) = B.x * (A.z * A.z) ∧ A.y * (B.z * B.z * B.z) = B.y * (A.z * A.z * A.z)
  · rw [if_pos he]
    have hd := double_correct_J hA
    refine ⟨hd.1, ?_⟩
    rw [hd.2]
    congr 1
    exact jp_eq_of_cross hA.on hB.on hza' hzb' (hu.mp he.1) (hs.mp he.2)
  · rw [if_neg he]
    have h := addGeneric_F hA.on hB.on hza' hzb' (by rw [← hu, ← hs]; exact he)
    rw [← mapJ_addGeneric] at h
    exact ⟨jvalid_mk (jred_addGeneric A B) h.1, h.2⟩

theorem neg_correct {A : J} (hA : JValid A) :
    JValid ⟨A.x, A.y.neg, A.z⟩ ∧ jpt ⟨A.x, A.y.neg, A.z⟩ = - jpt A := by
  have h := neg_F hA.on
  rw [show (⟨(mapJ A).x, -(mapJ A).y, (mapJ A).z⟩ : Jac F) = mapJ ⟨A.x, A.y.neg, A.z⟩ by
    simp only [mapJ, val_neg]] at h
  exact ⟨jvalid_mk ⟨hA.red.1, red_neg _, hA.red.2.2⟩ h.1, h.2⟩

/-- `sm2P256PointSub` -/
theorem pointSub_correct {A B : J} (hA : JValid A) (hB : JValid B) :
    JValid (pointSub A B) ∧ jpt (pointSub A B) = jpt A - jpt B := by
  have hn := neg_correct hB
  have h := pointAdd_correct hA hn.1
  exact ⟨h.1, by rw [pointSub, h.2, hn.2, sub_eq_add_neg]⟩

theorem jpt_ne_zero_z {A : J} (h : jpt A ≠ 0) : (mapJ A).z ≠ 0 := fun hz => h (jp_of_z0 hz)

/-- `sm2P256PointAddMixed` on a valid accumulator and a valid affine point (given by reduced model
    field elements): correct unless the accumulator is the point at infinity or EQUAL to the affine
    point (the formula has no doubling case) -/
theorem addMixed_correct_J {A : J} {x2 y2 : Fp} (hA : JValid A) (hP : Valid (some (x2.v, y2.v)))
    (hz : jpt A ≠ 0) (hne : jpt A ≠ pt (some (x2.v, y2.v))) :
    JValid (addMixed A x2 y2) ∧ jpt (addMixed A x2 y2) = jpt A + pt (some (x2.v, y2.v)) := by
  have hN : W.Nonsingular (val x2) (val y2) := nonsingular_of_onCurve hP.2.2
  have e : pt (some (x2.v, y2.v)) = Point.some (val x2) (val y2) hN := by rw [pt_eq hP, toPoint_some]; rfl
  rw [e] at hne ⊢
  have h := addMixed_F hA.on (jpt_ne_zero_z hz) hN hne
  rw [← mapJ_addMixed] at h
  exact ⟨jvalid_mk (jred_addMixed A x2 y2) h.1, h.2⟩


/-- `z` successive doublings (the pending doublings of `sm2P256ScalarMult`) -/
def dbls (z : Nat) (acc : J) : J := (List.range z).foldl (fun a _ => double fa a) acc

theorem dbls_succ (z : Nat) (acc : J) : dbls (z + 1) acc = double fa (dbls z acc) := by
  unfold dbls
  rw [List.range_succ, List.foldl_append]; rfl

theorem dbls_correct {A : J} (hA : JValid A) (z : Nat) :
    JValid (dbls z A) ∧ jpt (dbls z A) = (2 : Int) ^ z • jpt A := by
  induction z with
  | zero => exact ⟨hA, by simp [dbls]⟩
  | succ z ih =>
    rw [dbls_succ]
    obtain ⟨v, e⟩ := double_correct_J ih.1
    refine ⟨v, ?_⟩
    rw [e, ih.2, pow_succ, mul_smul, two_zsmul]
    exact (zsmul_add _ _ _).symm

/-- `k·A` by double-and-add with the complete operations `pointAdd` and `double`: the inversion-free
    counterpart of `Spec.SM2.smul`, for evaluating multiples of concrete points -/
def jmul (k : Nat) (A : J) : J := dblAdd pointAdd (double fa) 600 k A inf

theorem jmul_correct {A : J} (hA : JValid A) {k : Nat} (hk : k < 2 ^ 600) :
    JValid (jmul k A) ∧ jpt (jmul k A) = k • jpt A := by
  have h := dblAdd_spec (ok := JValid) (ρ := jpt) pointAdd_correct double_correct_J 600 k A inf hA
    jvalid_inf hk
  rwa [jpt_inf, zero_add] at h

theorem val_invMod (z : Fp) : val (⟨invMod z.v Model.SM2Curve.P⟩ : Fp) = (val z)⁻¹ := by
  rw [val_mk, show Model.SM2Curve.P = p from rfl, invMod_eq_inv z.v p p_gt2 p_lt]; rfl

/-- the coordinates `sm2P256ToAffine` returns, read in `ZMod p`: (X/Z², Y/Z³) — for Z = 0, where
    `ModInverse` leaves 0, this is (0, 0) -/
theorem cast_toAffine (A : J) :
    ((Model.SM2Curve.toAffine A).1 : F) = val A.x / val A.z ^ 2 ∧
    ((Model.SM2Curve.toAffine A).2 : F) = val A.y / val A.z ^ 3 := by
  constructor
  · show val (A.x * _) = _
    simp only [val_mul, val_invMod]; ring
  · show val (A.y * _) = _
    simp only [val_mul, val_invMod]; ring

/-- the spec-level point a model point stands for -/
def jspec (A : J) : Pt := if A.z.v = 0 then none else some (Model.SM2Curve.toAffine A)

/-- `sm2P256ToAffine`: for a valid model point, the returned coordinates are the library encoding
    ((0,0) for infinity) of a valid spec point, which is the group element `jpt A` -/
theorem toAffine_correct {A : J} (hA : JValid A) :
    Valid (jspec A) ∧ pt (jspec A) = jpt A ∧ Model.SM2Curve.toAffine A = enc (jspec A) := by
  obtain ⟨ex, ey⟩ := cast_toAffine A
  unfold jspec
  by_cases hz : A.z.v = 0
  · rw [if_pos hz]
    refine ⟨valid_none, by rw [jpt_of_z0 hz, pt_none], ?_⟩
    have hz0 : val A.z = 0 := (val_eq_zero hA.red.2.2).mpr hz
    rw [hz0, zero_pow two_ne_zero, div_zero, ← Nat.cast_zero] at ex
    rw [hz0, zero_pow three_ne_zero, div_zero, ← Nat.cast_zero] at ey
    exact Prod.ext (cast_inj (red_mul _ _) p_pos ex) (cast_inj (red_mul _ _) p_pos ey)
  · rw [if_neg hz]
    have hz' := (mapJ_z_ne hA.red).mpr hz
    have hN := hA.on hz'
    obtain ⟨hv, e⟩ := some_valid_eq (x3 := (Model.SM2Curve.toAffine A).1) (y3 := (Model.SM2Curve.toAffine A).2)
      (red_mul _ _) (red_mul _ _) hN ex ey
    refine ⟨hv, ?_, rfl⟩
    rw [pt_eq hv, e]
    exact (jp_some hz' hN).symm

theorem toAffine_eq_enc {A : J} {P : Pt} (hA : JValid A) (hP : Valid P) (h : jpt A = pt P) :
    Model.SM2Curve.toAffine A = enc P := by
  obtain ⟨hv, e, t⟩ := toAffine_correct hA
  rw [t, pt_inj hv hP (e.trans h)]

/-- a model point with Z ≠ 0, X = x·Z² and Y = y·Z³ converts to (x, y): a comparison without the
    inversion -/
theorem toAffine_eq_of_cross {A : J} (hA : JValid A) {x y : Nat} (hx : x < p) (hy : y < p)
    (hz : A.z.v ≠ 0) (ex : A.x = ⟨x⟩ * (A.z * A.z)) (ey : A.y = ⟨y⟩ * (A.z * A.z * A.z)) :
    Model.SM2Curve.toAffine A = (x, y) := by
  have hz' : val A.z ≠ 0 := (mapJ_z_ne hA.red).mpr hz
  obtain ⟨cx, cy⟩ := cast_toAffine A
  refine Prod.ext (cast_inj (red_mul _ _) hx ?_) (cast_inj (red_mul _ _) hy ?_)
  · rw [cx, ex, val_mul, val_mul, val_mk, ← pow_two, mul_div_cancel_right₀ _ (pow_ne_zero 2 hz')]
  · rw [cy, ey, val_mul, val_mul, val_mul, val_mk, ← pow_three',
      mul_div_cancel_right₀ _ (pow_ne_zero 3 hz')]

theorem affine_valid {x y : Nat} (h : Valid (some (x, y))) :
    JValid ⟨Fp.ofNat x, Fp.ofNat y, one⟩ ∧ jpt ⟨Fp.ofNat x, Fp.ofNat y, one⟩ = pt (some (x, y)) := by
  have hr : JRed ⟨Fp.ofNat x, Fp.ofNat y, one⟩ := ⟨red_ofNat _, red_ofNat _, red_one⟩
  have hz' : (mapJ ⟨Fp.ofNat x, Fp.ofNat y, one⟩).z ≠ 0 := by
    show val one ≠ 0; rw [val_one]; exact one_ne_zero
  have hN : W.Nonsingular (aff (mapJ ⟨Fp.ofNat x, Fp.ofNat y, one⟩)).1
      (aff (mapJ ⟨Fp.ofNat x, Fp.ofNat y, one⟩)).2 := by
    simp only [ECFormulas.toAffine, mapJ, val_ofNat, val_one, one_pow, div_one]
    exact nonsingular_of_onCurve h.2.2
  refine ⟨jvalid_mk hr (fun _ => hN), ?_⟩
  show jp _ = _
  rw [jp_some hz' hN, pt_eq h, toPoint_some, Point.some.injEq]
  simp only [ECFormulas.toAffine, mapJ, val_ofNat, val_one, one_pow, div_one, and_self]

theorem ofNat_of_lt {x : Nat} (h : x < p) : Fp.ofNat x = ⟨x⟩ := by
  show (⟨x % p⟩ : Fp) = ⟨x⟩
  rw [Nat.mod_eq_of_lt h]

theorem affine_valid_fp {x2 y2 : Fp} (h : Valid (some (x2.v, y2.v))) :
    JValid ⟨x2, y2, one⟩ ∧ jpt ⟨x2, y2, one⟩ = pt (some (x2.v, y2.v)) := by
  have := affine_valid h
  rw [ofNat_of_lt h.1, ofNat_of_lt h.2.1] at this
  exact this

/-- `zForAffine` / the conversion at the API boundary: (0,0) is the point at infinity -/
theorem fromAffine_valid {x y : Nat} (h : Valid (dec x y)) :
    JValid (fromAffine x y) ∧ jpt (fromAffine x y) = pt (dec x y) := by
  unfold fromAffine
  by_cases h0 : x = 0 ∧ y = 0
  · rw [if_pos h0]
    have hz : (⟨Fp.ofNat x, Fp.ofNat y, zero⟩ : J).z.v = 0 := rfl
    refine ⟨jvalid_of_z0 ⟨red_ofNat _, red_ofNat _, red_zero⟩ hz, ?_⟩
    rw [jpt_of_z0 hz, dec, if_pos h0, pt_none]
  · rw [if_neg h0]
    rw [dec, if_neg h0] at h ⊢
    exact affine_valid h

/-- the specification's scalar multiple, evaluated without inversions until the final conversion -/
theorem enc_smul_eq_jmul {x y : Nat} (h : Valid (dec x y)) {k : Nat} (hk : k < 2 ^ 600) :
    enc (smul k (dec x y)) = Model.SM2Curve.toAffine (jmul k (fromAffine x y)) := by
  obtain ⟨v, e⟩ := fromAffine_valid h
  obtain ⟨vk, ek⟩ := jmul_correct v hk
  exact (toAffine_eq_enc vk (smul_valid h hk) (by rw [ek, e, pt_smul h hk])).symm

/-- `Curve.Add`: for every pair of valid inputs (points on the curve with reduced coordinates, or
    (0,0) for infinity) the result is the spec's group law `padd`, in all cases -/
theorem apiAdd_correct {x1 y1 x2 y2 : Nat} (h1 : Valid (dec x1 y1)) (h2 : Valid (dec x2 y2)) :
    apiAdd x1 y1 x2 y2 = enc (padd (dec x1 y1) (dec x2 y2)) := by
  obtain ⟨v1, e1⟩ := fromAffine_valid h1
  obtain ⟨v2, e2⟩ := fromAffine_valid h2
  obtain ⟨v, e⟩ := pointAdd_correct v1 v2
  exact toAffine_eq_enc v (padd_valid h1 h2) (by rw [e, e1, e2, pt_padd h1 h2])

/-- `Curve.Double` -/
theorem apiDouble_correct {x y : Nat} (h : Valid (dec x y)) :
    apiDouble x y = enc (padd (dec x y) (dec x y)) := by
  obtain ⟨v1, e1⟩ := fromAffine_valid h
  obtain ⟨v, e⟩ := double_correct_J v1
  exact toAffine_eq_enc v (padd_valid h h) (by rw [e, e1, pt_padd h h])

/-- the field computation of `Curve.IsOnCurve` is the spec's curve equation, for all inputs (reduced or not) -/
theorem isOnCurve_core (x y : Nat) :
    ((Fp.ofNat x * Fp.ofNat x * Fp.ofNat x + fa * Fp.ofNat x + ⟨b⟩) == Fp.ofNat y * Fp.ofNat y) = onCurve x y := by
  rw [Bool.eq_iff_iff, onCurve_iff, ECFormulas.equation_iff_onCurve W_short, ECFormulas.OnCurve]
  simp only [beq_iff_eq]
  rw [← val_inj (red_add _ _) (red_mul _ _)]
  simp only [val_add, val_mul, val_ofNat, val_fa]
  rw [show val (⟨b⟩ : Fp) = (b : F) from rfl]
  constructor <;> intro h <;> linear_combination -h

/-- `Curve.IsOnCurve` (as repaired): both coordinates are field elements and satisfy the curve equation -/
theorem isOnCurve_eq (x y : Nat) : isOnCurve x y = (decide (x < p) && decide (y < p) && onCurve x y) := by
  unfold isOnCurve
  simp only
  rw [isOnCurve_core]

end Proofs.SM2Jacobian
