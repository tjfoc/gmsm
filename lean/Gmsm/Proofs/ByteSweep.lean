/-
A statement about all bytes follows from its 256 instances, so that the kernel can enumerate them
(`decide +kernel`).
-/
namespace Gmsm

theorem byte_forall (P : BitVec 8 → Prop) (h : ∀ f : Fin 256, P (BitVec.ofFin f)) : ∀ b, P b := fun b => h b.toFin

end Gmsm
