/-
For C12: GCTR unfolded from the left (`gctr_cons` with the block budget, `gctrAll_short` /
`gctrAll_long` without), its length and that it is an involution; GF(2^128) multiplication is linear in its first
argument; inc32 only touches the low word.
-/
import Gmsm.Spec.GCM
import Gmsm.Proofs.Modes
namespace Proofs.GCM
open Gmsm Spec.GCM Proofs.Modes

theorem gctr_nil (E : Bytes → Bytes) (n : Nat) (cb : B128) : gctr E n cb [] = [] := by
  cases n <;> simp [gctr]

theorem gctr_cons (E : Bytes → Bytes) (n : Nat) (cb : B128) (x : Bytes) (hx : x ≠ []) :
    gctr E (n + 1) cb x = xorBytes (x.take 16) (E (toBytes cb)) ++ gctr E n (inc32 cb) (x.drop 16) := by
  rw [gctr, if_neg (by simpa using hx)]

theorem gctr_length (E : Bytes → Bytes) (hE : ∀ x, (E x).length = 16) (n : Nat) (cb : B128) (x : Bytes)
    (h : x.length ≤ 16 * n) : (gctr E n cb x).length = x.length := by
  induction n generalizing cb x with
  | zero => rw [List.eq_nil_of_length_eq_zero (by omega : x.length = 0)]; rfl
  | succ n ih =>
    by_cases hx : x = []
    · rw [hx, gctr_nil]
    · rw [gctr_cons E n cb x hx, List.length_append, xorBytes_length, hE, List.length_take,
        ih _ _ (by rw [List.length_drop]; omega), List.length_drop]
      omega

theorem take_drop_append {α : Type} (a b : List α) (n : Nat) (hle : a.length ≤ n) (h : a.length = n ∨ b = []) :
    (a ++ b).take n = a ∧ (a ++ b).drop n = b := by
  rcases h with h | h
  · subst h; simp
  · subst h; simp [List.take_of_length_le hle, List.drop_of_length_le hle]

theorem gctr_involution (E : Bytes → Bytes) (hE : ∀ x, (E x).length = 16) (n : Nat) (cb : B128) (x : Bytes)
    (h : x.length ≤ 16 * n) : gctr E n cb (gctr E n cb x) = x := by
  induction n generalizing cb x with
  | zero => rw [List.eq_nil_of_length_eq_zero (by omega : x.length = 0)]; rfl
  | succ n ih =>
    by_cases hx : x = []
    · rw [hx, gctr_nil, gctr_nil]
    · have hpos : 0 < x.length := List.length_pos_iff.mpr hx
      have hd : (x.drop 16).length ≤ 16 * n := by rw [List.length_drop]; omega
      have hfirst : (xorBytes (x.take 16) (E (toBytes cb))).length = min x.length 16 := by
        rw [xorBytes_length, hE, List.length_take]; omega
      have hrest := gctr_length E hE n (inc32 cb) _ hd
      -- the first output block is a whole block, or it is all there is
      obtain ⟨ht, hdr⟩ := take_drop_append (xorBytes (x.take 16) (E (toBytes cb)))
        (gctr E n (inc32 cb) (x.drop 16)) 16 (by omega) (by
          by_cases h16 : 16 ≤ x.length
          · left; omega
          · right; exact List.eq_nil_of_length_eq_zero (by rw [hrest, List.length_drop]; omega))
      rw [gctr_cons E n cb x hx, gctr_cons E n cb _ (fun e => by
          have := congrArg List.length e
          rw [List.length_append, hfirst, List.length_nil] at this; omega),
        ht, hdr, ih _ _ hd, xor_cancel_right _ _ (by rw [hE, List.length_take]; omega), List.take_append_drop]

theorem gctr_fuel (E : Bytes → Bytes) (n : Nat) : ∀ (m : Nat) (cb : B128) (x : Bytes),
    x.length ≤ 16 * n → x.length ≤ 16 * m → gctr E n cb x = gctr E m cb x := by
  induction n with
  | zero => intro m cb x h _; rw [List.eq_nil_of_length_eq_zero (by omega : x.length = 0), gctr_nil, gctr_nil]
  | succ n ih =>
    intro m cb x hn hm
    by_cases hx : x = []
    · rw [hx, gctr_nil, gctr_nil]
    · cases m with
      | zero => exact absurd (List.eq_nil_of_length_eq_zero (by omega)) hx
      | succ m =>
        rw [gctr_cons E n cb x hx, gctr_cons E m cb x hx,
          ih m _ _ (by rw [List.length_drop]; omega) (by rw [List.length_drop]; omega)]

theorem gctrAll_nil (E : Bytes → Bytes) (cb : B128) : gctrAll E cb [] = [] := gctr_nil E _ cb

theorem gctrAll_short (E : Bytes → Bytes) (cb : B128) (x : Bytes) (h0 : 0 < x.length) (h16 : x.length ≤ 16) :
    gctrAll E cb x = xorBytes x (E (toBytes cb)) := by
  rw [gctrAll, gctr_cons E _ cb x (List.length_pos_iff.mp h0), List.take_of_length_le h16,
    List.drop_of_length_le h16, gctr_nil, List.append_nil]

theorem gctrAll_long (E : Bytes → Bytes) (cb : B128) (x : Bytes) (h16 : 16 < x.length) :
    gctrAll E cb x = xorBytes (x.take 16) (E (toBytes cb)) ++ gctrAll E (inc32 cb) (x.drop 16) := by
  rw [gctrAll, gctr_cons E _ cb x (List.length_pos_iff.mp (by omega))]
  congr 1
  exact gctr_fuel E _ _ _ _ (by rw [List.length_drop]; omega) (by omega)

theorem shr_xor (a b : B128) (k : Nat) : (a ^^^ b) >>> k = (a >>> k) ^^^ (b >>> k) := by
  apply BitVec.eq_of_getLsbD_eq
  intro i _
  simp [BitVec.getLsbD_ushiftRight, BitVec.getLsbD_xor]

theorem mulStep_xor (y : B128) (z1 v1 z2 v2 : B128) (i : Nat) :
    mulStep y (z1 ^^^ z2, v1 ^^^ v2) i =
      ((mulStep y (z1, v1) i).1 ^^^ (mulStep y (z2, v2) i).1, (mulStep y (z1, v1) i).2 ^^^ (mulStep y (z2, v2) i).2) := by
  unfold mulStep
  simp only [BitVec.getLsbD_xor, shr_xor]
  have hRR : ∀ w : B128, R ^^^ (R ^^^ w) = w := by
    intro w; rw [← BitVec.xor_assoc, BitVec.xor_self, BitVec.zero_xor]
  have h4 : ∀ a b : B128, a ^^^ R ^^^ (b ^^^ R) = a ^^^ b := by
    intro a b
    rw [BitVec.xor_assoc, BitVec.xor_comm b R, hRR]
  cases y.getMsbD i <;> cases v1.getLsbD 0 <;> cases v2.getLsbD 0 <;> simp [h4] <;>
    first | ac_rfl | (constructor <;> ac_rfl)

theorem foldl_mulStep_xor (y : B128) (l : List Nat) (z1 v1 z2 v2 : B128) :
    l.foldl (mulStep y) (z1 ^^^ z2, v1 ^^^ v2) =
      ((l.foldl (mulStep y) (z1, v1)).1 ^^^ (l.foldl (mulStep y) (z2, v2)).1,
       (l.foldl (mulStep y) (z1, v1)).2 ^^^ (l.foldl (mulStep y) (z2, v2)).2) := by
  induction l generalizing z1 v1 z2 v2 with
  | nil => rfl
  | cons i l ih =>
    simp only [List.foldl_cons]
    rw [mulStep_xor, ih]

theorem mulGF_xor_left (a b y : B128) : mulGF (a ^^^ b) y = mulGF a y ^^^ mulGF b y := by
  unfold mulGF
  have := foldl_mulStep_xor y (List.range 128) 0 a 0 b
  simp only [BitVec.xor_self] at this
  exact congrArg Prod.fst this

theorem mulGF_zero_left (y : B128) : mulGF 0 y = 0 := by
  -- `0 • y = (0 ⊕ 0) • y = 0 • y ⊕ 0 • y`, and `x ⊕ x = 0`
  have := mulGF_xor_left 0 0 y
  simp only [BitVec.xor_self] at this
  exact this

theorem inc32_low (x : B128) : (inc32 x).extractLsb' 0 32 = x.extractLsb' 0 32 + 1 :=
  BitVec.extractLsb'_append_eq_right

theorem inc32_high (x : B128) : (inc32 x).extractLsb' 32 96 = x.extractLsb' 32 96 :=
  BitVec.extractLsb'_append_eq_left

def iterInc : Nat → B128 → B128
  | 0, x => x
  | n+1, x => iterInc n (inc32 x)

theorem iterInc_succ (n : Nat) (x : B128) : iterInc (n + 1) x = inc32 (iterInc n x) := by
  induction n generalizing x with
  | zero => rfl
  | succ n ih => exact ih (inc32 x)

theorem iterInc_low (n : Nat) (x : B128) :
    (iterInc n x).extractLsb' 0 32 = x.extractLsb' 0 32 + BitVec.ofNat 32 n := by
  induction n generalizing x with
  | zero => simp [iterInc]
  | succ n ih =>
    rw [iterInc, ih, inc32_low, BitVec.add_assoc, Nat.add_comm n 1, BitVec.ofNat_add]
    rfl

/-- `inc32` applied `i` and `k` times gives the same block only if `i` and `k` agree modulo 2^32: the low words
    `j + i` and `j + k` agree -/
theorem iterInc_eq_mod (j : B128) (i k : Nat) (h : iterInc i j = iterInc k j) : i % 2 ^ 32 = k % 2 ^ 32 := by
  have hlow : BitVec.ofNat 32 i = BitVec.ofNat 32 k :=
    (BitVec.add_right_inj _).mp ((iterInc_low i j).symm.trans ((congrArg _ h).trans (iterInc_low k j)))
  have := congrArg BitVec.toNat hlow
  rwa [BitVec.toNat_ofNat, BitVec.toNat_ofNat] at this

end Proofs.GCM
