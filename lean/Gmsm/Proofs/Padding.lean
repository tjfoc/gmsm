/-
The streaming PKCS#7 reader and writer of `Model.Padding` (C19).  The source loop `fill` by its four guarantees;
`Read` by cases, its second half named `servePad`; the reader invariant `RInv` ("what has been delivered is a
prefix of `data ‖ pad`").  The writer's state after any writes is a function `writerAfter` of the bytes written.
-/
import Gmsm.Model.Padding
namespace Proofs.Padding
open Gmsm Model.Padding

theorem pad_pos (bs n : Nat) (h : 0 < bs) : 0 < bs - n % bs :=
  Nat.sub_pos_of_lt (Nat.mod_lt n h)

theorem add_pad_mod (bs n : Nat) (h : 0 < bs) : (n + (bs - n % bs)) % bs = 0 := by
  rw [← Nat.add_sub_assoc (Nat.le_of_lt (Nat.mod_lt n h)), Nat.add_comm, Nat.add_sub_assoc (Nat.mod_le n bs),
    Nat.add_mod, Nat.mod_self, Nat.zero_add, Nat.mod_mod, Nat.sub_mod_eq_zero_of_mod_eq (Nat.mod_mod _ _).symm]

theorem padStream_mod (bs : Nat) (hbs : 0 < bs) (data : Bytes) : (padStream bs data).length % bs = 0 := by
  rw [padStream, List.length_append, List.length_replicate]; exact add_pad_mod bs _ hbs

theorem fill_spec (script : List (Nat × Bool)) (data : Bytes) (need : Nat) :
    (fill script data need).1 ++ (fill script data need).2.1.data = data ∧
    (fill script data need).1.length ≤ need ∧
    ((fill script data need).2.2 = true → (fill script data need).2.1.data = []) ∧
    ((fill script data need).2.2 = false → (fill script data need).1.length = need) := by
  fun_induction fill script data need with
  | case1 data need h => exact ⟨List.append_nil _, Nat.le_of_lt h, fun _ => rfl, nofun⟩
  | case2 data need h =>
    exact ⟨List.take_append_drop .., List.length_take_le .., nofun, fun _ => List.length_take_of_le (Nat.le_of_not_lt h)⟩
  | case3 => exact ⟨rfl, Nat.le_refl _, nofun, fun _ => rfl⟩
  | case4 k e rest data need _ h =>
    exact ⟨(List.eq_nil_of_length_eq_zero h).symm, Nat.zero_le _, fun _ => rfl, nofun⟩
  | case5 k e rest data need _ _ m h =>
    have hm : m ≤ need := Nat.le_trans (Nat.min_le_right ..) (Nat.min_le_left ..)
    refine ⟨?_, Nat.le_trans (List.length_take_le ..) hm, fun _ => rfl, nofun⟩
    rw [h.1]; exact (List.append_nil _).trans (List.take_length ..)
  | case6 k e rest data need _ _ m _ b src' eof hf ih =>
    rw [hf] at ih
    obtain ⟨a1, a2, a3, a4⟩ := ih
    have hm : m ≤ data.length := Nat.le_trans (Nat.min_le_right ..) (Nat.min_le_right ..)
    have hn : m ≤ need := Nat.le_trans (Nat.min_le_right ..) (Nat.min_le_left ..)
    refine ⟨?_, ?_, a3, fun h => ?_⟩
    · exact (List.append_assoc ..).trans (a1 ▸ List.take_append_drop ..)
    · show (data.take m ++ b).length ≤ need
      rw [List.length_append, List.length_take_of_le hm]; exact Nat.add_le_of_le_sub' hn a2
    · show (data.take m ++ b).length = need
      rw [List.length_append, List.length_take_of_le hm, a4 h, Nat.add_sub_of_le hn]

/-- the second half of `Read`, entered once the source has reported EOF, with the file bytes `b` of this call
    already in the buffer of `L` bytes: create the pad if there is none yet and append what fits of it -/
def servePad (r : Reader) (b : Bytes) (L : Nat) : Reader × Bytes × Err :=
  let pad := r.pad.getD (List.replicate (r.blockSize - r.readed % r.blockSize)
    (BitVec.ofNat 8 (r.blockSize - r.readed % r.blockSize)))
  let room := L - b.length
  if pad.isEmpty then ({ r with pad := some pad, eop := true }, b, .eof)
  else ({ r with pad := some (pad.drop (min room pad.length)) }, b ++ pad.take (min room pad.length), .none)

theorem read_eq (r : Reader) (L : Nat) : r.read L =
    if r.eof ∧ r.eop then (r, [], .eof)
    else if r.eof then servePad r [] L
    else
      let f := fill r.src.script r.src.data L
      let r1 := { r with src := f.2.1, readed := r.readed + f.1.length, eof := f.2.2 }
      if f.2.2 then servePad r1 f.1 L else (r1, f.1, .none) := by
  obtain ⟨src, bs, n, eof, eop, pad⟩ := r
  cases eof
  · unfold Reader.read
    generalize fill src.script src.data L = f
    obtain ⟨b, src', e⟩ := f
    cases e <;> rfl
  · cases eop <;> rfl

theorem servePad_len (r : Reader) (b : Bytes) (L : Nat) (hb : b.length ≤ L) (hL : 0 < L) :
    (servePad r b L).2.1.length ≤ L ∧ ((servePad r b L).2.2 = .none → 0 < (servePad r b L).2.1.length) := by
  unfold servePad
  dsimp only
  generalize r.pad.getD _ = pad
  split
  · exact ⟨hb, nofun⟩
  · next h =>
    have : 0 < pad.length := List.length_pos_iff.mpr (fun hn => h (hn ▸ rfl))
    rw [List.length_append, List.length_take_of_le (Nat.min_le_right ..)]
    refine ⟨Nat.le_trans (Nat.add_le_add_left (Nat.min_le_left ..) _) (Nat.le_of_eq (Nat.add_sub_of_le hb)), fun _ => ?_⟩
    rcases Nat.eq_or_lt_of_le hb with h | h
    · exact Nat.lt_of_lt_of_le hL (h ▸ Nat.le_add_right ..)
    · exact Nat.add_pos_right _ (Nat.lt_min.mpr ⟨Nat.sub_pos_of_lt h, this⟩)

/-- the reader invariant: `acc` is what has been delivered so far -/
structure RInv (data : Bytes) (bs : Nat) (r : Reader) (acc : Bytes) : Prop where
  bsz : r.blockSize = bs
  live : r.eof = false → acc ++ r.src.data = data ∧ r.readed = acc.length ∧ r.pad = none ∧ r.eop = false
  done : r.eof = true → ∃ rest, r.pad = some rest ∧ acc ++ rest = padStream bs data ∧ (r.eop = true → rest = [])

theorem rinv_init (data : Bytes) (bs : Nat) (script : List (Nat × Bool)) :
    RInv data bs (newReader ⟨data, script⟩ bs) [] :=
  ⟨rfl, fun _ => ⟨rfl, rfl, rfl, rfl⟩, nofun⟩

theorem servePad_inv {data : Bytes} {bs : Nat} {r : Reader} {acc b pad : Bytes} (L : Nat)
    (hb : r.blockSize = bs) (he : r.eof = true) (hp : r.eop = false)
    (hpad : r.pad.getD (List.replicate (r.blockSize - r.readed % r.blockSize)
      (BitVec.ofNat 8 (r.blockSize - r.readed % r.blockSize))) = pad)
    (hs : acc ++ b ++ pad = padStream bs data) :
    RInv data bs (servePad r b L).1 (acc ++ (servePad r b L).2.1) ∧
    ((servePad r b L).2.2 = .eof → acc ++ (servePad r b L).2.1 = padStream bs data) := by
  have hlive {P : Prop} : r.eof = false → P := fun h => nomatch he.symm.trans h
  unfold servePad
  rw [hpad]
  dsimp only
  split
  · next h =>
    obtain rfl := List.isEmpty_iff.mp h
    rw [List.append_nil] at hs
    exact ⟨⟨hb, hlive, fun _ => ⟨[], rfl, (List.append_nil _).trans hs, fun _ => rfl⟩⟩, fun _ => hs⟩
  · refine ⟨⟨hb, hlive, fun _ => ⟨_, rfl, ?_, fun h => nomatch hp.symm.trans h⟩⟩, nofun⟩
    rw [← List.append_assoc, List.append_assoc (acc ++ b), List.take_append_drop]; exact hs

theorem rinv_prefix {data : Bytes} {bs : Nat} {r : Reader} {acc : Bytes} (h : RInv data bs r acc) :
    ∃ t, acc ++ t = padStream bs data := by
  cases he : r.eof
  · exact ⟨r.src.data ++ _, by rw [← List.append_assoc, (h.live he).1]; rfl⟩
  · obtain ⟨rest, _, hs, _⟩ := h.done he
    exact ⟨rest, hs⟩

theorem rinv_le {data : Bytes} {bs : Nat} {r : Reader} {acc : Bytes} (h : RInv data bs r acc) :
    acc.length ≤ (padStream bs data).length := by
  obtain ⟨t, ht⟩ := rinv_prefix h
  rw [← ht, List.length_append]; exact Nat.le_add_right ..

theorem rinv_read (data : Bytes) (bs : Nat) (r : Reader) (acc : Bytes) (L : Nat)
    (h : RInv data bs r acc) :
    RInv data bs (r.read L).1 (acc ++ (r.read L).2.1) ∧
    ((r.read L).2.2 = .eof → acc ++ (r.read L).2.1 = padStream bs data) := by
  rw [read_eq]
  cases he : r.eof
  · obtain ⟨hd, hr, hpn, hep⟩ := h.live he
    obtain ⟨f1, _, f3, _⟩ := fill_spec r.src.script r.src.data L
    rw [if_neg (fun h' => nomatch h'.1), if_neg nofun]
    dsimp only
    cases hf : (fill r.src.script r.src.data L).2.2
    · rw [if_neg nofun]
      refine ⟨⟨h.bsz, fun _ => ⟨?_, ?_, hpn, hep⟩, nofun⟩, nofun⟩
      · rw [List.append_assoc, f1]; exact hd
      · show r.readed + _ = _; rw [hr, List.length_append]
    · rw [if_pos rfl]
      rw [f3 hf, List.append_nil] at f1
      have hdata : acc ++ (fill r.src.script r.src.data L).1 = data := by rw [f1]; exact hd
      refine servePad_inv L h.bsz rfl hep ?_ (by rw [hdata]; rfl)
      show r.pad.getD _ = _
      rw [hpn, h.bsz, hr, ← List.length_append, hdata]; rfl
  · obtain ⟨rest, hp, hs, hnil⟩ := h.done he
    cases hep : r.eop
    · rw [if_neg (fun h' => nomatch h'.2), if_pos rfl]
      exact servePad_inv L h.bsz he hep (by rw [hp]) (by rw [List.append_nil]; exact hs)
    · rw [if_pos ⟨rfl, rfl⟩, List.append_nil]
      rw [hnil hep, List.append_nil] at hs
      exact ⟨h, fun _ => hs⟩

theorem take_add_drop_append {α} (t b : List α) {n : Nat} (m : Nat) (h : n ≤ t.length) :
    (t ++ b).take (n + m) = t.take n ++ (t.drop n ++ b).take m := by
  rw [List.take_add, List.take_append_of_le_length h, List.drop_append_of_le_length h]

theorem drop_add_drop_append {α} (t b : List α) {n : Nat} (m : Nat) (h : n ≤ t.length) :
    (t ++ b).drop (n + m) = (t.drop n ++ b).drop m := by
  rw [← List.drop_drop, List.drop_append_of_le_length h]

/-- the writer after the bytes `total` have been written, in whatever chunks: the last `bs` bytes are held back,
    everything before them has been forwarded -/
def writerAfter (bs : Nat) (total : Bytes) : Writer :=
  ⟨total.drop (total.length - bs), bs, total.take (total.length - bs), total.length⟩

/-- both branches of `Write` forward all but the last `blockSize` bytes of `cache ++ buff` -/
theorem write_eq (w : Writer) (b : Bytes) : w.write b =
    { w with cache := (w.cache ++ b).drop ((w.cache ++ b).length - w.blockSize),
             out := w.out ++ (w.cache ++ b).take ((w.cache ++ b).length - w.blockSize),
             written := w.written + b.length } := by
  unfold Writer.write
  by_cases h : (w.cache ++ b).length > w.blockSize
  · rw [if_pos h]
  · rw [if_neg h, show (w.cache ++ b).length - w.blockSize = 0 by omega, List.drop_zero, List.take_zero,
      List.append_nil]

/-- the bytes forwarded after `a + b` bytes: those forwarded after `a`, and those of the cache and the `b` new
    bytes beyond one block (`omega` is slow on the nested truncated subtractions) -/
theorem sub_block_add (a b bs : Nat) : a + b - bs = (a - bs) + (a - (a - bs) + b - bs) := by
  rcases Nat.le_total a bs with h | h
  · rw [Nat.sub_eq_zero_of_le h, Nat.sub_zero, Nat.zero_add]
  · rw [Nat.sub_sub_self h, Nat.add_sub_cancel_left, Nat.sub_add_comm h]

theorem write_after (bs : Nat) (t b : Bytes) : (writerAfter bs t).write b = writerAfter bs (t ++ b) := by
  have hn : t.length - bs ≤ t.length := Nat.sub_le _ _
  have e : (t ++ b).length - bs = (t.length - bs) + ((t.drop (t.length - bs) ++ b).length - bs) := by
    rw [List.length_append, List.length_append, List.length_drop]; exact sub_block_add ..
  rw [write_eq]
  unfold writerAfter
  rw [e, take_add_drop_append t b _ hn, drop_add_drop_append t b _ hn, List.length_append (as := t)]

theorem foldl_write_after (bs : Nat) (ws : List Bytes) (t : Bytes) :
    ws.foldl Writer.write (writerAfter bs t) = writerAfter bs (t ++ ws.flatten) := by
  induction ws generalizing t with
  | nil => rw [List.flatten_nil, List.append_nil]; rfl
  | cons x xs ih => rw [List.foldl_cons, write_after, ih, List.flatten_cons, List.append_assoc]

theorem newWriter_eq (bs : Nat) : newWriter bs = writerAfter bs [] := by
  simp [newWriter, writerAfter]

theorem foldl_write (bs : Nat) (ws : List Bytes) :
    ws.foldl Writer.write (newWriter bs) = writerAfter bs ws.flatten := by
  rw [newWriter_eq]; exact foldl_write_after bs ws []

end Proofs.Padding
