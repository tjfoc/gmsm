/-
Correctness of the Jacobian-coordinate point formulas of `Gmsm.Model.SM2Jac` (the straight-line
programs of sm2/p256.go) against the affine chord-and-tangent formulas, over an arbitrary field,
and the connection of those affine formulas to Mathlib's group law on `WeierstrassCurve.Affine.Point`.
-/
import Gmsm.Model.SM2Jac
import Mathlib.Tactic.FieldSimp
import Mathlib.Tactic.Ring
import Mathlib.Tactic.LinearCombination
import Mathlib.AlgebraicGeometry.EllipticCurve.Affine.Point

namespace Proofs.ECFormulas

open Model.SM2Jac

variable {F : Type} [Field F]

def toAffine (P : Jac F) : F × F := (P.x / P.z ^ 2, P.y / P.z ^ 3)

def OnCurve (a b : F) (p : F × F) : Prop := p.2 ^ 2 = p.1 ^ 3 + a * p.1 + b

/-- affine tangent doubling: `λ = (3x² + a)/(2y)`, `x3 = λ² − 2x`, `y3 = λ(x − x3) − y` -/
def affDouble (a : F) (p : F × F) : F × F :=
  ((((3 * p.1 ^ 2 + a) / (2 * p.2)) ^ 2 - 2 * p.1),
   ((3 * p.1 ^ 2 + a) / (2 * p.2)) * (p.1 - (((3 * p.1 ^ 2 + a) / (2 * p.2)) ^ 2 - 2 * p.1)) - p.2)

/-- affine chord addition: `λ = (y2 − y1)/(x2 − x1)`, `x3 = λ² − x1 − x2`, `y3 = λ(x1 − x3) − y1` -/
def affAdd (p q : F × F) : F × F :=
  ((((q.2 - p.2) / (q.1 - p.1)) ^ 2 - p.1 - q.1),
   ((q.2 - p.2) / (q.1 - p.1)) * (p.1 - (((q.2 - p.2) / (q.1 - p.1)) ^ 2 - p.1 - q.1)) - p.2)

theorem affDouble_eq (a : F) (p : F × F) :
    affDouble a p =
      (let l := (3 * p.1 ^ 2 + a) / (2 * p.2)
       let x3 := l ^ 2 - 2 * p.1
       (x3, l * (p.1 - x3) - p.2)) := rfl

theorem affAdd_eq (p q : F × F) :
    affAdd p q =
      (let l := (q.2 - p.2) / (q.1 - p.1)
       let x3 := l ^ 2 - p.1 - q.1
       (x3, l * (p.1 - x3) - p.2)) := rfl

theorem double_z (a : F) (P : Jac F) : (double a P).z = 2 * P.y * P.z := by
  simp only [double]; ring

theorem double_correct (a b : F) (P : Jac F) (h2 : (2 : F) ≠ 0) (hz : P.z ≠ 0) (hy : P.y ≠ 0)
    (_hc : OnCurve a b (toAffine P)) :
    (double a P).z ≠ 0 ∧ toAffine (double a P) = affDouble a (toAffine P) := by
  have hz3 : (double a P).z ≠ 0 := by
    rw [double_z]; exact mul_ne_zero (mul_ne_zero h2 hy) hz
  refine ⟨hz3, ?_⟩
  rw [double_z] at hz3
  obtain ⟨x, y, z⟩ := P
  simp only at hz hy hz3
  simp only [toAffine, affDouble, double, dbl, tpl, quad, oct]
  have e : (y + z) * (y + z) - z * z - y * y = 2 * y * z := by ring
  rw [e]
  refine Prod.ext ?_ ?_
  · simp only
    field_simp
    ring
  · simp only
    field_simp
    ring

theorem addMixed_z (P : Jac F) (x2 y2 : F) :
    (addMixed P x2 y2).z = 2 * P.z * (x2 * P.z ^ 2 - P.x) := by
  simp only [addMixed]; ring

theorem addMixed_correct (P : Jac F) (x2 y2 : F) (h2 : (2 : F) ≠ 0) (hz : P.z ≠ 0)
    (hx : x2 * P.z ^ 2 ≠ P.x) :
    (addMixed P x2 y2).z ≠ 0 ∧ toAffine (addMixed P x2 y2) = affAdd (toAffine P) (x2, y2) := by
  have hh : x2 * P.z ^ 2 - P.x ≠ 0 := sub_ne_zero.mpr hx
  have hz3 : (addMixed P x2 y2).z ≠ 0 := by
    rw [addMixed_z]; exact mul_ne_zero (mul_ne_zero h2 hz) hh
  refine ⟨hz3, ?_⟩
  obtain ⟨x, y, z⟩ := P
  simp only at hz hx
  -- name the affine coordinates of `P` and the slope `l` of the chord: `y2 = Y1 + l·(x2 − X1)`
  obtain ⟨X1, rfl⟩ : ∃ X1, x = X1 * z ^ 2 := ⟨x / z ^ 2, (div_mul_cancel₀ _ (pow_ne_zero 2 hz)).symm⟩
  obtain ⟨Y1, rfl⟩ : ∃ Y1, y = Y1 * z ^ 3 := ⟨y / z ^ 3, (div_mul_cancel₀ _ (pow_ne_zero 3 hz)).symm⟩
  have hX : x2 - X1 ≠ 0 := by
    intro h; apply hx; rw [sub_eq_zero.mp h]
  obtain ⟨l, rfl⟩ : ∃ l, y2 = Y1 + l * (x2 - X1) :=
    ⟨(y2 - Y1) / (x2 - X1), by rw [div_mul_cancel₀ _ hX, add_sub_cancel]⟩
  simp only [toAffine, affAdd]
  rw [mul_div_cancel_right₀ _ (pow_ne_zero 2 hz), mul_div_cancel_right₀ _ (pow_ne_zero 3 hz),
    add_sub_cancel_left, mul_div_cancel_right₀ _ hX]
  refine Prod.ext (div_eq_of_eq_mul (pow_ne_zero 2 hz3) ?_) (div_eq_of_eq_mul (pow_ne_zero 3 hz3) ?_)
  · simp only [addMixed]; ring
  · simp only [addMixed]; ring

theorem addGeneric_z (P Q : Jac F) :
    (addGeneric P Q).z = P.z * Q.z * (Q.x * P.z ^ 2 - P.x * Q.z ^ 2) := by
  simp only [addGeneric]; ring

theorem addGeneric_correct (P Q : Jac F) (hz1 : P.z ≠ 0) (hz2 : Q.z ≠ 0)
    (hx : Q.x * P.z ^ 2 ≠ P.x * Q.z ^ 2) :
    (addGeneric P Q).z ≠ 0 ∧ toAffine (addGeneric P Q) = affAdd (toAffine P) (toAffine Q) := by
  have hh : Q.x * P.z ^ 2 - P.x * Q.z ^ 2 ≠ 0 := sub_ne_zero.mpr hx
  have hz3 : (addGeneric P Q).z ≠ 0 := by
    rw [addGeneric_z]; exact mul_ne_zero (mul_ne_zero hz1 hz2) hh
  refine ⟨hz3, ?_⟩
  obtain ⟨x1, y1, z1⟩ := P
  obtain ⟨x2, y2, z2⟩ := Q
  simp only at hz1 hz2 hx
  -- name the affine coordinates of `P` and `Q` and the slope `l` of the chord: `Y2 = Y1 + l·(X2 − X1)`
  obtain ⟨X1, rfl⟩ : ∃ X1, x1 = X1 * z1 ^ 2 := ⟨x1 / z1 ^ 2, (div_mul_cancel₀ _ (pow_ne_zero 2 hz1)).symm⟩
  obtain ⟨Y1, rfl⟩ : ∃ Y1, y1 = Y1 * z1 ^ 3 := ⟨y1 / z1 ^ 3, (div_mul_cancel₀ _ (pow_ne_zero 3 hz1)).symm⟩
  obtain ⟨X2, rfl⟩ : ∃ X2, x2 = X2 * z2 ^ 2 := ⟨x2 / z2 ^ 2, (div_mul_cancel₀ _ (pow_ne_zero 2 hz2)).symm⟩
  have hX : X2 - X1 ≠ 0 := by
    intro h; apply hx; rw [sub_eq_zero.mp h]; ring
  obtain ⟨l, rfl⟩ : ∃ l, y2 = (Y1 + l * (X2 - X1)) * z2 ^ 3 :=
    ⟨(y2 / z2 ^ 3 - Y1) / (X2 - X1), by
      rw [div_mul_cancel₀ _ hX, add_sub_cancel, div_mul_cancel₀ _ (pow_ne_zero 3 hz2)]⟩
  simp only [toAffine, affAdd]
  rw [mul_div_cancel_right₀ _ (pow_ne_zero 2 hz1), mul_div_cancel_right₀ _ (pow_ne_zero 3 hz1),
    mul_div_cancel_right₀ _ (pow_ne_zero 2 hz2), mul_div_cancel_right₀ _ (pow_ne_zero 3 hz2),
    add_sub_cancel_left, mul_div_cancel_right₀ _ hX]
  refine Prod.ext (div_eq_of_eq_mul (pow_ne_zero 2 hz3) ?_) (div_eq_of_eq_mul (pow_ne_zero 3 hz3) ?_)
  · simp only [addGeneric, dbl]; ring
  · simp only [addGeneric, dbl]; ring

/-- equal affine x (so `Q = ±P`): the generic formula yields `z = 0`, the implementation's encoding
of the point at infinity -/
theorem addGeneric_opposite (P Q : Jac F) (hx : Q.x * P.z ^ 2 = P.x * Q.z ^ 2) :
    (addGeneric P Q).z = 0 := by
  rw [addGeneric_z, hx, sub_self, mul_zero]

/-- in terms of affine coordinates -/
theorem addGeneric_opposite' (P Q : Jac F) (hz1 : P.z ≠ 0) (hz2 : Q.z ≠ 0)
    (hx : (toAffine P).1 = (toAffine Q).1) : (addGeneric P Q).z = 0 := by
  apply addGeneric_opposite P Q
  simp only [toAffine] at hx
  field_simp at hx
  linear_combination -hx

section Mathlib

open WeierstrassCurve WeierstrassCurve.Affine

/-- `W` is the short Weierstrass curve `y² = x³ + a x + b` -/
structure IsShort (W : WeierstrassCurve.Affine F) (a b : F) : Prop where
  a₁ : W.a₁ = 0
  a₂ : W.a₂ = 0
  a₃ : W.a₃ = 0
  a₄ : W.a₄ = a
  a₆ : W.a₆ = b

def shortCurve (a b : F) : WeierstrassCurve.Affine F := ⟨0, 0, 0, a, b⟩

theorem shortCurve_isShort (a b : F) : IsShort (shortCurve a b) a b := ⟨rfl, rfl, rfl, rfl, rfl⟩

variable {W : WeierstrassCurve.Affine F} {a b : F}

theorem equation_iff_onCurve (hW : IsShort W a b) (x y : F) :
    W.Equation x y ↔ OnCurve a b (x, y) := by
  rw [equation_iff, hW.a₁, hW.a₂, hW.a₃, hW.a₄, hW.a₆]
  simp [OnCurve]

theorem negY_eq (hW : IsShort W a b) (x y : F) : W.negY x y = -y := by
  simp [negY, hW.a₁, hW.a₃]

theorem ne_negY (hW : IsShort W a b) (h2 : (2 : F) ≠ 0) {x y : F} (hy : y ≠ 0) :
    y ≠ W.negY x y := by
  rw [negY_eq hW]
  intro h
  have : 2 * y = 0 := by linear_combination h
  exact (mul_ne_zero h2 hy) this

variable [DecidableEq F]

theorem slope_self (hW : IsShort W a b) (h2 : (2 : F) ≠ 0) {x y : F} (hy : y ≠ 0) :
    W.slope x x y y = (3 * x ^ 2 + a) / (2 * y) := by
  rw [slope_of_Y_ne rfl (ne_negY hW h2 hy), negY_eq hW, hW.a₁, hW.a₂, hW.a₄]
  congr 1 <;> ring

theorem slope_chord {x1 x2 y1 y2 : F} (hx : x1 ≠ x2) :
    W.slope x1 x2 y1 y2 = (y2 - y1) / (x2 - x1) := by
  rw [slope_of_X_ne hx, ← neg_sub y2 y1, ← neg_sub x2 x1, neg_div_neg_eq]

omit [DecidableEq F] in
theorem addX_short (hW : IsShort W a b) (x1 x2 l : F) : W.addX x1 x2 l = l ^ 2 - x1 - x2 := by
  simp [addX, hW.a₁, hW.a₂]

omit [DecidableEq F] in
theorem addY_short (hW : IsShort W a b) (x1 x2 y1 l : F) :
    W.addY x1 x2 y1 l = l * (x1 - (l ^ 2 - x1 - x2)) - y1 := by
  rw [addY, negY_eq hW, negAddY, addX_short hW]
  ring

theorem affDouble_eq_mathlib (hW : IsShort W a b) (h2 : (2 : F) ≠ 0) {x y : F} (hy : y ≠ 0) :
    affDouble a (x, y) = (W.addX x x (W.slope x x y y), W.addY x x y (W.slope x x y y)) := by
  rw [addX_short hW, addY_short hW, slope_self hW h2 hy]
  simp only [affDouble]
  refine Prod.ext ?_ ?_ <;> simp only <;> ring

theorem affAdd_eq_mathlib (hW : IsShort W a b) {x1 y1 x2 y2 : F} (hx : x1 ≠ x2) :
    affAdd (x1, y1) (x2, y2)
      = (W.addX x1 x2 (W.slope x1 x2 y1 y2), W.addY x1 x2 y1 (W.slope x1 x2 y1 y2)) := by
  rw [addX_short hW, addY_short hW, slope_chord hx]
  rfl

omit [DecidableEq F] in
private theorem some_congr {x y x' y' : F} (h : W.Nonsingular x y) (ex : x' = x) (ey : y' = y) :
    ∃ h' : W.Nonsingular x' y', Point.some x y h = Point.some x' y' h' := by
  subst ex; subst ey; exact ⟨h, rfl⟩

theorem affDouble_point (hW : IsShort W a b) (h2 : (2 : F) ≠ 0) {x y : F} (hy : y ≠ 0)
    (h : W.Nonsingular x y) :
    ∃ h' : W.Nonsingular (affDouble a (x, y)).1 (affDouble a (x, y)).2,
      Point.some x y h + Point.some x y h = Point.some _ _ h' := by
  rw [Point.add_self_of_Y_ne (ne_negY hW h2 hy)]
  have e := affDouble_eq_mathlib hW h2 (x := x) hy
  exact some_congr _ (congrArg Prod.fst e) (congrArg Prod.snd e)

theorem affAdd_point (hW : IsShort W a b) {x1 y1 x2 y2 : F} (hx : x1 ≠ x2)
    (h₁ : W.Nonsingular x1 y1) (h₂ : W.Nonsingular x2 y2) :
    ∃ h' : W.Nonsingular (affAdd (x1, y1) (x2, y2)).1 (affAdd (x1, y1) (x2, y2)).2,
      Point.some x1 y1 h₁ + Point.some x2 y2 h₂ = Point.some _ _ h' := by
  rw [Point.add_of_X_ne hx]
  have e := affAdd_eq_mathlib hW (y1 := y1) (y2 := y2) hx
  exact some_congr _ (congrArg Prod.fst e) (congrArg Prod.snd e)

theorem opposite_point (hW : IsShort W a b) {x y : F} (h₁ : W.Nonsingular x y)
    (h₂ : W.Nonsingular x (-y)) : Point.some x y h₁ + Point.some x (-y) h₂ = 0 :=
  Point.add_of_Y_eq rfl (by rw [negY_eq hW, neg_neg])

theorem double_point (hW : IsShort W a b) (h2 : (2 : F) ≠ 0) (P : Jac F) (hz : P.z ≠ 0)
    (hy : P.y ≠ 0) (h : W.Nonsingular (toAffine P).1 (toAffine P).2) :
    (double a P).z ≠ 0 ∧
    ∃ h' : W.Nonsingular (toAffine (double a P)).1 (toAffine (double a P)).2,
      Point.some _ _ h + Point.some _ _ h = Point.some _ _ h' := by
  have hc : OnCurve a b (toAffine P) := (equation_iff_onCurve hW _ _).mp h.left
  obtain ⟨hz3, e⟩ := double_correct a b P h2 hz hy hc
  refine ⟨hz3, ?_⟩
  have hy' : (toAffine P).2 ≠ 0 := div_ne_zero hy (pow_ne_zero 3 hz)
  obtain ⟨h', e'⟩ := affDouble_point hW h2 hy' h
  rw [e']
  exact some_congr h' (congrArg Prod.fst e) (congrArg Prod.snd e)

theorem addMixed_point (hW : IsShort W a b) (h2 : (2 : F) ≠ 0) (P : Jac F) (x2 y2 : F)
    (hz : P.z ≠ 0) (hx : x2 * P.z ^ 2 ≠ P.x)
    (h₁ : W.Nonsingular (toAffine P).1 (toAffine P).2) (h₂ : W.Nonsingular x2 y2) :
    (addMixed P x2 y2).z ≠ 0 ∧
    ∃ h' : W.Nonsingular (toAffine (addMixed P x2 y2)).1 (toAffine (addMixed P x2 y2)).2,
      Point.some _ _ h₁ + Point.some _ _ h₂ = Point.some _ _ h' := by
  obtain ⟨hz3, e⟩ := addMixed_correct P x2 y2 h2 hz hx
  refine ⟨hz3, ?_⟩
  have hx' : (toAffine P).1 ≠ x2 := by
    intro h; apply hx; rw [← h]; simp only [toAffine]; field_simp
  obtain ⟨h', e'⟩ := affAdd_point hW hx' h₁ h₂
  rw [e']
  exact some_congr h' (congrArg Prod.fst e) (congrArg Prod.snd e)

theorem addGeneric_point (hW : IsShort W a b) (P Q : Jac F) (hz1 : P.z ≠ 0) (hz2 : Q.z ≠ 0)
    (hx : Q.x * P.z ^ 2 ≠ P.x * Q.z ^ 2)
    (h₁ : W.Nonsingular (toAffine P).1 (toAffine P).2)
    (h₂ : W.Nonsingular (toAffine Q).1 (toAffine Q).2) :
    (addGeneric P Q).z ≠ 0 ∧
    ∃ h' : W.Nonsingular (toAffine (addGeneric P Q)).1 (toAffine (addGeneric P Q)).2,
      Point.some _ _ h₁ + Point.some _ _ h₂ = Point.some _ _ h' := by
  obtain ⟨hz3, e⟩ := addGeneric_correct P Q hz1 hz2 hx
  refine ⟨hz3, ?_⟩
  have hx' : (toAffine P).1 ≠ (toAffine Q).1 := by
    intro h; apply hx; simp only [toAffine] at h; field_simp at h; linear_combination -h
  obtain ⟨h', e'⟩ := affAdd_point hW hx' h₁ h₂
  rw [e']
  exact some_congr h' (congrArg Prod.fst e) (congrArg Prod.snd e)

/-- `addGeneric` returns `z = 0` exactly in the cases where either the sum is the point at infinity
(`Q = -P`) or the inputs are equal (`Q = P`, handled by `double` in the implementation): for points
on the curve with equal x the affine y-coordinates are equal or opposite.  (Any Weierstrass curve.) -/
theorem addGeneric_opposite_point (P Q : Jac F) (hz1 : P.z ≠ 0)
    (hz2 : Q.z ≠ 0) (hx : Q.x * P.z ^ 2 = P.x * Q.z ^ 2)
    (h₁ : W.Nonsingular (toAffine P).1 (toAffine P).2)
    (h₂ : W.Nonsingular (toAffine Q).1 (toAffine Q).2) :
    (addGeneric P Q).z = 0 ∧
    (toAffine P = toAffine Q ∨ Point.some _ _ h₁ + Point.some _ _ h₂ = 0) := by
  refine ⟨addGeneric_opposite P Q hx, ?_⟩
  have hx' : (toAffine P).1 = (toAffine Q).1 := by
    simp only [toAffine]; field_simp; linear_combination -hx
  rcases Y_eq_of_X_eq h₁.left h₂.left hx' with hy | hy
  · exact Or.inl (Prod.ext hx' hy)
  · exact Or.inr (Point.add_of_Y_eq hx' hy)

end Mathlib

end Proofs.ECFormulas
