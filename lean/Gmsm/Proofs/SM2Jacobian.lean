/-
The scalar multiplications of the SM2 curve model (`Gmsm.Model.SM2Curve`) against the group of points
of the curve over `ZMod p`, on top of the point operations of `Proofs.SM2JacobianLaw` (used by
`Gmsm/Props/C03Mult.lean`).

 * `card_eq`: the group of points over `ZMod p` has exactly n elements (G has order n, at most
   2p + 1 < 3n points, and no point of order 2 by `cubic_no_root` of Proofs/SM2Cubic.lean), so every point
   other than 0 has order n (`addOrderOf_eq_n`);
 * the dense digit array of the windowed NAF: `wnafReversed_correct`;
 * `ScalarMult`: table of small multiples, the digit loop is `C03Alg.evalStep` under `jpt`,
   `scalarMult_correct`;
 * `ScalarBaseMult`: the comb loop, its value after each row (`combV`, in base-2^32 digits `wsum`),
   the mixed additions never meet their missing cases for k < n (`row_digits`), `scalarBaseMult_correct`.
-/
import Gmsm.Proofs.SM2JacobianLaw
import Gmsm.Proofs.SM2Cubic
import Gmsm.Props.SM2Group
import Gmsm.Props.C03Alg
import Gmsm.Props.C03
import Mathlib.Algebra.BigOperators.Group.Finset.Basic
import Mathlib.FieldTheory.Finite.Basic
import Mathlib.GroupTheory.Perm.Cycle.Type
import Mathlib.SetTheory.Cardinal.Finite

namespace Proofs.SM2Jacobian
open Spec.SM2 Model.SM2Curve Model.SM2Jac Proofs.SM2Affine
open WeierstrassCurve WeierstrassCurve.Affine

open Classical in
noncomputable def rootY (x : F) : F := if h : ∃ y, W.Equation x y then Classical.choose h else 0

theorem rootY_spec {x y : F} (h : W.Equation x y) : W.Equation x (rootY x) := by
  unfold rootY
  rw [dif_pos ⟨y, h⟩]
  exact Classical.choose_spec (⟨y, h⟩ : ∃ y, W.Equation x y)

open Classical in
/-- at most two points over each x: a point is determined by x and whether y is the chosen root -/
noncomputable def code : W.Point → Option (F × Bool)
  | .zero => none
  | .some x y _ => some (x, decide (y = rootY x))

theorem code_injective : Function.Injective code := by
  intro P Q h
  match P, Q, h with
  | .zero, .zero, _ => rfl
  | .zero, .some x y hq, h => simp [code] at h
  | .some x y hp, .zero, h => simp [code] at h
  | .some x1 y1 h1, .some x2 y2 h2, h =>
    simp only [code, Option.some.injEq, Prod.mk.injEq, decide_eq_decide] at h
    obtain ⟨hx, hy⟩ := h
    subst hx
    rw [Point.some.injEq]
    refine ⟨rfl, ?_⟩
    by_cases e1 : y1 = rootY x1
    · rw [e1, ← hy.mp e1]
    · have e2 : ¬ y2 = rootY x1 := fun e => e1 (hy.mpr e)
      have hr := rootY_spec h1.left
      rcases Y_eq_of_X_eq h1.left hr rfl with c1 | c1
      · exact absurd c1 e1
      · rcases Y_eq_of_X_eq h2.left hr rfl with c2 | c2
        · exact absurd c2 e2
        · rw [c1, c2]

instance : Finite W.Point := Finite.of_injective code code_injective

theorem card_le : Nat.card W.Point ≤ 2 * p + 1 := by
  have h := Nat.card_le_card_of_injective code code_injective
  have e : Nat.card (Option (F × Bool)) = 2 * p + 1 := by
    rw [Nat.card_eq_fintype_card, Fintype.card_option, Fintype.card_prod, ZMod.card, Fintype.card_bool]
    omega
  omega

theorem n_dvd_card : n ∣ Nat.card W.Point := by
  rw [← Props.SM2Group.addOrderOf_G]; exact addOrderOf_dvd_natCard _

theorem no_order_two (Q : W.Point) (h : addOrderOf Q = 2) : False := by
  have h2 : 2 • Q = 0 := by rw [← h]; exact addOrderOf_nsmul_eq_zero Q
  have hne : Q ≠ 0 := by
    intro h0; rw [h0, addOrderOf_zero] at h; omega
  match Q, h2, hne with
  | .zero, _, hne => exact hne rfl
  | .some x y hN, h2, _ =>
    have hneg : Point.some x y hN = - Point.some x y hN := by
      rw [two_nsmul] at h2
      exact eq_neg_of_add_eq_zero_left h2
    rw [Point.neg_some, Point.some.injEq, ECFormulas.negY_eq W_short] at hneg
    have hy : y = 0 := by
      have : (2 : F) * y = 0 := by linear_combination hneg.2
      rcases mul_eq_zero.mp this with h | h
      · exact absurd h two_ne_zero_F
      · exact h
    have he := (ECFormulas.equation_iff_onCurve W_short x y).mp hN.left
    rw [ECFormulas.OnCurve, hy] at he
    exact cubic_no_root x (by linear_combination -he)

/-- #E(F_p) = n: n divides the group order (G has order n), the order is at most 2p + 1 < 3n, and it is
    not 2n because there is no point of order 2 (Cauchy) -/
theorem card_eq : Nat.card W.Point = n := by
  obtain ⟨c, hc⟩ := n_dvd_card
  have hpos : 0 < Nat.card W.Point := Nat.card_pos
  have hle := card_le
  have h3 : 2 * p + 1 < n * 3 := by decide
  have hc12 : c = 1 ∨ c = 2 := by
    rcases c with _ | _ | _ | c
    · omega
    · left; rfl
    · right; rfl
    · exfalso
      have : n * 3 ≤ n * (c + 1 + 1 + 1) := Nat.mul_le_mul_left n (by omega)
      omega
  rcases hc12 with h | h
  · rw [hc, h, Nat.mul_one]
  · exfalso
    have : Fact (Nat.Prime 2) := ⟨Nat.prime_two⟩
    obtain ⟨Q, hQ⟩ := exists_prime_addOrderOf_dvd_card' (G := W.Point) 2 (by rw [hc, h]; exact ⟨n, Nat.mul_comm _ _⟩)
    exact no_order_two Q hQ

theorem n_nsmul (Q : W.Point) : n • Q = 0 := by
  rw [← card_eq]; exact card_nsmul_eq_zero'

theorem addOrderOf_eq_n {Q : W.Point} (h : Q ≠ 0) : addOrderOf Q = n :=
  addOrderOf_eq_prime (n_nsmul Q) h

theorem nsmul_eq_zero_iff {Q : W.Point} (h : Q ≠ 0) (m : Nat) : m • Q = 0 ↔ n ∣ m := by
  rw [← addOrderOf_eq_n h]; exact addOrderOf_dvd_iff_nsmul_eq_zero.symm

open Props.C03Alg (dval msbVal)

/-- invariant of the accumulator of `wnafLoop`: strictly decreasing positions below `bound`, digits of
    absolute value ≤ 7 -/
def WGood (bound : Nat) (acc : List (Nat × Int)) : Prop :=
  acc.Pairwise (fun p q => p.1 > q.1) ∧ ∀ q ∈ acc, q.1 < bound ∧ q.2.natAbs ≤ 7

theorem WGood.mono {b b' : Nat} {acc : List (Nat × Int)} (h : WGood b acc) (hb : b ≤ b') : WGood b' acc :=
  ⟨h.1, fun q hq => ⟨Nat.lt_of_lt_of_le (h.2 q hq).1 hb, (h.2 q hq).2⟩⟩

/-- the digit emitted for a window value `m` whose parity differs from the carry (so `m + carry` is
    odd, never 8) is, after the sign adjustment, at most 7 in absolute value (all 16 × 2 cases) -/
theorem window_digit_bound : ∀ (m : Fin 16) (carry : Bool), ((m.val % 2 == 1) == carry) = false →
    (let digit1 : Int := (m.val : Nat) + (if carry then 1 else 0)
     if (digit1.toNat / 8) % 2 == 1 then digit1 - 16 else digit1).natAbs ≤ 7 := by decide

theorem wnafLoop_good (fuel k : Nat) (carry : Bool) (pos length : Nat) (acc ds : List (Nat × Int))
    (hg : WGood (length + pos) acc) (h : wnafLoop fuel k carry pos length acc = some ds) :
    ∃ b, WGood b ds := by
  induction fuel generalizing k carry pos length acc with
  | zero => simp [wnafLoop] at h
  | succ fuel ih =>
    unfold wnafLoop at h
    by_cases hexit : pos > bitLen k
    · simp only [hexit, if_true, Option.some.injEq] at h
      subst h; exact ⟨_, hg⟩
    · simp only [hexit, if_false] at h
      by_cases hskip : ((k / 2 ^ pos % 2 == 1) == carry) = true
      · simp only [hskip, if_true] at h
        exact ih k carry (pos + 1) length acc (hg.mono (by omega)) h
      · simp only [hskip, Bool.false_eq_true, if_false] at h
        refine ih _ _ 4 (length + pos) _ ?_ h
        constructor
        · rw [List.pairwise_cons]
          exact ⟨fun q hq => (hg.2 q hq).1, hg.1⟩
        · intro q hq
          rw [List.mem_cons] at hq
          rcases hq with rfl | hq
          · refine ⟨by simp, ?_⟩
            have hpar : (k / 2 ^ pos % 16) % 2 = k / 2 ^ pos % 2 := by omega
            exact window_digit_bound ⟨k / 2 ^ pos % 16, Nat.mod_lt _ (by decide)⟩ carry
              (by rw [hpar]; exact Bool.eq_false_iff.mpr hskip)
          · exact (hg.mono (Nat.le_add_right _ 4)).2 q hq

theorem wnafDigits_good (k : Nat) : ∃ b, WGood b (wnafDigits k) := by
  unfold wnafDigits
  cases hr : wnafLoop (2 * bitLen k + 12) k false 0 0 [] with
  | none => exact ⟨0, List.Pairwise.nil, by simp⟩
  | some ds => exact wnafLoop_good _ _ _ _ _ _ ds ⟨List.Pairwise.nil, by simp⟩ hr

/-- the digit the dense array holds at position `i` -/
def digitAt (ds : List (Nat × Int)) (i : Nat) : Int := ((ds.find? (·.1 == i)).map (·.2)).getD 0

theorem digitAt_nil (i : Nat) : digitAt [] i = 0 := rfl

theorem digitAt_cons (p : Nat) (d : Int) (rest : List (Nat × Int)) (i : Nat) :
    digitAt ((p, d) :: rest) i = if p = i then d else digitAt rest i := by
  unfold digitAt
  rw [List.find?_cons]
  by_cases h : p = i
  · subst h; simp
  · have hb : (p == i) = false := by simpa using h
    simp only [hb, if_neg h]

theorem digitAt_of_not_mem (ds : List (Nat × Int)) (i : Nat) (h : ∀ q ∈ ds, q.1 ≠ i) : digitAt ds i = 0 := by
  induction ds with
  | nil => rfl
  | cons q rest ih =>
    obtain ⟨p, d⟩ := q
    rw [digitAt_cons, if_neg (h (p, d) (List.mem_cons_self)), ih (fun q hq => h q (List.mem_cons_of_mem _ hq))]

theorem digitAt_bound (ds : List (Nat × Int)) (i : Nat) (h : ∀ q ∈ ds, q.2.natAbs ≤ 7) :
    (digitAt ds i).natAbs ≤ 7 := by
  induction ds with
  | nil => simp [digitAt_nil]
  | cons q rest ih =>
    obtain ⟨p, d⟩ := q
    rw [digitAt_cons]
    split
    · exact h (p, d) List.mem_cons_self
    · exact ih (fun q hq => h q (List.mem_cons_of_mem _ hq))

open Finset in
theorem sum_digitAt (ds : List (Nat × Int)) (m : Nat) (hp : ds.Pairwise (fun p q => p.1 > q.1))
    (hm : ∀ q ∈ ds, q.1 < m) :
    ∑ i ∈ range m, digitAt ds i * 2 ^ i = dval ds := by
  induction ds with
  | nil => simp [digitAt_nil, dval]
  | cons q rest ih =>
    obtain ⟨p, d⟩ := q
    rw [List.pairwise_cons] at hp
    have hrest := ih hp.2 (fun q hq => hm q (List.mem_cons_of_mem _ hq))
    have h0 : digitAt rest p = 0 :=
      digitAt_of_not_mem rest p (fun q hq => Nat.ne_of_lt (hp.1 q hq))
    have hpm : p ∈ range m := mem_range.mpr (hm (p, d) List.mem_cons_self)
    have e : ∀ i ∈ range m, digitAt ((p, d) :: rest) i * 2 ^ i
        = digitAt rest i * 2 ^ i + (if p = i then d * 2 ^ p else 0) := by
      intro i _
      rw [digitAt_cons]
      by_cases h : p = i
      · subst h; rw [if_pos rfl, if_pos rfl, h0]; ring
      · rw [if_neg h, if_neg h, add_zero]
    rw [sum_congr rfl e, sum_add_distrib, hrest, sum_ite_eq, if_pos hpm]
    simp only [dval, List.map_cons, List.sum_cons]
    ring

open Finset in
theorem foldl_dense (g : Nat → Int) (m : Nat) (v : Int) :
    ((List.range m).reverse.map g).foldl (fun v d => 2 * v + d) v
      = v * 2 ^ m + ∑ i ∈ range m, g i * 2 ^ i := by
  induction m generalizing v with
  | zero => simp
  | succ m ih =>
    rw [List.range_succ, List.reverse_append, List.reverse_singleton, List.singleton_append,
      List.map_cons, List.foldl_cons, ih, sum_range_succ, pow_succ]
    ring

theorem le_foldl_max (ds : List (Nat × Int)) (m0 : Nat) :
    m0 ≤ ds.foldl (fun m (p : Nat × Int) => max m p.1) m0 ∧
    ∀ q ∈ ds, q.1 ≤ ds.foldl (fun m (p : Nat × Int) => max m p.1) m0 := by
  induction ds generalizing m0 with
  | nil => simp
  | cons q rest ih =>
    rw [List.foldl_cons]
    obtain ⟨h1, h2⟩ := ih (max m0 q.1)
    refine ⟨le_trans (le_max_left _ _) h1, ?_⟩
    intro r hr
    rw [List.mem_cons] at hr
    rcases hr with rfl | hr
    · exact le_trans (le_max_right _ _) h1
    · exact h2 r hr

theorem wnafReversed_correct (k : Nat) :
    msbVal (wnafReversed k) = k ∧ ∀ d ∈ wnafReversed k, d.natAbs ≤ 7 := by
  unfold wnafReversed
  by_cases hk : k = 0
  · subst hk; simp [msbVal]
  · rw [if_neg hk]
    obtain ⟨b, hp, hb⟩ := wnafDigits_good k
    have htop := (le_foldl_max (wnafDigits k) 0).2
    constructor
    · show ((List.range _).reverse.map (digitAt (wnafDigits k))).foldl (fun v d => 2 * v + d) 0 = _
      rw [foldl_dense, zero_mul, zero_add,
        sum_digitAt _ _ hp (fun q hq => Nat.lt_succ_of_le (htop q hq)), Props.C03Alg.wnaf_value]
    · intro d hd
      change d ∈ (List.range _).reverse.map (digitAt (wnafDigits k)) at hd
      rw [List.mem_map] at hd
      obtain ⟨i, _, rfl⟩ := hd
      exact digitAt_bound _ _ (fun q hq => (hb q hq).2)

open Props.C03Alg (evalStep windowEval)

theorem small_nsmul_ne_zero {Q : W.Point} (hQ : Q ≠ 0) {m : Nat} (h0 : 0 < m) (hm : m < 8) :
    m • Q ≠ 0 := by
  intro h
  have := Nat.le_of_dvd h0 ((nsmul_eq_zero_iff hQ m).mp h)
  have : 8 < n := by decide
  omega

theorem small_nsmul_ne_self {Q : W.Point} (hQ : Q ≠ 0) {m : Nat} (h1 : 1 < m) (hm : m < 9) :
    m • Q ≠ Q := by
  intro h
  have e : m • Q = (m - 1) • Q + Q := by
    rw [← succ_nsmul]; congr 1; omega
  rw [e, add_eq_right] at h
  exact small_nsmul_ne_zero hQ (by omega) (by omega) h

theorem double_nsmul {A : J} {Q : W.Point} {m : Nat} (v : JValid A) (e : jpt A = m • Q) :
    JValid (double fa A) ∧ jpt (double fa A) = (2 * m) • Q := by
  obtain ⟨v', e'⟩ := double_correct_J v
  exact ⟨v', by rw [e', e, ← add_nsmul, two_mul]⟩

/-- the precomputed table of `sm2P256ScalarMult`: entries 0, P, 2P, …, 7P -/
def smTable (x y : Nat) : List J :=
  let p1 : J := ⟨Fp.ofNat x, Fp.ofNat y, one⟩
  let X := Fp.ofNat x; let Y := Fp.ofNat y
  let p2 := double fa p1
  let p3 := addMixed p2 X Y
  let p4 := double fa p2
  let p5 := addMixed p4 X Y
  let p6 := double fa p3
  let p7 := addMixed p6 X Y
  [inf, p1, p2, p3, p4, p5, p6, p7]

def signedEntry (table : List J) (d : Int) : J :=
  let e := table.getD d.natAbs inf
  if d > 0 then e else ⟨e.x, e.y.neg, e.z⟩

/-- one iteration of the digit loop of `sm2P256ScalarMult` -/
def smStep (table : List J) (st : J × Bool × Nat) (d : Int) : J × Bool × Nat :=
  if d = 0 then (st.1, st.2.1, st.2.2 + 1)
  else if st.2.1 then (signedEntry table d, false, 0)
  else (pointAdd (double fa (dbls st.2.2 st.1)) (signedEntry table d), false, 0)

theorem scalarMultDigits_eq (x y : Nat) (digits : List Int) :
    scalarMultDigits x y digits =
      dbls (digits.foldl (smStep (smTable x y)) (inf, true, 0)).2.2
        (digits.foldl (smStep (smTable x y)) (inf, true, 0)).1 := rfl

/-- uses that P has order n > 7 -/
theorem smTable_correct {x y : Nat} (h : Valid (some (x, y))) :
    ∀ m, m ≤ 7 → JValid ((smTable x y).getD m inf) ∧
      jpt ((smTable x y).getD m inf) = m • pt (some (x, y)) := by
  have hQ := pt_some_ne_zero h
  have hP : Valid (some ((Fp.ofNat x).v, (Fp.ofNat y).v)) := by
    rw [ofNat_of_lt h.1, ofNat_of_lt h.2.1]; exact h
  have eP : pt (some ((Fp.ofNat x).v, (Fp.ofNat y).v)) = pt (some (x, y)) := by
    rw [ofNat_of_lt h.1, ofNat_of_lt h.2.1]
  have t1 := affine_valid h
  generalize pt (some (x, y)) = Q at hQ eP t1 ⊢
  have add : ∀ {A : J} {m : Nat}, JValid A ∧ jpt A = m • Q → 1 < m → m < 8 →
      JValid (addMixed A (Fp.ofNat x) (Fp.ofNat y)) ∧
        jpt (addMixed A (Fp.ofNat x) (Fp.ofNat y)) = (m + 1) • Q := fun ⟨v, e⟩ h1 h8 => by
    obtain ⟨v', e'⟩ := addMixed_correct_J v hP
      (by rw [e]; exact small_nsmul_ne_zero hQ (by omega) h8)
      (by rw [e, eP]; exact small_nsmul_ne_self hQ h1 (by omega))
    exact ⟨v', by rw [e', e, eP, succ_nsmul]⟩
  rw [← one_nsmul Q] at t1
  have t2 := double_nsmul t1.1 t1.2
  have t3 := add t2 (by decide) (by decide)
  have t4 := double_nsmul t2.1 t2.2
  have t5 := add t4 (by decide) (by decide)
  have t6 := double_nsmul t3.1 t3.2
  have t7 := add t6 (by decide) (by decide)
  intro m hm
  rcases m with _ | _ | _ | _ | _ | _ | _ | _ | m
  · exact ⟨jvalid_inf, by rw [zero_nsmul]; exact jpt_inf⟩
  · exact t1
  · exact t2
  · exact t3
  · exact t4
  · exact t5
  · exact t6
  · exact t7
  · omega

theorem entry_correct {table : List J} {Q : W.Point}
    (htab : ∀ m, m ≤ 7 → JValid (table.getD m inf) ∧ jpt (table.getD m inf) = m • Q)
    {d : Int} (hd : d.natAbs ≤ 7) :
    JValid (signedEntry table d) ∧ jpt (signedEntry table d) = d • Q := by
  obtain ⟨v, e⟩ := htab d.natAbs hd
  unfold signedEntry
  by_cases hpos : d > 0
  · simp only [if_pos hpos]
    refine ⟨v, ?_⟩
    rw [e, ← natCast_zsmul, Int.natCast_natAbs, abs_of_pos hpos]
  · simp only [if_neg hpos]
    obtain ⟨v', e'⟩ := neg_correct v
    refine ⟨v', ?_⟩
    rw [e', e, ← natCast_zsmul, Int.natCast_natAbs, abs_of_nonpos (by omega), neg_zsmul, neg_neg]

/-- the digit loop of `sm2P256ScalarMult` is the abstract window evaluation `evalStep` under `jpt` -/
theorem smStep_foldl {table : List J} {Q : W.Point}
    (htab : ∀ m, m ≤ 7 → JValid (table.getD m inf) ∧ jpt (table.getD m inf) = m • Q)
    (digits : List Int) (hd : ∀ d ∈ digits, d.natAbs ≤ 7)
    (A : J) (isInf : Bool) (z : Nat) (hv : JValid A) (hi : isInf = true → jpt A = 0) :
    JValid (digits.foldl (smStep table) (A, isInf, z)).1 ∧
    jpt (digits.foldl (smStep table) (A, isInf, z)).1 = (digits.foldl (evalStep Q) (jpt A, z)).1 ∧
    (digits.foldl (smStep table) (A, isInf, z)).2.2 = (digits.foldl (evalStep Q) (jpt A, z)).2 := by
  induction digits generalizing A isInf z with
  | nil => exact ⟨hv, rfl, rfl⟩
  | cons d ds ih =>
    rw [List.foldl_cons, List.foldl_cons]
    have hds : ∀ d ∈ ds, d.natAbs ≤ 7 := fun d' h => hd d' (List.mem_cons_of_mem _ h)
    have hd7 := hd d List.mem_cons_self
    by_cases h0 : d = 0
    · have e1 : smStep table (A, isInf, z) d = (A, isInf, z + 1) := by rw [smStep, if_pos h0]
      have e2 : evalStep Q (jpt A, z) d = (jpt A, z + 1) := by rw [evalStep, if_pos h0]
      rw [e1, e2]
      exact ih hds A isInf (z + 1) hv hi
    · obtain ⟨ve, ee⟩ := entry_correct htab hd7
      obtain ⟨X, e1, vX, eX⟩ : ∃ X, smStep table (A, isInf, z) d = (X, false, 0) ∧ JValid X ∧
          jpt X = (2 : Int) ^ (z + 1) • jpt A + d • Q := by
        by_cases hinf : isInf = true
        · exact ⟨_, by rw [smStep, if_neg h0, if_pos hinf], ve, by rw [ee, hi hinf, zsmul_zero, zero_add]⟩
        · obtain ⟨vd, ed⟩ := dbls_correct hv z
          obtain ⟨vd2, ed2⟩ := double_correct_J vd
          obtain ⟨va, ea⟩ := pointAdd_correct vd2 ve
          exact ⟨_, by rw [smStep, if_neg h0, if_neg hinf], va,
            by rw [ea, ed2, ed, ee, pow_succ, mul_smul, two_zsmul, zsmul_add]⟩
      rw [e1, evalStep, if_neg h0, ← eX]
      exact ih hds X false 0 vX (by simp)

theorem scalarMultDigits_correct {x y : Nat} (h : Valid (some (x, y))) (digits : List Int)
    (hd : ∀ d ∈ digits, d.natAbs ≤ 7) :
    JValid (scalarMultDigits x y digits) ∧
    jpt (scalarMultDigits x y digits) = msbVal digits • pt (some (x, y)) := by
  rw [scalarMultDigits_eq]
  obtain ⟨v, e, ez⟩ := smStep_foldl (smTable_correct h) digits hd inf true 0 jvalid_inf
    (fun _ => jpt_inf)
  obtain ⟨vd, ed⟩ := dbls_correct v (digits.foldl (smStep (smTable x y)) (inf, true, 0)).2.2
  refine ⟨vd, ?_⟩
  rw [ed, e, ez, ← Props.C03Alg.windowEval_correct, windowEval, jpt_inf]


/-- scalars may be reduced modulo n on every valid point (the group has order n) -/
theorem smul_mod_n {P : Pt} (hP : Valid P) {k : Nat} (hk : k < 2 ^ 600) : smul (k % n) P = smul k P :=
  Props.SM2Group.smul_mod_of_order hP (n_nsmul _) hk

/-- `Curve.ScalarMult`: for every point on the curve (reduced coordinates) and every scalar k, the
    result is the encoding of [k mod n]P computed by the specification -/
theorem scalarMult_correct {x y : Nat} (h : Valid (some (x, y))) (k : Nat) :
    apiScalarMult x y k = enc (smul (k % n) (some (x, y))) := by
  have hk : k % n < 2 ^ 600 := lt_of_lt_n (Nat.mod_lt _ n_pos)
  obtain ⟨hval, hbound⟩ := wnafReversed_correct (k % n)
  obtain ⟨v, e⟩ := scalarMultDigits_correct h (wnafReversed (k % n)) hbound
  rw [hval, natCast_zsmul] at e
  exact toAffine_eq_enc v (smul_valid h hk) (by rw [e, pt_smul h hk])

open Props.C03 (tableScalar tableScalar_range)

def combIdx (k i jj : Nat) : Nat :=
  bit k (31 - i + jj * 32) + 2 * bit k (95 - i + jj * 32) + 4 * bit k (159 - i + jj * 32)
    + 8 * bit k (223 - i + jj * 32)

def combAddIdx (st : J × Bool) (jj idx : Nat) : J × Bool :=
  if idx = 0 then st
  else if st.2 then (⟨(tableEntry jj idx).1, (tableEntry jj idx).2, one⟩, false)
  else (addMixed st.1 (tableEntry jj idx).1 (tableEntry jj idx).2, false)

def combStep (k : Nat) (st : J × Bool) (i : Nat) : J × Bool :=
  combAddIdx (combAddIdx (if i ≠ 0 then double fa st.1 else st.1, st.2) 0 (combIdx k i 0)) 1 (combIdx k i 1)

theorem scalarBaseMult_eq (k : Nat) :
    scalarBaseMult k = ((List.range 32).foldl (combStep k) (inf, true)).1 := rfl

/-- `Σ_{c<m} f c · 2^(32·c)`: the number with base-2^32 digits `f 0, f 1, …` -/
def wsum (f : Nat → Nat) : Nat → Nat
  | 0 => 0
  | m + 1 => f 0 + 2 ^ 32 * wsum (fun c => f (c + 1)) m

theorem wsum_add (f g : Nat → Nat) (m : Nat) :
    wsum (fun c => f c + g c) m = wsum f m + wsum g m := by
  induction m generalizing f g with
  | zero => rfl
  | succ m ih => simp only [wsum, ih]; omega

theorem wsum_mul (a : Nat) (f : Nat → Nat) (m : Nat) : wsum (fun c => a * f c) m = a * wsum f m := by
  induction m generalizing f with
  | zero => rfl
  | succ m ih => simp only [wsum, ih]; ring

theorem wsum_le {f g : Nat → Nat} (h : ∀ c, f c ≤ g c) (m : Nat) : wsum f m ≤ wsum g m := by
  induction m generalizing f g with
  | zero => exact Nat.le_refl _
  | succ m ih =>
    have := ih (fun c => h (c + 1)); have := h 0
    simp only [wsum]; omega

theorem wsum_inj {f g : Nat → Nat} (hf : ∀ c, f c < 2 ^ 32) (hg : ∀ c, g c < 2 ^ 32) {m : Nat}
    (h : wsum f m = wsum g m) : ∀ c < m, f c = g c := by
  induction m generalizing f g with
  | zero => intro c hc; omega
  | succ m ih =>
    simp only [wsum] at h
    have := hf 0; have := hg 0
    intro c hc
    rcases c with _ | c
    · omega
    · exact ih (fun c => hf (c + 1)) (fun c => hg (c + 1)) (by omega) c (by omega)

def hw (k c : Nat) : Nat := k / 2 ^ (32 * c) % 2 ^ 32

theorem hw_lt (k c : Nat) : hw k c < 2 ^ 32 := Nat.mod_lt _ (by decide)

theorem wsum_hw (k m : Nat) : wsum (hw k) m = k % 2 ^ (32 * m) := by
  induction m generalizing k with
  | zero => simp [wsum, Nat.mod_one]
  | succ m ih =>
    have e : (fun c => hw k (c + 1)) = hw (k / 2 ^ 32) := by
      funext c
      show k / 2 ^ (32 * (c + 1)) % 2 ^ 32 = k / 2 ^ 32 / 2 ^ (32 * c) % 2 ^ 32
      rw [Nat.div_div_eq_div_mul, ← Nat.pow_add, Nat.mul_succ, Nat.add_comm]
    rw [wsum, e, ih, Nat.mul_succ, Nat.pow_add, Nat.mul_comm (2 ^ (32 * m)), Nat.mod_mul]
    simp [hw]

theorem bit_hw (k c s : Nat) (hs : s < 32) : bit k (32 * c + s) = hw k c / 2 ^ s % 2 := by
  unfold bit hw
  rw [Nat.pow_add, ← Nat.div_div_eq_div_mul]
  generalize k / 2 ^ (32 * c) = m
  have e : m % 2 ^ 32 / 2 ^ s = m / 2 ^ s % 2 ^ (32 - s) := by
    rw [← Nat.mod_mul_right_div_self, ← Nat.pow_add]
    congr 3; omega
  rw [e, Nat.mod_mod_of_dvd]
  exact dvd_pow_self 2 (by omega)

/-- value accumulated by the comb after `i` rows: the top `i` bits of each of the eight 32-bit words -/
def combV (k i : Nat) : Nat := wsum (fun c => hw k c / 2 ^ (32 - i)) 8

theorem combV_zero (k : Nat) : combV k 0 = 0 := by
  have e : (fun c => hw k c / 2 ^ (32 - 0)) = fun c => 0 * hw k c := by
    funext c; rw [Nat.zero_mul]; exact Nat.div_eq_of_lt (hw_lt k c)
  rw [combV, e, wsum_mul, Nat.zero_mul]

theorem combV_le (k i : Nat) (hk : k < 2 ^ 256) : combV k i ≤ k := by
  have h := wsum_le (fun c => Nat.div_le_self (hw k c) (2 ^ (32 - i))) 8
  rwa [wsum_hw, Nat.mod_eq_of_lt hk] at h

theorem combV_32 (k : Nat) (hk : k < 2 ^ 256) : combV k 32 = k := by
  have e : (fun c => hw k c / 2 ^ (32 - 32)) = hw k := by funext c; simp
  rw [combV, e, wsum_hw, Nat.mod_eq_of_lt hk]

theorem tableScalar_eq (j idx : Nat) : tableScalar j idx =
    (idx % 2) * 2 ^ (32 * j) + (idx / 2 % 2) * 2 ^ (64 + 32 * j) + (idx / 4 % 2) * 2 ^ (128 + 32 * j)
      + (idx / 8 % 2) * 2 ^ (192 + 32 * j) := by
  simp [tableScalar, List.range_succ]
  ring

def idxOf (β : Nat → Nat) (jj : Nat) : Nat := β jj + 2 * β (2 + jj) + 4 * β (4 + jj) + 8 * β (6 + jj)

/-- the table scalar of a 4-bit index, in base-2^32 digits: bit `b` of the index is digit `2·b + j` -/
theorem tableScalar_bits (j : Nat) (hj : j < 2) (β : Nat → Nat) (hβ : ∀ c, β c ≤ 1) :
    tableScalar j (idxOf β j) = wsum (fun c => if c % 2 = j then β c else 0) 8 := by
  have b0 := hβ j; have b1 := hβ (2 + j); have b2 := hβ (4 + j); have b3 := hβ (6 + j)
  generalize hx : idxOf β j = x
  unfold idxOf at hx
  have e : x % 2 = β j ∧ x / 2 % 2 = β (2 + j) ∧ x / 4 % 2 = β (4 + j) ∧ x / 8 % 2 = β (6 + j) := by
    omega
  rw [tableScalar_eq, e.1, e.2.1, e.2.2.1, e.2.2.2]
  obtain rfl | rfl : j = 0 ∨ j = 1 := by omega
  · simp only [wsum, Nat.reduceAdd, Nat.reduceMod, Nat.reduceEqDiff, ↓reduceIte]; ring
  · simp only [wsum, Nat.reduceAdd, Nat.reduceMod, Nat.reduceEqDiff, ↓reduceIte]; ring

/-- a number whose digits at the positions of table `jj` are even is the scalar of no entry of that
    table but the empty one -/
theorem idxOf_eq_zero {w β : Nat → Nat} {jj : Nat} (hj : jj < 2) (hw : ∀ c, w c < 2 ^ 32)
    (hβ : ∀ c, β c ≤ 1) (hpar : ∀ c, c % 2 = jj → w c % 2 = 0)
    (h : wsum w 8 = wsum (fun c => if c % 2 = jj then β c else 0) 8) : idxOf β jj = 0 := by
  have hz : ∀ c, c < 8 ∧ c % 2 = jj → β c = 0 := fun c hc => by
    have e := wsum_inj hw (fun c => by have := hβ c; split <;> omega) h c hc.1
    rw [if_pos hc.2] at e
    have := hpar c hc.2; have := hβ c
    omega
  unfold idxOf
  rw [hz jj (by omega), hz (2 + jj) (by omega), hz (4 + jj) (by omega), hz (6 + jj) (by omega)]

/-- one row of the comb on digits: every word `u c` is doubled and receives a next bit `β c`; the bits
    of the even words make the scalar of table 0, those of the odd words the scalar of table 1, and
    neither addition meets the doubling case of the mixed addition (the table point has a bit where
    the accumulator has none) -/
theorem row_digits (u β : Nat → Nat) (hb : ∀ c, 2 * u c + β c < 2 ^ 32) (hβ : ∀ c, β c ≤ 1) :
    wsum (fun c => 2 * u c + β c) 8
      = 2 * wsum u 8 + tableScalar 0 (idxOf β 0) + tableScalar 1 (idxOf β 1) ∧
    (idxOf β 0 ≠ 0 → 2 * wsum u 8 ≠ tableScalar 0 (idxOf β 0)) ∧
    (idxOf β 1 ≠ 0 → 2 * wsum u 8 + tableScalar 0 (idxOf β 0) ≠ tableScalar 1 (idxOf β 1)) := by
  have t0 := tableScalar_bits 0 (by decide) β hβ
  have t1 := tableScalar_bits 1 (by decide) β hβ
  rw [t0, t1, ← wsum_mul]
  refine ⟨?_, fun h0 heq => h0 ?_, fun h1 heq => h1 ?_⟩
  · rw [Nat.add_assoc, ← wsum_add, ← wsum_add]
    congr 1; funext c
    rcases Nat.mod_two_eq_zero_or_one c with h | h <;> simp [h]
  · exact idxOf_eq_zero (by decide) (fun c => by have := hb c; omega) hβ
      (fun c _ => Nat.mul_mod_right 2 _) heq
  · rw [← wsum_add] at heq
    exact idxOf_eq_zero (by decide) (fun c => by have := hb c; have := hβ c; split <;> omega) hβ
      (fun c hc => by rw [if_neg (by omega)]; omega) heq

theorem combIdx_eq (k i jj : Nat) (hi : i < 32) :
    combIdx k i jj = idxOf (fun c => hw k c / 2 ^ (31 - i) % 2) jj := by
  unfold combIdx idxOf
  rw [show 31 - i + jj * 32 = 32 * jj + (31 - i) by omega,
    show 95 - i + jj * 32 = 32 * (2 + jj) + (31 - i) by omega,
    show 159 - i + jj * 32 = 32 * (4 + jj) + (31 - i) by omega,
    show 223 - i + jj * 32 = 32 * (6 + jj) + (31 - i) by omega,
    bit_hw _ _ _ (by omega), bit_hw _ _ _ (by omega), bit_hw _ _ _ (by omega), bit_hw _ _ _ (by omega)]

theorem row_arith (k i : Nat) (hi : i < 32) :
    combV k (i + 1) = 2 * combV k i + tableScalar 0 (combIdx k i 0) + tableScalar 1 (combIdx k i 1) ∧
    (combIdx k i 0 ≠ 0 → 2 * combV k i ≠ tableScalar 0 (combIdx k i 0)) ∧
    (combIdx k i 1 ≠ 0 → 2 * combV k i + tableScalar 0 (combIdx k i 0) ≠ tableScalar 1 (combIdx k i 1)) := by
  have hd : ∀ c, hw k c / 2 ^ (31 - i) = 2 * (hw k c / 2 ^ (32 - i)) + hw k c / 2 ^ (31 - i) % 2 :=
    fun c => by
      have := Props.C03Alg.div_pow_succ (hw k c) (31 - i)
      rwa [show 31 - i + 1 = 32 - i by omega] at this
  have h := row_digits (fun c => hw k c / 2 ^ (32 - i)) (fun c => hw k c / 2 ^ (31 - i) % 2)
    (fun c => by rw [← hd]; exact Nat.lt_of_le_of_lt (Nat.div_le_self _ _) (hw_lt k c))
    (fun c => Nat.le_of_lt_succ (Nat.mod_lt _ (by decide)))
  rw [← funext hd, ← combIdx_eq k i 0 hi, ← combIdx_eq k i 1 hi] at h
  rw [combV, show 32 - (i + 1) = 31 - i by omega]
  exact h

theorem combIdx_le (k i jj : Nat) : combIdx k i jj ≤ 15 := by
  unfold combIdx bit; omega

/-- `Props.C03.table_ok` and `tableScalar_range` for indices in `Nat` -/
theorem comb_entry_ok (jj idx : Nat) (hj : jj < 2) (h0 : idx ≠ 0) (h15 : idx ≤ 15) :
    (0 < tableScalar jj idx ∧ tableScalar jj idx < n) ∧
    Valid (some ((tableEntry jj idx).1.v, (tableEntry jj idx).2.v)) ∧
    pt (some ((tableEntry jj idx).1.v, (tableEntry jj idx).2.v)) = tableScalar jj idx • pt G := by
  have hidx : idx = (⟨idx - 1, by omega⟩ : Fin 15).val + 1 := by simp only; omega
  have hjj : jj = (⟨jj, hj⟩ : Fin 2).val := rfl
  have hok := Props.C03.table_ok ⟨jj, hj⟩ ⟨idx - 1, by omega⟩
  have hr := tableScalar_range ⟨jj, hj⟩ ⟨idx - 1, by omega⟩
  rw [← hidx, ← hjj] at hok hr
  refine ⟨hr, ?_⟩
  have hlt := lt_of_lt_n hr.2
  have hv := smul_valid valid_G hlt
  have he := pt_smul valid_G hlt
  have hm : tableEntry jj idx = (⟨(Props.C03.tableEntry jj idx).1⟩, ⟨(Props.C03.tableEntry jj idx).2⟩) := rfl
  rw [hm, ← hok]
  obtain ⟨x, y, hs, _⟩ := Props.SM2Group.smul_G_some hr.1 hr.2
  rw [hs] at hv he ⊢
  exact ⟨hv, he⟩

/-- invariant of the comb loop: the accumulator is valid and stands for V·G, the `isInf` flag is set
    exactly when V = 0, and V < n -/
def CInv (st : J × Bool) (V : Nat) : Prop :=
  JValid st.1 ∧ jpt st.1 = V • pt G ∧ (st.2 = true ↔ V = 0) ∧ V < n

theorem cinv_double {st : J × Bool} {V : Nat} (h : CInv st V) (hV : 2 * V < n) :
    CInv (double fa st.1, st.2) (2 * V) := by
  obtain ⟨v2, e2⟩ := double_nsmul h.1 h.2.1
  refine ⟨v2, e2, ?_, hV⟩
  show st.2 = true ↔ 2 * V = 0
  rw [h.2.2.1]; omega

theorem cinv_add {st : J × Bool} {V : Nat} (h : CInv st V) (jj idx : Nat) (hj : jj < 2) (h15 : idx ≤ 15)
    (hlt : V + tableScalar jj idx < n) (hne : idx ≠ 0 → V ≠ tableScalar jj idx) :
    CInv (combAddIdx st jj idx) (V + tableScalar jj idx) := by
  obtain ⟨v, e, hf, hVn⟩ := h
  unfold combAddIdx
  by_cases h0 : idx = 0
  · rw [if_pos h0, h0]
    have : tableScalar jj 0 = 0 := by rw [tableScalar_eq]; simp
    rw [this, Nat.add_zero]
    exact ⟨v, e, hf, hVn⟩
  · rw [if_neg h0]
    obtain ⟨hr, hv, he⟩ := comb_entry_ok jj idx hj h0 h15
    have hflag : false = true ↔ V + tableScalar jj idx = 0 := by
      simp only [Bool.false_eq_true, false_iff]; omega
    by_cases hinf : st.2 = true
    · rw [if_pos hinf]
      have hV0 := hf.mp hinf
      obtain ⟨v', e'⟩ := affine_valid_fp hv
      refine ⟨v', ?_, hflag, hlt⟩
      show jpt _ = _
      rw [e', he, hV0, Nat.zero_add]
    · rw [if_neg hinf]
      have hV0 : V ≠ 0 := fun h => hinf (hf.mpr h)
      obtain ⟨v', e'⟩ := addMixed_correct_J v hv
        (by rw [e]; intro hz
            exact hV0 (Props.SM2Group.nsmul_G_inj hVn n_pos (by rw [hz, zero_nsmul])))
        (by rw [e, he]; intro hz
            exact hne h0 (Props.SM2Group.nsmul_G_inj hVn hr.2 hz))
      refine ⟨v', ?_, hflag, hlt⟩
      show jpt _ = _
      rw [e', e, he, add_nsmul]

theorem cinv_step (k : Nat) (hk : k < n) {st : J × Bool} {i : Nat} (hi : i < 32)
    (h : CInv st (combV k i)) : CInv (combStep k st i) (combV k (i + 1)) := by
  have hk256 : k < 2 ^ 256 := Nat.lt_trans hk n_lt256
  obtain ⟨e, c0, c1⟩ := row_arith k i hi
  have hle := combV_le k (i + 1) hk256
  -- the doubling (skipped for the first row, where the value is 0)
  have hd : CInv (if i ≠ 0 then double fa st.1 else st.1, st.2) (2 * combV k i) := by
    by_cases h0 : i = 0
    · subst h0
      rw [if_neg (by simp), combV_zero, Nat.mul_zero]
      rw [combV_zero] at h
      exact h
    · rw [if_pos h0]
      exact cinv_double h (by omega)
  have h1 := cinv_add hd 0 (combIdx k i 0) (by decide) (combIdx_le k i 0) (by omega) c0
  have h2 := cinv_add h1 1 (combIdx k i 1) (by decide) (combIdx_le k i 1) (by omega) c1
  rw [← e] at h2
  exact h2

theorem cinv_foldl (k : Nat) (hk : k < n) (i : Nat) (hi : i ≤ 32) :
    CInv ((List.range i).foldl (combStep k) (inf, true)) (combV k i) := by
  induction i with
  | zero =>
    rw [combV_zero]
    exact ⟨jvalid_inf, by rw [zero_nsmul]; exact jpt_inf, by simp, n_pos⟩
  | succ i ih =>
    rw [List.range_succ, List.foldl_append]
    exact cinv_step k hk (by omega) (ih (by omega))

theorem scalarBaseMult_correct_J (k : Nat) (hk : k < n) :
    JValid (scalarBaseMult k) ∧ jpt (scalarBaseMult k) = k • pt G := by
  have h := cinv_foldl k hk 32 (Nat.le_refl _)
  rw [combV_32 k (Nat.lt_trans hk n_lt256)] at h
  rw [scalarBaseMult_eq]
  exact ⟨h.1, h.2.1⟩

/-- `Curve.ScalarBaseMult`: for every scalar k the result is the encoding of [k mod n]G -/
theorem scalarBaseMult_correct (k : Nat) : apiScalarBaseMult k = enc (smul (k % n) G) := by
  have hk : k % n < n := Nat.mod_lt _ n_pos
  have hk6 := lt_of_lt_n hk
  obtain ⟨v, e⟩ := scalarBaseMult_correct_J (k % n) hk
  exact toAffine_eq_enc v (smul_valid valid_G hk6) (by rw [e, pt_smul valid_G hk6])

end Proofs.SM2Jacobian
