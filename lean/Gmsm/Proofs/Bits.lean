/-
Bit-level lemmas: big-endian words as shifts of their bytes, byte extraction the
way Go writes it, Go's rotate idiom.
-/
import Gmsm.Util.Bytes
namespace Gmsm

def zext8 (b : Byte) : W32 := b.setWidth 32

theorem be32_or (a b c d : Byte) :
    be32 a b c d = (zext8 a <<< 24) ||| (zext8 b <<< 16) ||| (zext8 c <<< 8) ||| zext8 d := by
  unfold be32 zext8
  rw [← BitVec.setWidth_eq (a ++ b ++ c ++ d), BitVec.setWidth_append_append_append_eq_shiftLeft_setWidth_or]

/-- the shifted high part and the low part have no bit in common, so `^^^` joins them as `|||` does -/
theorem setWidth_append_eq_xor {w w' w'' : Nat} {b : BitVec w} {b' : BitVec w'} :
    (b ++ b').setWidth w'' = (b.setWidth w'' <<< w') ^^^ b'.setWidth w'' := by
  ext i hi
  simp only [BitVec.getElem_setWidth, BitVec.getElem_xor, BitVec.getElem_shiftLeft]
  rw [BitVec.getLsbD_append]
  split <;> simp_all

theorem be32_xor (a b c d : Byte) :
    be32 a b c d = (zext8 a <<< 24) ^^^ (zext8 b <<< 16) ^^^ (zext8 c <<< 8) ^^^ zext8 d := by
  unfold be32 zext8
  rw [← BitVec.setWidth_eq (a ++ b ++ c ++ d)]
  simp only [setWidth_append_eq_xor, BitVec.shiftLeft_xor_distrib, ← BitVec.shiftLeft_add]

theorem rotl_xor (a b : W32) (k : Nat) :
    (a ^^^ b).rotateLeft k = a.rotateLeft k ^^^ b.rotateLeft k := by
  ext i hi
  simp only [BitVec.getElem_xor, BitVec.getElem_rotateLeft]
  split <;> rfl

/-- byte `k/8` of a word, the way Go extracts it (`(x >> k) & 0xff`), as an index -/
theorem shr_and_ff_toNat (x : W32) (k : Nat) :
    ((x >>> k) &&& 0xff).toNat = (x.extractLsb' k 8).toNat := by
  have h : ((x >>> k) &&& (0xff : W32)).toNat = (x.toNat >>> k) &&& 255 := by
    simp [BitVec.toNat_and, BitVec.toNat_ushiftRight]
  rw [h, BitVec.extractLsb'_toNat]
  exact Nat.and_two_pow_sub_one_eq_mod _ 8

theorem w32bytes_be32 (a b c d : Byte) : w32bytes (be32 a b c d) = [a, b, c, d] := by
  unfold w32bytes be32
  simp only [BitVec.extractLsb'_append_eq_of_le, BitVec.extractLsb'_append_eq_right, BitVec.extractLsb'_eq_self,
    Nat.le_refl, Nat.reduceLeDiff, Nat.reduceSub]

theorem be32_w32bytes (w : W32) :
    be32 (w.extractLsb' 24 8) (w.extractLsb' 16 8) (w.extractLsb' 8 8) (w.extractLsb' 0 8) = w := by
  have h (s l : Nat) : w.extractLsb' (s + 8) l ++ w.extractLsb' s 8 = w.extractLsb' s (l + 8) :=
    BitVec.extractLsb'_append_extractLsb'_eq_extractLsb' rfl
  show w.extractLsb' (16 + 8) 8 ++ w.extractLsb' (8 + 8) 8 ++ w.extractLsb' (0 + 8) 8 ++ w.extractLsb' 0 8 = w
  rw [h 16, h 8, h 0]
  exact BitVec.extractLsb'_eq_self

/-- Go's rotate idiom `x<<(i%32) | x>>(32-i%32)` (shift by 32 yields 0) is rotate-left by `i mod 32`,
    for every `i` — including `i % 32 = 0`. -/
theorem goRotl_eq (x : W32) (i : Nat) :
    (goShl32 x (i % 32) ||| goShr32 x (32 - i % 32)) = x.rotateLeft (i % 32) := by
  have hlt : i % 32 < 32 := Nat.mod_lt _ (by decide)
  unfold goShl32 goShr32
  by_cases h0 : i % 32 = 0
  · have hz : x >>> 32 = 0 := by
      apply BitVec.eq_of_toNat_eq
      simp [BitVec.toNat_ushiftRight, Nat.shiftRight_eq_div_pow, Nat.div_eq_of_lt x.isLt]
    simp [h0, BitVec.rotateLeft_def, hz]
  · have h1 : 32 - i % 32 < 32 := by omega
    simp only [hlt, h1, if_true]
    rw [BitVec.rotateLeft_def]
    simp [Nat.mod_eq_of_lt hlt]

end Gmsm
