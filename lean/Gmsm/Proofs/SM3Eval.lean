/-
A form of the SM3 message expansion that the kernel evaluates quickly, for the concrete digests the
property files compute.  `Spec.SM3.expandAux` appends each new word at the END of the list it reads
from, so every `getD` walks a tower of unevaluated appends; `expandRev` keeps the words newest first,
where W_{j-16}, W_{j-9}, W_{j-3}, W_{j-13}, W_{j-6} sit at the fixed depths 15, 8, 2, 12, 5; likewise
`roundsSeq` reads W_j and W_{j+4} off the front of the remaining words instead of indexing from W_0.
`hash_eq_fast` lets a proof replace `Spec.SM3.hash` by `hashFast` before evaluating.
-/
import Gmsm.Spec.SM3
namespace Proofs.SM3
open Gmsm Spec.SM3

section
variable (rot : W32 → Nat → W32)

/-- `expandAux` on the reversed word list -/
def expandRev : Nat → List W32 → List W32
  | 0, r => r
  | n+1, r =>
    let x := P1 rot (r.getD 15 0 ^^^ r.getD 8 0 ^^^ rot (r.getD 2 0) 15) ^^^ rot (r.getD 12 0) 7 ^^^ r.getD 5 0
    expandRev n (x :: r)

theorem getD_sub_length (w : List W32) (k : Nat) (hk : k < w.length) :
    w.getD (w.length - (k + 1)) 0 = w.reverse.getD k 0 := by
  rw [List.getD_eq_getElem?_getD, List.getD_eq_getElem?_getD, List.getElem?_reverse hk, Nat.sub_sub, Nat.add_comm]

theorem expandAux_eq_rev (n : Nat) (w : List W32) (h : 16 ≤ w.length) :
    expandAux rot n w = (expandRev rot n w.reverse).reverse := by
  induction n generalizing w with
  | zero => rw [expandRev, List.reverse_reverse]; rfl
  | succ n ih =>
    rw [expandAux, expandRev, ih _ (by rw [List.length_append]; omega), List.reverse_append]
    simp (disch := omega) only [getD_sub_length w]
    rfl

theorem words_length (n : Nat) (b : Bytes) : (words n b).length = n := by
  induction n generalizing b with
  | zero => rfl
  | succ n ih => rw [words, List.length_cons, ih]

/-- `round` given the two words it reads -/
def roundAt (wj wj4 : W32) (r : Reg) (j : Nat) : Reg :=
  let ss1 := rot (rot r.a 12 + r.e + rot (Tj j) j) 7
  let ss2 := ss1 ^^^ rot r.a 12
  let tt1 := FF j r.a r.b r.c + r.d + ss2 + (wj ^^^ wj4)
  let tt2 := GG j r.e r.f r.g + r.h + ss1 + wj
  ⟨tt1, r.a, rot r.b 9, r.c, P0 rot tt2, r.e, rot r.f 19, r.g⟩

/-- rounds `j, …, j + n - 1`, with `w` the words from W_j on: each round reads the front of the list -/
def roundsSeq : Nat → Nat → List W32 → Reg → Reg
  | 0, _, _, r => r
  | n+1, j, w, r => roundsSeq n (j + 1) w.tail (roundAt rot (w.getD 0 0) (w.getD 4 0) r j)

theorem foldl_round_eq_seq (w : List W32) (n j : Nat) (r : Reg) :
    (List.range' j n).foldl (round rot w) r = roundsSeq rot n j (w.drop j) r := by
  induction n generalizing j r with
  | zero => rfl
  | succ n ih =>
    rw [List.range'_succ, List.foldl_cons, ih, roundsSeq, List.tail_drop, List.getD_eq_getElem?_getD,
      List.getD_eq_getElem?_getD, List.getElem?_drop, List.getElem?_drop]
    rfl

def CFgenFast (v : Reg) (blk : Bytes) : Reg :=
  let w := (expandRev rot 52 (words 16 blk).reverse).reverse
  let r := roundsSeq rot 64 0 w v
  ⟨v.a ^^^ r.a, v.b ^^^ r.b, v.c ^^^ r.c, v.d ^^^ r.d, v.e ^^^ r.e, v.f ^^^ r.f, v.g ^^^ r.g, v.h ^^^ r.h⟩

theorem CFgen_eq_fast (v : Reg) (blk : Bytes) : CFgen rot v blk = CFgenFast rot v blk := by
  rw [CFgen, CFgenFast, expand, expandAux_eq_rev rot 52 _ (Nat.le_of_eq (words_length 16 blk).symm),
    List.range_eq_range', foldl_round_eq_seq]
  rfl

end

def iterFast : Nat → Reg → Bytes → Reg
  | 0, v, _ => v
  | n+1, v, m => iterFast n (CFgenFast rotl v (m.take 64)) (m.drop 64)

theorem iter_eq_fast (n : Nat) (v : Reg) (m : Bytes) : iter n v m = iterFast n v m := by
  induction n generalizing v m with
  | zero => rfl
  | succ n ih => rw [iter, iterFast, CF, CFgen_eq_fast, ih]

def hashFast (m : Bytes) : Bytes :=
  let p := m ++ padding m.length
  regBytes (iterFast (p.length / 64) IV p)

theorem hash_eq_fast (m : Bytes) : Spec.SM3.hash m = hashFast m := by
  rw [Spec.SM3.hash, hashFast, iter_eq_fast]

end Proofs.SM3
