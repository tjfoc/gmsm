/-
The cubic x³ + a·x + b of the SM2 curve has no root modulo p, so the curve has no point of order 2:
gcd(x^p − x, x³ + a·x + b) = 1, by a verified square-and-multiply computation of x^p modulo the cubic
and an elimination.
-/
import Gmsm.Proofs.SM2Affine

namespace Proofs.SM2Jacobian
open Spec.SM2 Proofs.SM2Affine

/-- product of `u.1 x² + u.2.1 x + u.2.2` and `v…` modulo `x³ + a x + b`, coefficients mod p -/
def qmul (u v : Nat × Nat × Nat) : Nat × Nat × Nat :=
  let c4 := u.1 * v.1
  let c3 := u.1 * v.2.1 + u.2.1 * v.1
  let c2 := u.1 * v.2.2 + u.2.1 * v.2.1 + u.2.2 * v.1
  let c1 := u.2.1 * v.2.2 + u.2.2 * v.2.1
  let c0 := u.2.2 * v.2.2
  ((c2 + (p - a) * c4) % p, (c1 + (p - b) * c4 + (p - a) * c3) % p, (c0 + (p - b) * c3) % p)

def qev (r : F) (u : Nat × Nat × Nat) : F := (u.1 : F) * r ^ 2 + (u.2.1 : F) * r + (u.2.2 : F)

theorem cast_p_sub (y : Nat) (hy : y ≤ p) : ((p - y : Nat) : F) = -(y : F) := by
  rw [Nat.cast_sub hy, ZMod.natCast_self, zero_sub]

theorem qev_qmul (r : F) (hr : r ^ 3 + (a : F) * r + (b : F) = 0) (u v : Nat × Nat × Nat) :
    qev r (qmul u v) = qev r u * qev r v := by
  obtain ⟨u2, u1, u0⟩ := u
  obtain ⟨v2, v1, v0⟩ := v
  simp only [qev, qmul, ZMod.natCast_mod, Nat.cast_add, Nat.cast_mul, cast_p_sub a (by decide), cast_p_sub b (by decide)]
  linear_combination (-((u2 : F) * v2 * r + ((u2 : F) * v1 + u1 * v2))) * hr

/-- x^p modulo the cubic, by square-and-multiply -/
def xp : Nat × Nat × Nat := dblAdd qmul (fun u => qmul u u) 256 p (0, 1, 0) (0, 0, 1)

theorem qev_xp (r : F) (hr : r ^ 3 + (a : F) * r + (b : F) = 0) : qev r xp = r := by
  have h : qev r xp = qev r (0, 0, 1) * qev r (0, 1, 0) ^ p :=
    (dblAdd_spec_mul (ok := fun _ => True) (fun _ _ => ⟨trivial, qev_qmul r hr _ _⟩)
      (fun _ => ⟨trivial, qev_qmul r hr _ _⟩) 256 p _ _ trivial trivial p_lt256).2
  rw [h]
  simp only [qev, Nat.cast_zero, Nat.cast_one, zero_mul, zero_add, one_mul, add_zero]
  exact ZMod.pow_card r

/-- elimination: a common root of the cubic and of a quadratic `A x² + B x + C` forces their
    resultant-like combination to vanish -/
theorem resultant_zero {K : Type} [Field K] (a b A B C r : K) (hr : r ^ 3 + a * r + b = 0)
    (h1 : A * r ^ 2 + B * r + C = 0) :
    A * (b * A ^ 2 + B * C) ^ 2 + C * (A * (a * A - C) + B ^ 2) ^ 2
      - B * (b * A ^ 2 + B * C) * (A * (a * A - C) + B ^ 2) = 0 := by
  have hL : (A * (a * A - C) + B ^ 2) * r + (b * A ^ 2 + B * C) = 0 := by
    linear_combination A ^ 2 * hr + (B - A * r) * h1
  linear_combination (A * (a * A - C) + B ^ 2) ^ 2 * h1
    - (A * ((A * (a * A - C) + B ^ 2) * r - (b * A ^ 2 + B * C)) + B * (A * (a * A - C) + B ^ 2)) * hL

/-- the resultant value computed on naturals mod p -/
def resNat : Nat :=
  let A := xp.1
  let B := fsub xp.2.1 1
  let C := xp.2.2
  let l0 := b * (A * A) + B * C
  let l1 := A * fsub (a * A) C + B * B
  fsub (A * (l0 * l0) + C * (l1 * l1)) (B * l0 * l1)

theorem resNat_ne : resNat % p ≠ 0 := by decide +kernel

theorem cubic_no_root (r : F) : r ^ 3 + (a : F) * r + (b : F) ≠ 0 := by
  intro hr
  have e := qev_xp r hr
  have h1 : (xp.1 : F) * r ^ 2 + ((fsub xp.2.1 1 : Nat) : F) * r + (xp.2.2 : F) = 0 := by
    rw [fsub_eq, Nat.cast_one]
    simp only [qev] at e
    linear_combination e
  have hz := resultant_zero (a : F) (b : F) _ _ _ r hr h1
  have hc : ((resNat : Nat) : F) = 0 := by
    rw [← hz]
    simp only [resNat, fsub_eq, Nat.cast_add, Nat.cast_mul]
    ring
  rw [ZMod.natCast_eq_zero_iff] at hc
  exact resNat_ne (Nat.mod_eq_zero_of_dvd hc)

end Proofs.SM2Jacobian
