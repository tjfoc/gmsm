-- Pratt certificates for the SM2 field prime and group order (sympy factorisations); checked by the kernel.
import Mathlib.NumberTheory.LucasPrimality
import Mathlib.Tactic.NormNum.Prime

namespace Proofs.SM2Prime

/-- Fuel-based square-and-multiply modular exponentiation (kernel friendly). -/
def powMod : Nat → Nat → Nat → Nat → Nat
  | 0, a, e, m => a ^ e % m
  | fuel + 1, a, e, m =>
    if e = 0 then 1 % m
    else
      let h := powMod fuel a (e / 2) m
      if e % 2 = 0 then h * h % m else h * h % m * a % m

theorem powMod_eq (fuel a e m : Nat) : powMod fuel a e m = a ^ e % m := by
  induction fuel generalizing e with
  | zero => rfl
  | succ k ih =>
    unfold powMod
    split_ifs with h0 h2
    · subst h0; simp
    · simp only [ih]
      have he : e = 2 * (e / 2) := by omega
      conv_rhs => rw [he, two_mul, pow_add]
      simp [Nat.mul_mod]
    · simp only [ih]
      have he : e = 2 * (e / 2) + 1 := by omega
      conv_rhs => rw [he, two_mul, pow_succ, pow_add]
      simp [Nat.mul_mod]

/-- Boolean Lucas/Pratt certificate check. -/
def check (p a : Nat) (fs : List Nat) : Bool :=
  decide (1 < p) && (fs.prod == p - 1) && (powMod (p.log2 + 2) a (p - 1) p == 1) &&
    fs.all (fun q => powMod (p.log2 + 2) a ((p - 1) / q) p != 1)

theorem lucas_of_factors (p a : Nat) (fs : List Nat) (hpr : ∀ q ∈ fs, Nat.Prime q)
    (hc : check p a fs = true) : Nat.Prime p := by
  simp only [check, Bool.and_eq_true, decide_eq_true_eq, beq_iff_eq, List.all_eq_true,
    bne_iff_ne, ne_eq, powMod_eq] at hc
  obtain ⟨⟨⟨hp, hprod⟩, h1⟩, hq⟩ := hc
  have one_mod : 1 % p = 1 := Nat.mod_eq_of_lt hp
  have key : ∀ e : Nat, ((a : ZMod p) ^ e = 1) ↔ a ^ e % p = 1 := by
    intro e
    rw [← Nat.cast_pow, ← Nat.cast_one (R := ZMod p), ZMod.natCast_eq_natCast_iff', one_mod]
  refine lucas_primality p (a : ZMod p) ((key _).2 h1) ?_
  intro q hqp hqd
  rw [← hprod] at hqd
  obtain ⟨f, hf, hqf⟩ := (Prime.dvd_prod_iff hqp.prime).1 hqd
  have : q = f := (Nat.prime_dvd_prime_iff_eq hqp (hpr f hf)).1 hqf
  subst this
  rw [Ne, key]
  exact hq q hf

def p : Nat := 0xFFFFFFFEFFFFFFFFFFFFFFFFFFFFFFFFFFFFFFFF00000000FFFFFFFFFFFFFFFF
def n : Nat := 0xFFFFFFFEFFFFFFFFFFFFFFFFFFFFFFFF7203DF6B21C6052B53BBF40939D54123

/-- primality below 1024 by trial division up to 31, for the small primes at which the certificates
    bottom out -/
def smallPrime (q : Nat) : Bool :=
  decide (2 ≤ q) && decide (q < 1024) &&
    (List.range 32).all fun d => decide (d < 2) || decide (q < d * d) || q % d != 0

theorem smallPrime_sound {q : Nat} (h : smallPrime q = true) : Nat.Prime q := by
  simp only [smallPrime, Bool.and_eq_true, decide_eq_true_eq, List.all_eq_true, List.mem_range,
    Bool.or_eq_true, bne_iff_ne, ne_eq] at h
  obtain ⟨⟨h2, hq⟩, hall⟩ := h
  refine Nat.prime_def_le_sqrt.2 ⟨h2, fun m hm hs hd => ?_⟩
  have hmm : m * m ≤ q := Nat.le_sqrt.1 hs
  have hm32 : m < 32 := by
    by_contra hge
    have := Nat.mul_le_mul (Nat.le_of_not_lt hge) (Nat.le_of_not_lt hge)
    omega
  rcases hall m hm32 with (hlt | hlt) | hmod
  · omega
  · omega
  · exact hmod (Nat.mod_eq_zero_of_dvd hd)

/-- a list of Lucas certificates `(q, witness, prime factors of q − 1)`, each factor a small prime or
    a `q` certified earlier in the list (`known`) -/
def checkAll : List Nat → List (Nat × Nat × List Nat) → Bool
  | _, [] => true
  | known, (q, a, fs) :: rest =>
    fs.all (fun f => smallPrime f || known.contains f) && check q a fs && checkAll (q :: known) rest

theorem checkAll_sound (known : List Nat) (certs : List (Nat × Nat × List Nat))
    (hk : ∀ f ∈ known, Nat.Prime f) (h : checkAll known certs = true) :
    ∀ c ∈ certs, Nat.Prime c.1 := by
  induction certs generalizing known with
  | nil => intro c hc; cases hc
  | cons c rest ih =>
    obtain ⟨q, a, fs⟩ := c
    simp only [checkAll, Bool.and_eq_true, List.all_eq_true, Bool.or_eq_true, List.contains_iff_mem] at h
    have hq : Nat.Prime q := lucas_of_factors q a fs
      (fun f hf => (h.1.1 f hf).elim smallPrime_sound (hk f)) h.1.2
    intro c hc
    rcases List.mem_cons.1 hc with rfl | hc
    · exact hq
    · exact ih (q :: known) (fun f hf => (List.mem_cons.1 hf).elim (fun e => e ▸ hq) (hk f)) h.2 c hc

/-- Pratt certificates of p and n, smaller primes first -/
def certs : List (Nat × Nat × List Nat) := [
  (30223, 3, [2, 3, 3, 23, 73]),
  (5303, 5, [2, 11, 241]),
  (1447, 3, [2, 3, 241]),
  (179429, 2, [2, 2, 31, 1447]),
  (348253387243, 3, [2, 3, 61, 5303, 179429]),
  (5711, 19, [2, 5, 571]),
  (3017783777, 3, [2, 2, 2, 2, 2, 7, 7, 337, 5711]),
  (4641351449027, 2, [2, 769, 3017783777]),
  (2473, 5, [2, 2, 2, 3, 103]),
  (8214737, 3, [2, 2, 2, 2, 67, 79, 97]),
  (417514796639753, 3, [2, 2, 2, 7, 367, 2473, 8214737]),
  (1213, 2, [2, 2, 3, 101]),
  (71209, 7, [2, 2, 2, 3, 3, 23, 43]),
  (54983, 5, [2, 37, 743]),
  (3079049, 3, [2, 2, 2, 7, 54983]),
  (6158099, 2, [2, 3079049]),
  (34511, 7, [2, 5, 7, 17, 29]),
  (2273, 3, [2, 2, 2, 2, 2, 71]),
  (4547, 2, [2, 2273]),
  (363761, 3, [2, 2, 2, 2, 5, 4547]),
  (4773264379806847, 3, [2, 3, 7, 11, 823, 34511, 363761]),
  (66013261729388519804782124120027, 2, [2, 13, 1213, 71209, 6158099, 4773264379806847]),
  (115792089210356248756420345214020892766250353991924191454421193933289684991999, 13, [2, 43, 30223, 348253387243, 4641351449027, 417514796639753, 66013261729388519804782124120027]),
  (7759, 3, [2, 3, 3, 431]),
  (14057, 3, [2, 2, 2, 7, 251]),
  (110899, 3, [2, 3, 3, 61, 101]),
  (117774739, 2, [2, 3, 3, 59, 110899]),
  (1413296869, 6, [2, 2, 3, 117774739]),
  (1013, 3, [2, 2, 11, 23]),
  (4957, 2, [2, 2, 3, 7, 59]),
  (10042883, 2, [2, 1013, 4957]),
  (2368433183657, 3, [2, 2, 2, 41, 719, 10042883]),
  (3258964060712033, 3, [2, 2, 2, 2, 2, 43, 2368433183657]),
  (17965699, 2, [2, 3, 71, 181, 233]),
  (3037, 2, [2, 2, 3, 11, 23]),
  (12149, 2, [2, 2, 3037]),
  (107615843, 2, [2, 43, 103, 12149]),
  (3049, 11, [2, 2, 2, 3, 127]),
  (84163, 2, [2, 3, 13, 13, 83]),
  (2566129871, 7, [2, 5, 3049, 84163]),
  (5801, 3, [2, 2, 2, 5, 5, 29]),
  (9061163, 2, [2, 11, 71, 5801]),
  (5636460199499, 2, [2, 31, 79, 127, 9061163]),
  (101456283590983, 3, [2, 3, 3, 5636460199499]),
  (18120927127286907576013935251791662753637, 6, [2, 2, 3, 3, 17965699, 107615843, 2566129871, 101456283590983]),
  (125197554539772723432468576818475380947471091418362477724521, 3, [2, 2, 2, 5, 53, 3258964060712033, 18120927127286907576013935251791662753637]),
  (115792089210356248756420345214020892766061623724957744567843809356293439045923, 3, [2, 3, 7759, 14057, 1413296869, 125197554539772723432468576818475380947471091418362477724521])]

theorem certs_prime : ∀ q ∈ certs.map (·.1), Nat.Prime q := by
  have h := checkAll_sound [] certs (fun _ h => absurd h List.not_mem_nil) (by decide +kernel)
  intro q hq
  obtain ⟨c, hc, rfl⟩ := List.mem_map.1 hq
  exact h c hc

theorem p_prime : Nat.Prime p :=
  certs_prime p (by decide +kernel)

theorem n_prime : Nat.Prime n :=
  certs_prime n (by decide +kernel)

end Proofs.SM2Prime
