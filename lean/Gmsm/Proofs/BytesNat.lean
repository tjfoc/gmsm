/-
Byte strings ↔ natural numbers: OS2IP / minimal big-endian bytes / fixed-length encodings.
-/
import Gmsm.Util.Bytes
import Gmsm.Util.I2osp
namespace Gmsm

theorem toNat_ofNat8 (k : Nat) (h : k < 256) : (BitVec.ofNat 8 k).toNat = k := by
  rw [BitVec.toNat_ofNat]; exact Nat.mod_eq_of_lt h

theorem os2ip_foldl (bs : Bytes) (acc : Nat) :
    bs.foldl (fun acc b => acc * 256 + b.toNat) acc = acc * 256 ^ bs.length + os2ip bs := by
  induction bs generalizing acc with
  | nil => simp [os2ip]
  | cons b bs ih =>
    simp only [List.foldl_cons, List.length_cons, os2ip]
    rw [ih, ih (0 * 256 + b.toNat)]
    rw [Nat.pow_succ]
    simp only [Nat.zero_mul, Nat.zero_add]
    rw [Nat.add_mul, Nat.mul_assoc, Nat.mul_comm 256 (256 ^ bs.length), Nat.add_assoc]

theorem os2ip_nil : os2ip [] = 0 := rfl

theorem os2ip_cons (b : Byte) (bs : Bytes) : os2ip (b :: bs) = b.toNat * 256 ^ bs.length + os2ip bs := by
  show List.foldl (fun acc b => acc * 256 + b.toNat) 0 (b :: bs) = _
  simp only [List.foldl_cons]
  rw [os2ip_foldl]
  simp

theorem os2ip_singleton (x : Byte) : os2ip [x] = x.toNat := Nat.zero_add _

theorem os2ip_append (a b : Bytes) : os2ip (a ++ b) = os2ip a * 256 ^ b.length + os2ip b := by
  induction a with
  | nil => simp [os2ip_nil]
  | cons x xs ih =>
    rw [List.cons_append, os2ip_cons, os2ip_cons, ih, List.length_append, Nat.pow_add]
    rw [Nat.add_mul, Nat.mul_assoc, Nat.add_assoc]

theorem os2ip_lt (bs : Bytes) : os2ip bs < 256 ^ bs.length := by
  induction bs with
  | nil => simp [os2ip_nil]
  | cons b bs ih =>
    rw [os2ip_cons, List.length_cons, Nat.pow_succ]
    have hb : b.toNat < 256 := b.isLt
    have : b.toNat * 256 ^ bs.length + os2ip bs < (b.toNat + 1) * 256 ^ bs.length := by
      rw [Nat.add_mul, Nat.one_mul]; omega
    calc b.toNat * 256 ^ bs.length + os2ip bs < (b.toNat + 1) * 256 ^ bs.length := this
      _ ≤ 256 * 256 ^ bs.length := Nat.mul_le_mul_right _ (by omega)
      _ = 256 ^ bs.length * 256 := Nat.mul_comm _ _

theorem os2ip_drop (bs : Bytes) (k : Nat) : os2ip (bs.drop k) = os2ip bs % 256 ^ (bs.length - k) := by
  have h := os2ip_append (bs.take k) (bs.drop k)
  rw [List.take_append_drop] at h
  have hl := os2ip_lt (bs.drop k)
  rw [List.length_drop] at hl h
  rw [h, Nat.add_comm, Nat.add_mul_mod_self_right, Nat.mod_eq_of_lt hl]

theorem os2ip_replicate_zero (k : Nat) : os2ip (List.replicate k (0 : Byte)) = 0 := by
  induction k with
  | zero => rfl
  | succ k ih => rw [List.replicate_succ, os2ip_cons, ih]; simp

theorem os2ip_replicate_zero_append (k : Nat) (b : Bytes) : os2ip (List.replicate k (0 : Byte) ++ b) = os2ip b := by
  rw [os2ip_append, os2ip_replicate_zero, Nat.zero_mul, Nat.zero_add]

theorem os2ip_cons_div (b : Byte) (bs : Bytes) : os2ip (b :: bs) / 256 ^ bs.length = b.toNat := by
  rw [os2ip_cons, Nat.mul_comm, Nat.mul_add_div (Nat.pow_pos (by decide)), Nat.div_eq_of_lt (os2ip_lt bs),
    Nat.add_zero]

theorem os2ip_cons_mod (b : Byte) (bs : Bytes) : os2ip (b :: bs) % 256 ^ bs.length = os2ip bs := by
  rw [os2ip_cons, Nat.mul_comm, Nat.mul_add_mod, Nat.mod_eq_of_lt (os2ip_lt bs)]

theorem eq_of_os2ip_eq (a b : Bytes) (hl : a.length = b.length) (h : os2ip a = os2ip b) : a = b := by
  induction a generalizing b with
  | nil => exact (List.length_eq_zero_iff.mp hl.symm).symm
  | cons x xs ih =>
    cases b with
    | nil => cases hl
    | cons y ys =>
      have hl2 : xs.length = ys.length := Nat.succ.inj hl
      have hd := os2ip_cons_div x xs
      have ht := os2ip_cons_mod x xs
      rw [h, hl2, os2ip_cons_div] at hd
      rw [h, hl2, os2ip_cons_mod] at ht
      rw [BitVec.eq_of_toNat_eq hd.symm, ih ys hl2 ht.symm]

theorem os2ip_lt_of_length {bs : Bytes} {k : Nat} (h : bs.length = k) : os2ip bs < 256 ^ k := h ▸ os2ip_lt bs

theorem natBytesAux_spec (fuel n : Nat) (acc : Bytes) (h : n < 256 ^ fuel) :
    os2ip (natBytesAux fuel n acc) = n * 256 ^ acc.length + os2ip acc := by
  induction fuel generalizing n acc with
  | zero =>
    have : n = 0 := by simpa using h
    subst this; simp [natBytesAux]
  | succ fuel ih =>
    unfold natBytesAux
    by_cases h0 : n = 0
    · simp [h0]
    · simp only [h0, if_false]
      rw [ih (n / 256) _ (by rw [Nat.pow_succ] at h; omega)]
      rw [List.length_cons, os2ip_cons, Nat.pow_succ]
      have hb : (BitVec.ofNat 8 n).toNat = n % 256 := by simp [BitVec.toNat_ofNat]
      rw [hb]
      have hn : n = 256 * (n / 256) + n % 256 := (Nat.div_add_mod n 256).symm
      calc n / 256 * (256 ^ acc.length * 256) + (n % 256 * 256 ^ acc.length + os2ip acc)
          = (256 * (n / 256) + n % 256) * 256 ^ acc.length + os2ip acc := by
            rw [Nat.add_mul, Nat.mul_comm (256 ^ acc.length) 256, ← Nat.mul_assoc, Nat.mul_comm (n / 256) 256,
              Nat.add_assoc]
        _ = n * 256 ^ acc.length + os2ip acc := by rw [← hn]

theorem lt_pow_succ_self (n : Nat) : n < 256 ^ (n + 1) := by
  have h1 : n < 2 ^ n := Nat.lt_two_pow_self
  have h2 : 2 ^ n ≤ 256 ^ n := Nat.pow_le_pow_left (by decide) n
  have h3 : 256 ^ n ≤ 256 ^ (n + 1) := Nat.pow_le_pow_right (by decide) (by omega)
  omega

theorem os2ip_natBytes (n : Nat) : os2ip (natBytes n) = n := by
  unfold natBytes
  rw [natBytesAux_spec _ _ _ (lt_pow_succ_self n)]
  simp [os2ip_nil]

theorem os2ip_i2ospR (k n : Nat) : os2ip (i2ospR k n) = n % 256 ^ k := by
  induction k generalizing n with
  | zero => simp [i2ospR, os2ip_nil, Nat.mod_one]
  | succ k ih =>
    simp only [i2ospR]
    rw [os2ip_append, ih, os2ip_cons, os2ip_nil]
    have hb : (BitVec.ofNat 8 n).toNat = n % 256 := by simp [BitVec.toNat_ofNat]
    rw [hb]
    simp only [List.length_cons, List.length_nil, Nat.zero_add, Nat.pow_one, Nat.pow_zero, Nat.mul_one, Nat.add_zero]
    have h1 : n % (256 * 256 ^ k) = n % 256 + 256 * (n / 256 % 256 ^ k) := Nat.mod_mul
    rw [Nat.pow_succ, Nat.mul_comm (256 ^ k) 256, h1, Nat.mul_comm, Nat.add_comm]

theorem os2ip_i2ospR_of_lt (k n : Nat) (h : n < 256 ^ k) : os2ip (i2ospR k n) = n := by
  rw [os2ip_i2ospR, Nat.mod_eq_of_lt h]

theorem eq_i2ospR_of {bs : Bytes} {k n : Nat} (hl : bs.length = k) (hv : os2ip bs = n % 256 ^ k) : bs = i2ospR k n :=
  eq_of_os2ip_eq _ _ (by rw [hl, i2ospR_length]) (by rw [hv, os2ip_i2ospR])

theorem natBytesAux_zero (fuel : Nat) (acc : Bytes) : natBytesAux fuel 0 acc = acc := by
  cases fuel <;> simp [natBytesAux]

theorem natBytesAux_head (fuel n : Nat) (acc : Bytes) (hn : n ≠ 0) (h : n < 256 ^ fuel) :
    ∃ b rest, natBytesAux fuel n acc = b :: rest ∧ b.toNat ≠ 0 := by
  induction fuel generalizing n acc with
  | zero => simp at h; omega
  | succ fuel ih =>
    unfold natBytesAux
    simp only [hn, if_false]
    by_cases hq : n / 256 = 0
    · rw [hq, natBytesAux_zero]
      refine ⟨_, _, rfl, ?_⟩
      simp only [BitVec.toNat_ofNat]
      omega
    · exact ih (n / 256) _ hq (by rw [Nat.pow_succ] at h; omega)

theorem natBytes_zero : natBytes 0 = [] := by simp [natBytes, natBytesAux]

theorem natBytes_head (n : Nat) (hn : n ≠ 0) : ∃ b rest, natBytes n = b :: rest ∧ b.toNat ≠ 0 :=
  natBytesAux_head _ n [] hn (lt_pow_succ_self n)

theorem natBytes_head_ne_zero (n : Nat) (b : Byte) (t : Bytes) (h : natBytes n = b :: t) : b.toNat ≠ 0 := by
  by_cases hn : n = 0
  · rw [hn, natBytes_zero] at h; cases h
  · obtain ⟨b', t', hb, hb0⟩ := natBytes_head n hn
    rw [hb] at h
    cases h
    exact hb0

theorem natBytes_length_le (n k : Nat) (h : n < 256 ^ k) : (natBytes n).length ≤ k := by
  by_cases hn : n = 0
  · subst hn; simp [natBytes_zero]
  · obtain ⟨b, rest, hb, hb0⟩ := natBytes_head n hn
    have hv := os2ip_natBytes n
    rw [hb, os2ip_cons] at hv
    rw [hb]
    apply Nat.le_of_not_lt
    intro hlen
    have hk : k ≤ rest.length := by simp at hlen; omega
    have : 256 ^ k ≤ b.toNat * 256 ^ rest.length := by
      calc 256 ^ k ≤ 256 ^ rest.length := Nat.pow_le_pow_right (by decide) hk
        _ ≤ b.toNat * 256 ^ rest.length := Nat.le_mul_of_pos_left _ (by omega)
    omega

theorem lt_of_natBytes_length_le (n k : Nat) (h : (natBytes n).length ≤ k) : n < 256 ^ k := by
  have := os2ip_lt (natBytes n)
  rw [os2ip_natBytes] at this
  exact Nat.lt_of_lt_of_le this (Nat.pow_le_pow_right (by decide) h)

theorem natBytes_os2ip (bs : Bytes) (h : ∀ b t, bs = b :: t → b.toNat ≠ 0) : natBytes (os2ip bs) = bs := by
  cases bs with
  | nil => rw [os2ip_nil, natBytes_zero]
  | cons b t =>
    have hle := natBytes_length_le _ _ (os2ip_lt (b :: t))
    have hv : 256 ^ t.length ≤ os2ip (b :: t) := by
      rw [os2ip_cons]
      exact Nat.le_trans (Nat.le_mul_of_pos_left _ (Nat.pos_of_ne_zero (h b t rfl))) (Nat.le_add_right _ _)
    have h1 := os2ip_lt (natBytes (os2ip (b :: t)))
    rw [os2ip_natBytes] at h1
    have hge : t.length < (natBytes (os2ip (b :: t))).length :=
      (Nat.pow_lt_pow_iff_right (by decide)).mp (Nat.lt_of_le_of_lt hv h1)
    exact eq_of_os2ip_eq _ _ (Nat.le_antisymm hle hge) (os2ip_natBytes _)

end Gmsm
