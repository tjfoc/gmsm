/-
Facts about lists (core Lean only) that the proofs about byte strings, paddings and record streams share.
-/
namespace Gmsm

theorem getD_append_left {α} (a b : List α) (i : Nat) (h : i < a.length) (d : α) :
    (a ++ b).getD i d = a.getD i d := by
  simp only [List.getD_eq_getElem?_getD, List.getElem?_append_left h]

theorem getLastD_append_replicate {α} (p : List α) (k : Nat) (x d : α) (hk : 0 < k) :
    (p ++ List.replicate k x).getLastD d = x := by
  obtain ⟨k, rfl⟩ := Nat.exists_eq_succ_of_ne_zero (Nat.ne_of_gt hk)
  rw [List.replicate_succ', ← List.append_assoc, List.getLastD_concat]

theorem split_of_append_eq {α : Type} (a b m rest : List α) (h : a ++ b = m ++ rest) (hl : m.length ≤ a.length) :
    a.take m.length = m ∧ a.drop m.length ++ b = rest := by
  have ht := congrArg (List.take m.length) h
  have hd := congrArg (List.drop m.length) h
  rw [List.take_append_of_le_length hl, List.take_left' rfl] at ht
  rw [List.drop_append_of_le_length hl, List.drop_left' rfl] at hd
  exact ⟨ht, hd⟩

theorem flatten_take_prefix {α : Type} (l : List (List α)) (n : Nat) : (l.take n).flatten <+: l.flatten :=
  ⟨(l.drop n).flatten, by rw [← List.flatten_append, List.take_append_drop]⟩

/-- a cut of a concatenation at position `m`: `k` complete pieces and `n < len` elements of piece `k` -/
theorem take_flatten_decomp {α : Type} (L : List (List α)) (m : Nat) (hm : m < L.flatten.length) :
    ∃ k n r, L[k]? = some r ∧ n < r.length ∧ L.flatten.take m = (L.take k).flatten ++ r.take n := by
  induction L generalizing m with
  | nil => simp at hm
  | cons a L ih =>
    by_cases ha : m < a.length
    · refine ⟨0, m, a, rfl, ha, ?_⟩
      rw [List.flatten_cons, List.take_append_of_le_length (by omega)]
      simp
    · rw [List.flatten_cons, List.length_append] at hm
      obtain ⟨k, n, r, e1, e2, e3⟩ := ih (m - a.length) (by omega)
      refine ⟨k + 1, n, r, by simpa using e1, e2, ?_⟩
      rw [List.flatten_cons, List.take_append, List.take_of_length_le (by omega), e3]
      simp [List.append_assoc]

end Gmsm
