/-
The executable SM2 specification's affine arithmetic IS the group law.

`Spec.SM2` computes with natural numbers modulo p: `padd` (chord/tangent with a Fermat inversion
`invMod x p = x^(p-2) mod p` by fuel-bounded square-and-multiply), `smul` (fuel-bounded double-and-add).
This file connects these functions to Mathlib's group of nonsingular points
`WeierstrassCurve.Affine.Point` of the curve y² = x³ + a x + b over `ZMod p`, through `toPoint` on `Valid`
points (and its proof-free total version `pt`): `padd_eq` / `pt_padd` (all cases: infinity, chord, inverse
points incl. 2-torsion, tangent), `smul_eq` / `pt_smul` for k < 2^600 (the fuel), and `toPoint_inj` / `pt_inj`
to transfer equalities in the group back to spec points.

`dblAdd`, `dblAdd_spec`: the fuel-bounded recursion shared by `powModAux`, `smulAux` (and the Jacobian
and polynomial versions in `Proofs.SM2Jacobian`) computes `acc + k • base`, proved once.
`invMod` is the field inverse by Fermat, p prime by the Pratt certificate in `Proofs.SM2Prime`.
-/
import Gmsm.Spec.SM2
import Gmsm.Proofs.SM2Prime
import Gmsm.Proofs.ECFormulas
import Mathlib.FieldTheory.Finite.Basic
import Mathlib.Data.ZMod.Basic
import Mathlib.Algebra.Module.Basic
import Mathlib.Algebra.Module.NatInt
import Mathlib.Tactic.Abel

set_option exponentiation.threshold 700
namespace Proofs.SM2Affine
open Spec.SM2

/-- double-and-add from the least significant bit, over any representation of group elements with an
    addition and a doubling: the recursion of `Spec.SM2.smulAux` and `powModAux` -/
def dblAdd {α : Type} (add : α → α → α) (dbl : α → α) : Nat → Nat → α → α → α
  | 0, _, _, acc => acc
  | fuel+1, k, base, acc =>
    if k = 0 then acc
    else dblAdd add dbl fuel (k / 2) (dbl base) (if k % 2 = 1 then add acc base else acc)

theorem dblAdd_spec {α M : Type} [AddCommMonoid M] {ok : α → Prop} {ρ : α → M} {add : α → α → α}
    {dbl : α → α} (hadd : ∀ {a b}, ok a → ok b → ok (add a b) ∧ ρ (add a b) = ρ a + ρ b)
    (hdbl : ∀ {a}, ok a → ok (dbl a) ∧ ρ (dbl a) = ρ a + ρ a)
    (fuel k : Nat) (base acc : α) (hb : ok base) (ha : ok acc) (hk : k < 2 ^ fuel) :
    ok (dblAdd add dbl fuel k base acc) ∧ ρ (dblAdd add dbl fuel k base acc) = ρ acc + k • ρ base := by
  induction fuel generalizing k base acc with
  | zero =>
    obtain rfl : k = 0 := by simpa using hk
    exact ⟨ha, by rw [zero_nsmul, add_zero]; rfl⟩
  | succ f ih =>
    rw [dblAdd]
    by_cases h0 : k = 0
    · rw [if_pos h0, h0, zero_nsmul, add_zero]; exact ⟨ha, rfl⟩
    · rw [if_neg h0]
      have hk2 : k / 2 < 2 ^ f := by rw [Nat.pow_succ] at hk; omega
      obtain ⟨hd, ed⟩ := hdbl hb
      have hE : k • ρ base = (k / 2) • (ρ base + ρ base) + (k % 2) • ρ base := by
        rw [← two_nsmul, ← mul_nsmul', ← add_nsmul, Nat.div_add_mod']
      by_cases h1 : k % 2 = 1
      · rw [if_pos h1]
        obtain ⟨hs, es⟩ := hadd ha hb
        obtain ⟨hv, e⟩ := ih (k / 2) _ _ hd hs hk2
        refine ⟨hv, ?_⟩
        rw [e, ed, es, hE, h1, one_nsmul]
        abel
      · rw [if_neg h1]
        obtain ⟨hv, e⟩ := ih (k / 2) _ _ hd ha hk2
        refine ⟨hv, ?_⟩
        rw [e, ed, hE, show k % 2 = 0 by omega, zero_nsmul, add_zero]

/-- the multiplicative reading, through `Additive` -/
theorem dblAdd_spec_mul {α M : Type} [CommMonoid M] {ok : α → Prop} {ρ : α → M} {mul : α → α → α}
    {sq : α → α} (hmul : ∀ {a b}, ok a → ok b → ok (mul a b) ∧ ρ (mul a b) = ρ a * ρ b)
    (hsq : ∀ {a}, ok a → ok (sq a) ∧ ρ (sq a) = ρ a * ρ a)
    (fuel k : Nat) (base acc : α) (hb : ok base) (ha : ok acc) (hk : k < 2 ^ fuel) :
    ok (dblAdd mul sq fuel k base acc) ∧ ρ (dblAdd mul sq fuel k base acc) = ρ acc * ρ base ^ k :=
  dblAdd_spec (M := Additive M) (ρ := fun a => Additive.ofMul (ρ a)) hmul hsq fuel k base acc hb ha hk

theorem powModAux_lt (fuel base e m acc : Nat) (hacc : acc < m) :
    powModAux fuel base e m acc < m := by
  induction fuel generalizing base e acc with
  | zero => exact hacc
  | succ f ih =>
    unfold powModAux
    split
    · exact hacc
    · apply ih
      split
      · exact Nat.mod_lt _ (by omega)
      · exact hacc

theorem powModAux_eq_dblAdd (fuel base e m acc : Nat) :
    powModAux fuel base e m acc = dblAdd (fun a b => a * b % m) (fun b => b * b % m) fuel e base acc := by
  induction fuel generalizing base e acc with
  | zero => rfl
  | succ f ih => rw [powModAux, dblAdd, ih]

theorem powModAux_cast (fuel base e m acc : Nat) (he : e < 2 ^ fuel) :
    ((powModAux fuel base e m acc : Nat) : ZMod m) = (acc : ZMod m) * (base : ZMod m) ^ e := by
  rw [powModAux_eq_dblAdd]
  exact (dblAdd_spec_mul (ok := fun _ => True) (ρ := fun x : Nat => (x : ZMod m))
    (fun _ _ => ⟨trivial, by rw [ZMod.natCast_mod, Nat.cast_mul]⟩)
    (fun _ => ⟨trivial, by rw [ZMod.natCast_mod, Nat.cast_mul]⟩) fuel e base acc trivial trivial he).2

theorem powMod_cast (b e m : Nat) (he : e < 2 ^ 600) :
    ((powMod b e m : Nat) : ZMod m) = (b : ZMod m) ^ e := by
  unfold powMod
  rw [powModAux_cast _ _ _ _ _ he]
  simp

theorem powMod_lt (b e m : Nat) (hm : 1 < m) : powMod b e m < m := by
  unfold powMod
  exact powModAux_lt _ _ _ _ _ (Nat.mod_lt _ (by omega))

/-- the fuel-bounded square-and-multiply computes `b ^ e % m` for every exponent below 2^600 (the spec
    only uses exponents `p - 2`, `n - 2` < 2^256) -/
theorem powMod_eq (b e m : Nat) (hm : 1 < m) (he : e < 2 ^ 600) : powMod b e m = b ^ e % m := by
  have h1 := powMod_cast b e m he
  rw [← Nat.cast_pow, ZMod.natCast_eq_natCast_iff'] at h1
  rw [← h1, Nat.mod_eq_of_lt (powMod_lt b e m hm)]

/-- `invMod x m` is the inverse of `x` in the field `ZMod m` (0 ↦ 0) -/
theorem invMod_eq_inv (x m : Nat) [Fact m.Prime] (h2 : 2 < m) (hm : m < 2 ^ 600) :
    ((invMod x m : Nat) : ZMod m) = (x : ZMod m)⁻¹ := by
  unfold invMod
  rw [powMod_cast _ _ _ (by omega)]
  by_cases hx : (x : ZMod m) = 0
  · rw [hx, inv_zero, zero_pow (by omega)]
  · have h := ZMod.pow_card_sub_one_eq_one hx
    have : m - 1 = (m - 2) + 1 := by omega
    rw [this, pow_succ] at h
    exact eq_inv_of_mul_eq_one_left h

/-- the same on natural numbers -/
theorem invMod_eq (x m : Nat) [Fact m.Prime] (h2 : 2 < m) (hm : m < 2 ^ 600) (hx : x % m ≠ 0) :
    (x * invMod x m) % m = 1 := by
  have hx' : (x : ZMod m) ≠ 0 := by
    rw [Ne, ZMod.natCast_eq_zero_iff]; intro h; exact hx (Nat.mod_eq_zero_of_dvd h)
  have : ((x * invMod x m : Nat) : ZMod m) = ((1 : Nat) : ZMod m) := by
    rw [Nat.cast_mul, invMod_eq_inv x m h2 hm, mul_inv_cancel₀ hx', Nat.cast_one]
  rw [ZMod.natCast_eq_natCast_iff'] at this
  rw [this, Nat.mod_eq_of_lt (by omega)]

open WeierstrassCurve WeierstrassCurve.Affine
open Proofs.ECFormulas (shortCurve shortCurve_isShort IsShort)

instance p_fact : Fact (Nat.Prime p) := ⟨Proofs.SM2Prime.p_prime⟩
instance n_fact : Fact (Nat.Prime n) := ⟨Proofs.SM2Prime.n_prime⟩

abbrev F := ZMod p

theorem p_pos : 0 < p := by decide
theorem p_gt2 : 2 < p := by decide
theorem p_lt256 : p < 2 ^ 256 := by decide
theorem p_lt : p < 2 ^ 600 :=
  Nat.lt_of_lt_of_le p_lt256 (Nat.pow_le_pow_right (by decide) (by decide))

theorem n_pos : 0 < n := by decide
theorem n_gt2 : 2 < n := by decide
theorem n_lt256 : n < 2 ^ 256 := by decide
theorem n_lt : n < 2 ^ 600 :=
  Nat.lt_of_lt_of_le n_lt256 (Nat.pow_le_pow_right (by decide) (by decide))
theorem lt_of_lt_n {k : Nat} (h : k < n) : k < 2 ^ 600 := Nat.lt_trans h n_lt

theorem fsub_lt (x y : Nat) : fsub x y < p := Nat.mod_lt _ p_pos

theorem fsub_eq (x y : Nat) : ((fsub x y : Nat) : F) = (x : F) - (y : F) := by
  unfold fsub
  have h : y % p ≤ x + p := by have := Nat.mod_lt y p_pos; omega
  rw [ZMod.natCast_mod, Nat.cast_sub h, Nat.cast_add, ZMod.natCast_self, ZMod.natCast_mod]
  ring

/-- the curve y² = x³ + a x + b over `ZMod p` as a Mathlib Weierstrass curve (`ECFormulas.shortCurve`) -/
def W : WeierstrassCurve.Affine F := shortCurve (a : F) (b : F)

theorem W_short : IsShort W (a : F) (b : F) := shortCurve_isShort _ _

/-- the discriminant −16(4a³ + 27b²) is non-zero mod p, so every point of the curve is nonsingular -/
theorem W_disc : W.Δ ≠ 0 := by
  have : W.Δ = -((64 * a ^ 3 + 432 * b ^ 2 : Nat) : F) := by
    simp only [WeierstrassCurve.Δ, WeierstrassCurve.b₂, WeierstrassCurve.b₄, WeierstrassCurve.b₆, WeierstrassCurve.b₈, W, shortCurve]
    push_cast
    ring
  rw [this, neg_ne_zero, Ne, ZMod.natCast_eq_zero_iff]
  decide +kernel

theorem two_ne_zero_F : (2 : F) ≠ 0 := by
  have : ((2 : Nat) : F) ≠ 0 := by
    rw [Ne, ZMod.natCast_eq_zero_iff]; decide +kernel
  simpa using this

theorem cast_inj {x y : Nat} (hx : x < p) (hy : y < p) (h : (x : F) = (y : F)) : x = y := by
  rw [ZMod.natCast_eq_natCast_iff', Nat.mod_eq_of_lt hx, Nat.mod_eq_of_lt hy] at h
  exact h

theorem onCurve_iff (x y : Nat) : onCurve x y = true ↔ W.Equation (x : F) (y : F) := by
  rw [ECFormulas.equation_iff_onCurve W_short, ECFormulas.OnCurve]
  unfold onCurve
  rw [beq_iff_eq, ← ZMod.natCast_eq_natCast_iff']
  push_cast
  constructor <;> intro h <;> linear_combination h

theorem nonsingular_of_onCurve {x y : Nat} (h : onCurve x y = true) : W.Nonsingular (x : F) (y : F) :=
  (equation_iff_nonsingular_of_Δ_ne_zero W_disc).mp ((onCurve_iff x y).mp h)


/-- validity of a spec point: infinity, or reduced coordinates satisfying the curve equation -/
def Valid : Pt → Prop
  | none => True
  | some (x, y) => x < p ∧ y < p ∧ onCurve x y = true

instance : DecidablePred Valid := fun P =>
  match P with
  | none => isTrue trivial
  | some (x, y) => inferInstanceAs (Decidable (x < p ∧ y < p ∧ onCurve x y = true))

theorem valid_none : Valid none := trivial

theorem valid_G : Valid G := by
  show gx < p ∧ gy < p ∧ onCurve gx gy = true
  decide +kernel

/-- embedding of valid spec points into Mathlib's group of nonsingular points -/
def toPoint : (P : Pt) → Valid P → W.Point
  | none, _ => 0
  | some (x, y), h => Point.some (x : F) (y : F) (nonsingular_of_onCurve h.2.2)

@[simp] theorem toPoint_none (h : Valid none) : toPoint none h = 0 := rfl

theorem toPoint_some (x y : Nat) (h : Valid (some (x, y))) :
    toPoint (some (x, y)) h = Point.some (x : F) (y : F) (nonsingular_of_onCurve h.2.2) := rfl

theorem toPoint_congr {P Q : Pt} (e : P = Q) (hP : Valid P) (hQ : Valid Q) :
    toPoint P hP = toPoint Q hQ := by subst e; rfl

theorem toPoint_inj {P Q : Pt} (hP : Valid P) (hQ : Valid Q) (h : toPoint P hP = toPoint Q hQ) :
    P = Q := by
  match P, Q, hP, hQ, h with
  | none, none, _, _, _ => rfl
  | none, some (x, y), _, hQ, h =>
    rw [toPoint_none, toPoint_some] at h
    exact absurd h.symm (Point.some_ne_zero _)
  | some (x, y), none, hP, _, h =>
    rw [toPoint_none, toPoint_some] at h
    exact absurd h (Point.some_ne_zero _)
  | some (x1, y1), some (x2, y2), hP, hQ, h =>
    rw [toPoint_some, toPoint_some, Point.some.injEq] at h
    rw [cast_inj hP.1 hQ.1 h.1, cast_inj hP.2.1 hQ.2.1 h.2]

theorem some_valid_eq {x3 y3 : Nat} (hx : x3 < p) (hy : y3 < p) {X Y : F} (hN : W.Nonsingular X Y)
    (ex : (x3 : F) = X) (ey : (y3 : F) = Y) :
    ∃ hv : Valid (some (x3, y3)), toPoint (some (x3, y3)) hv = Point.some X Y hN := by
  subst ex; subst ey
  exact ⟨⟨hx, hy, (onCurve_iff x3 y3).mpr hN.1⟩, rfl⟩

theorem padd_none_left (Q : Pt) : padd none Q = Q := by
  cases Q <;> rfl

theorem padd_none_right (P : Pt) : padd P none = P := by
  match P with
  | none => rfl
  | some (_, _) => rfl

theorem padd_some_some (x1 y1 x2 y2 : Nat) :
    padd (some (x1, y1)) (some (x2, y2)) =
      if x1 = x2 then
        if (y1 + y2) % p = 0 then none
        else
          some (fsub ((3 * x1 * x1 + a) % p * invMod (2 * y1 % p) p % p * ((3 * x1 * x1 + a) % p * invMod (2 * y1 % p) p % p) % p) ((x1 + x2) % p),
            fsub ((3 * x1 * x1 + a) % p * invMod (2 * y1 % p) p % p *
              fsub x1 (fsub ((3 * x1 * x1 + a) % p * invMod (2 * y1 % p) p % p * ((3 * x1 * x1 + a) % p * invMod (2 * y1 % p) p % p) % p) ((x1 + x2) % p)) % p) y1)
      else
        some (fsub (fsub y2 y1 * invMod (fsub x2 x1) p % p * (fsub y2 y1 * invMod (fsub x2 x1) p % p) % p) ((x1 + x2) % p),
          fsub (fsub y2 y1 * invMod (fsub x2 x1) p % p *
            fsub x1 (fsub (fsub y2 y1 * invMod (fsub x2 x1) p % p * (fsub y2 y1 * invMod (fsub x2 x1) p % p) % p) ((x1 + x2) % p)) % p) y1) := rfl

theorem padd_spec {P Q : Pt} (hP : Valid P) (hQ : Valid Q) :
    ∃ hv : Valid (padd P Q), toPoint (padd P Q) hv = toPoint P hP + toPoint Q hQ := by
  match P, Q, hP, hQ with
  | none, Q, _, hQ =>
    refine ⟨by rw [padd_none_left]; exact hQ, ?_⟩
    rw [toPoint_none, zero_add]
    exact toPoint_congr (padd_none_left _) _ _
  | some (x1, y1), none, hP, _ => exact ⟨hP, by rw [toPoint_none, add_zero]; rfl⟩
  | some (x1, y1), some (x2, y2), hP, hQ =>
    have h1 := nonsingular_of_onCurve hP.2.2
    have h2 := nonsingular_of_onCurve hQ.2.2
    rw [toPoint_some, toPoint_some]
    rw [padd_some_some]
    by_cases hx : x1 = x2
    · rw [if_pos hx]
      subst hx
      by_cases hy : (y1 + y2) % p = 0
      · rw [if_pos hy]
        refine ⟨valid_none, ?_⟩
        rw [toPoint_none]
        symm
        apply Point.add_of_Y_eq rfl
        rw [ECFormulas.negY_eq W_short]
        have : ((y1 + y2 : Nat) : F) = 0 := by
          rw [ZMod.natCast_eq_zero_iff]; exact Nat.dvd_of_mod_eq_zero hy
        push_cast at this
        linear_combination this
      · rw [if_neg hy]
        have hne : (y1 : F) ≠ W.negY (x1 : F) (y2 : F) := by
          rw [ECFormulas.negY_eq W_short]
          intro h
          apply hy
          have : ((y1 + y2 : Nat) : F) = 0 := by push_cast; linear_combination h
          rw [ZMod.natCast_eq_zero_iff] at this
          exact Nat.mod_eq_zero_of_dvd this
        have hyy : y1 = y2 := by
          rcases Y_eq_of_X_eq h1.1 h2.1 rfl with h | h
          · exact cast_inj hP.2.1 hQ.2.1 h
          · exact absurd h hne
        subst hyy
        have hy0 : (y1 : F) ≠ 0 := by
          intro h; apply hne; rw [ECFormulas.negY_eq W_short, h, neg_zero]
        obtain ⟨h', e'⟩ := ECFormulas.affDouble_point W_short two_ne_zero_F hy0 h1
        rw [e']
        apply some_valid_eq (fsub_lt _ _) (fsub_lt _ _)
        · simp only [ECFormulas.affDouble, fsub_eq, ZMod.natCast_mod, Nat.cast_mul, Nat.cast_add,
            invMod_eq_inv _ p p_gt2 p_lt, Nat.cast_ofNat]
          ring
        · simp only [ECFormulas.affDouble, fsub_eq, ZMod.natCast_mod, Nat.cast_mul, Nat.cast_add,
            invMod_eq_inv _ p p_gt2 p_lt, Nat.cast_ofNat]
          ring
    · rw [if_neg hx]
      have hx' : (x1 : F) ≠ (x2 : F) := fun h => hx (cast_inj hP.1 hQ.1 h)
      obtain ⟨h', e'⟩ := ECFormulas.affAdd_point W_short hx' h1 h2
      rw [e']
      apply some_valid_eq (fsub_lt _ _) (fsub_lt _ _)
      · simp only [ECFormulas.affAdd, fsub_eq, ZMod.natCast_mod, Nat.cast_mul, Nat.cast_add,
          invMod_eq_inv _ p p_gt2 p_lt]
        ring
      · simp only [ECFormulas.affAdd, fsub_eq, ZMod.natCast_mod, Nat.cast_mul, Nat.cast_add,
          invMod_eq_inv _ p p_gt2 p_lt]
        ring

theorem padd_valid {P Q : Pt} (hP : Valid P) (hQ : Valid Q) : Valid (padd P Q) :=
  (padd_spec hP hQ).1

theorem padd_eq {P Q : Pt} (hP : Valid P) (hQ : Valid Q) :
    toPoint (padd P Q) (padd_valid hP hQ) = toPoint P hP + toPoint Q hQ :=
  (padd_spec hP hQ).2

/-- `toPoint` without the proof argument: points that are not `Valid` are sent to 0 -/
def pt (P : Pt) : W.Point := if h : Valid P then toPoint P h else 0

theorem pt_eq {P : Pt} (h : Valid P) : pt P = toPoint P h := dif_pos h

@[simp] theorem pt_none : pt none = 0 := rfl

theorem pt_padd {P Q : Pt} (hP : Valid P) (hQ : Valid Q) : pt (padd P Q) = pt P + pt Q := by
  rw [pt_eq (padd_valid hP hQ), pt_eq hP, pt_eq hQ, padd_eq hP hQ]

theorem smulAux_zero (k : Nat) (base acc : Pt) : smulAux 0 k base acc = acc := rfl

theorem smulAux_succ (f k : Nat) (base acc : Pt) :
    smulAux (f + 1) k base acc =
      if k = 0 then acc
      else smulAux f (k / 2) (padd base base) (if k % 2 = 1 then padd acc base else acc) := rfl

theorem smulAux_eq_dblAdd (fuel k : Nat) (base acc : Pt) :
    smulAux fuel k base acc = dblAdd padd (fun B => padd B B) fuel k base acc := by
  induction fuel generalizing k base acc with
  | zero => rfl
  | succ f ih => rw [smulAux_succ, dblAdd, ih]

theorem smul_spec {k : Nat} {P : Pt} (hP : Valid P) (hk : k < 2 ^ 600) :
    Valid (smul k P) ∧ pt (smul k P) = k • pt P := by
  have h := dblAdd_spec (ok := Valid) (ρ := pt) (fun ha hb => ⟨padd_valid ha hb, pt_padd ha hb⟩)
    (fun ha => ⟨padd_valid ha ha, pt_padd ha ha⟩) 600 k P none hP valid_none hk
  rw [← smulAux_eq_dblAdd, pt_none, zero_add] at h
  exact h

theorem smul_valid {k : Nat} {P : Pt} (hP : Valid P) (hk : k < 2 ^ 600) : Valid (smul k P) :=
  (smul_spec hP hk).1

theorem pt_smul {k : Nat} {P : Pt} (hP : Valid P) (hk : k < 2 ^ 600) : pt (smul k P) = k • pt P :=
  (smul_spec hP hk).2

theorem smul_eq {k : Nat} {P : Pt} (hP : Valid P) (hk : k < 2 ^ 600) :
    toPoint (smul k P) (smul_valid hP hk) = k • toPoint P hP := by
  rw [← pt_eq, ← pt_eq]; exact pt_smul hP hk

theorem pt_inj {P Q : Pt} (hP : Valid P) (hQ : Valid Q) (h : pt P = pt Q) : P = Q := by
  rw [pt_eq hP, pt_eq hQ] at h
  exact toPoint_inj hP hQ h

theorem pt_eq_zero_iff {P : Pt} (hP : Valid P) : pt P = 0 ↔ P = none :=
  ⟨fun h => pt_inj hP valid_none (h.trans pt_none.symm), fun h => by rw [h, pt_none]⟩

theorem pt_some_ne_zero {x y : Nat} (h : Valid (some (x, y))) : pt (some (x, y)) ≠ 0 :=
  fun h0 => nomatch (pt_eq_zero_iff h).mp h0

theorem smul_eq_none_of {P : Pt} (hP : Valid P) {k : Nat} (hk : k < 2 ^ 600) (h : k • pt P = 0) :
    smul k P = none :=
  (pt_eq_zero_iff (smul_valid hP hk)).mp ((pt_smul hP hk).trans h)

theorem pneg_spec {P : Pt} (hP : Valid P) : Valid (pneg P) ∧ pt (pneg P) = - pt P := by
  match P, hP with
  | none, _ => exact ⟨valid_none, by simp [pneg]⟩
  | some (x, y), hP =>
    have h1 := nonsingular_of_onCurve hP.2.2
    have hN : W.Nonsingular (x : F) (W.negY (x : F) (y : F)) := (nonsingular_neg _ _).mpr h1
    have hy : (((p - y) % p : Nat) : F) = W.negY (x : F) (y : F) := by
      rw [ECFormulas.negY_eq W_short, ZMod.natCast_mod, Nat.cast_sub (Nat.le_of_lt hP.2.1),
        ZMod.natCast_self, zero_sub]
    obtain ⟨hv, e⟩ := some_valid_eq hP.1 (Nat.mod_lt _ p_pos) hN rfl hy
    refine ⟨hv, ?_⟩
    rw [show pneg (some (x, y)) = some (x, (p - y) % p) from rfl, pt_eq hv, e, pt_eq hP,
      toPoint_some, Point.neg_some]

end Proofs.SM2Affine
