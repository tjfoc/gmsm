/-
Schedules over a transition system: `step s t` is the one atomic action of goroutine `t` in state `s`, or `none`
when `t` cannot move (blocked, finished, no such goroutine).  `next` gives `t` its turn, `run` folds a schedule;
`Model.ConnInterlock.next/run` and `Model.ConnReneg.next/run` unfold to these.  What is proved once here: a
property kept by every action holds along every schedule, a property lost along a schedule is lost at one of its
turns, and a measure that every action decreases bounds the number of rounds a fair schedule needs to finish every
goroutine.
Core Lean only.
-/
namespace Proofs.Sched

variable {S : Type} (step : S → Nat → Option S)

def next (s : S) (t : Nat) : S := (step s t).getD s
def run (s : S) (sched : List Nat) : S := sched.foldl (next step) s

variable {step}

theorem next_of_none {s : S} {t : Nat} (h : step s t = none) : next step s t = s := by simp [next, h]
theorem next_of_some {s s' : S} {t : Nat} (h : step s t = some s') : next step s t = s' := by simp [next, h]
theorem run_cons (s : S) (t : Nat) (ts : List Nat) : run step s (t :: ts) = run step (next step s t) ts := rfl
theorem run_append (s : S) (a b : List Nat) : run step s (a ++ b) = run step (run step s a) b :=
  List.foldl_append ..

theorem run_preserves {P : S → Prop} (hP : ∀ {s t s'}, P s → step s t = some s' → P s') {s : S} (h : P s)
    (sched : List Nat) : P (run step s sched) := by
  induction sched generalizing s with
  | nil => exact h
  | cons t ts ih =>
    apply ih
    cases hs : step s t with
    | none => rwa [next_of_none hs]
    | some s' => rw [next_of_some hs]; exact hP h hs

theorem exists_exit {P : S → Prop} {s : S} (h : P s) (sched : List Nat) (hn : ¬ P (run step s sched)) :
    ∃ pre t post, sched = pre ++ t :: post ∧ P (run step s pre) ∧ ¬ P (next step (run step s pre) t) := by
  induction sched generalizing s with
  | nil => exact absurd h hn
  | cons t ts ih =>
    by_cases h1 : P (next step s t)
    · obtain ⟨pre, u, post, rfl, h2, h3⟩ := ih h1 hn
      exact ⟨t :: pre, u, post, rfl, h2, h3⟩
    · exact ⟨[], t, ts, rfl, h, h1⟩

section measure
variable {I : S → Prop} {mu : S → Nat} (hI : ∀ {s t s'}, I s → step s t = some s' → I s')
  (hmu : ∀ {s t s'}, I s → step s t = some s' → mu s' < mu s)
include hI hmu

theorem mu_run_le {s : S} (h : I s) (l : List Nat) : mu (run step s l) ≤ mu s :=
  (run_preserves (P := fun s' => I s' ∧ mu s' ≤ mu s)
    (fun h hs => ⟨hI h.1 hs, Nat.le_trans (Nat.le_of_lt (hmu h.1 hs)) h.2⟩) ⟨h, Nat.le_refl _⟩ l).2

theorem round_progress {s : S} (h : I s) (r : List Nat) {t : Nat} (ht : t ∈ r) (hen : (step s t).isSome = true) :
    mu (run step s r) < mu s := by
  induction r generalizing s with
  | nil => simp at ht
  | cons u us ih =>
    rw [run_cons]
    cases hs : step s u with
    | some s' => rw [next_of_some hs]; exact Nat.lt_of_le_of_lt (mu_run_le hI hmu (hI h hs) us) (hmu h hs)
    | none =>
      rw [next_of_none hs]
      rcases List.mem_cons.1 ht with rfl | ht
      · rw [hs] at hen; simp at hen
      · exact ih h ht hen

/-- fair termination: if in every state that is not `done` one of the goroutines `0..n-1` can move, a schedule
    made of rounds, each of which gives every one of them a turn, is `done` within `mu s` rounds -/
theorem fair_termination {done : S → Bool} {n : Nat}
    (hen : ∀ {s}, I s → done s = false → ∃ t, t < n ∧ (step s t).isSome = true)
    (hdone : ∀ {s} t, done s = true → step s t = none) {s : S} (h : I s) (rounds : List (List Nat))
    (hfair : ∀ r ∈ rounds, ∀ t, t < n → t ∈ r) (hlen : mu s ≤ rounds.length) :
    done (run step s rounds.flatten) = true := by
  induction rounds generalizing s with
  | nil =>
    cases hd : done s with
    | true => exact hd
    | false =>
      obtain ⟨t, -, ht⟩ := hen h hd
      obtain ⟨s', hs⟩ := Option.isSome_iff_exists.1 ht
      have := hmu h hs
      simp at hlen; omega
  | cons r rs ih =>
    rw [List.flatten_cons, run_append]
    cases hd : done s with
    | true =>
      have stay : ∀ l, run step s l = s := fun l =>
        run_preserves (P := (· = s)) (fun h hs => by subst h; rw [hdone _ hd] at hs; cases hs) rfl l
      rw [stay, stay]; exact hd
    | false =>
      obtain ⟨t, htn, ht⟩ := hen h hd
      have : mu (run step s r) < mu s := round_progress hI hmu h r (hfair r (by simp) t htn) ht
      exact ih (run_preserves hI h r) (fun r' hr' => hfair r' (by simp [hr']))
        (by simp only [List.length_cons] at hlen; omega)

end measure
end Proofs.Sched
